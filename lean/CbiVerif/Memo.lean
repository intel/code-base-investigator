/-! Prototype: include-resolution memo is transparent (C04.memo_transparent / C18). -/
namespace CbiVerif.Memo

structure Query where
  name : String
  dir : String      -- directory of the includer
  sys : Bool        -- <> form
deriving DecidableEq

/-- abstract file system + include paths: the memo-free resolver of the spec -/
structure Ctx where
  isfile : String → Bool
  paths : List String
  join : String → String → String

def Ctx.resolve (c : Ctx) (q : Query) : Option String :=
  ((if q.sys then [] else [q.dir]) ++ c.paths).map (c.join · q.name) |>.find? c.isfile

/-- the memo as the *fixed* code keeps it: keyed by the whole query -/
abbrev Memo := List (Query × Option String)

def lookup (m : Memo) (q : Query) : Option (Option String) := (m.find? (·.1 == q)).map (·.2)

/-- `Platform.find_include_file` with a memo keyed by the whole query -/
def find (c : Ctx) (m : Memo) (q : Query) : Option String × Memo :=
  match lookup m q with
  | some r => (r, m)
  | none => let r := c.resolve q; (r, (q, r) :: m)

def Sound (c : Ctx) (m : Memo) : Prop := ∀ q r, lookup m q = some r → r = c.resolve q

theorem lookup_cons (m : Memo) (q q' : Query) (r : Option String) :
    lookup ((q, r) :: m) q' = if q = q' then some r else lookup m q' := by
  by_cases e : q = q' <;> simp [lookup, e]

theorem find_spec (c : Ctx) (m : Memo) (q : Query) (h : Sound c m) :
    (find c m q).1 = c.resolve q ∧ Sound c (find c m q).2 := by
  unfold find
  cases hl : lookup m q with
  | some r => exact ⟨h q r hl, h⟩
  | none =>
    refine ⟨rfl, fun q' r' hq => ?_⟩
    rw [lookup_cons] at hq
    split at hq
    · subst q'; exact (Option.some.inj hq).symm
    · exact h q' r' hq

def run (c : Ctx) : Memo → List Query → List (Option String)
  | _, [] => []
  | m, q :: qs => let (r, m') := find c m q; r :: run c m' qs

/-- every history of look-ups: the memoised resolver answers exactly like the memo-free one -/
theorem memo_transparent (c : Ctx) (m : Memo) (h : Sound c m) (qs : List Query) :
    run c m qs = qs.map c.resolve := by
  induction qs generalizing m with
  | nil => rfl
  | cons q qs ih =>
    obtain ⟨h1, h2⟩ := find_spec c m q h
    show (find c m q).1 :: run c (find c m q).2 qs = c.resolve q :: qs.map c.resolve
    rw [h1, ih _ h2]

/-- the pinned code keys the memo by spelling only: a two-query counter-example -/
def findBySpelling (c : Ctx) (m : List (String × Option String)) (q : Query) :=
  match (m.find? (·.1 == q.name)).map (·.2) with
  | some r => (r, m)
  | none => let r := c.resolve q; (r, (q.name, r) :: m)

def ctxEx : Ctx := { isfile := fun p => p == "b/x.h" || p == "a/x.h", paths := [], join := fun d n => d ++ "/" ++ n }

example :
    let q1 : Query := ⟨"x.h", "a", false⟩
    let q2 : Query := ⟨"x.h", "b", false⟩
    let (_, m1) := findBySpelling ctxEx [] q1
    (findBySpelling ctxEx m1 q2).1 ≠ ctxEx.resolve q2 := by decide

end CbiVerif.Memo
