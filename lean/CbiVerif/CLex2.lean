/-! # Prototype of C05 on lexical classes only

A small self-contained model of `c_cleaner` and of the `for` loop of `c_file_source` (no characters: a buffer is the
list of "is this part a blank"), a reference scanner for translation phase 3 that works physical line by physical
line (`rline`, `refCounted`; `none` = ill-formed or in a recorded finding class), and the proof that both count the
same physical lines (`counted_eq_ref`): one finite table per character (`stepOK_all`) and per newline
(`newlineOK_all`), lifted by induction to lines (`chars_sim`, `line_sim`) and texts.  `Props/C05.lean` proves the
property itself, about `Model/CClean.lean` and `Spec/CLexRef.lean`, along the same lines. -/
namespace CbiVerif.CLex2

inductive Cls | slash | star | dq | sq | bslash | hash | ws | other
deriving DecidableEq, Repr

inductive Mode | top | dir | dq | sq | esc | slash | lineC | blockC | blockStar
deriving DecidableEq, Repr

inductive Emit | sp | ns (c : Cls)
deriving DecidableEq, Repr

abbrev Stack := List Mode   -- head = state[-1]

/-- one dispatch of `c_cleaner.process`; third component = `putback(char)` -/
def step1 (st : Stack) (blank : Bool) (c : Cls) : Stack × List Emit × Bool :=
  match st with
  | [] => ([], [], false)
  | .top :: r =>
    match c with
    | .bslash => (.esc :: .top :: r, [.ns c], false)
    | .slash => (.slash :: .top :: r, [], false)
    | .dq => (.dq :: .top :: r, [.ns c], false)
    | .sq => (.sq :: .top :: r, [.ns c], false)
    | .hash => if blank then (.dir :: .top :: r, [.ns c], false) else (.top :: r, [.ns c], false)
    | .ws => (.top :: r, [.sp], false)
    | _ => (.top :: r, [.ns c], false)
  | .dir :: r =>
    match c with
    | .bslash => (.esc :: .dir :: r, [.ns c], false)
    | .slash => (.slash :: .dir :: r, [], false)
    | .dq => (.dq :: .dir :: r, [.ns c], false)
    | .sq => (.sq :: .dir :: r, [.ns c], false)
    | .ws => (.dir :: r, [.sp], false)
    | _ => (.dir :: r, [.ns c], false)
  | .dq :: r =>
    match c with
    | .bslash => (.esc :: .dq :: r, [.ns c], false)
    | .dq => (r, [.ns c], false)
    | _ => (.dq :: r, [.ns c], false)
  | .sq :: r =>
    match c with
    | .bslash => (.esc :: .sq :: r, [.ns c], false)
    | .slash => (.slash :: .sq :: r, [], false)
    | .sq => (r, [.ns c], false)
    | _ => (.sq :: r, [.ns c], false)
  | .slash :: r =>
    match c with
    | .slash => (.lineC :: r, [], false)
    | .star => (.blockC :: r, [], false)
    | _ => (r, [.ns .slash], true)
  | .blockC :: r =>
    match c with
    | .star => (.blockStar :: .blockC :: r, [], false)
    | _ => (.blockC :: r, [], false)
  | .blockStar :: r =>
    match c with
    | .slash => (r.tail, [.sp], false)
    | .star => (.blockStar :: r, [], false)
    | _ => (r, [], false)
  | .esc :: r => (r, [.ns c], false)
  | .lineC :: r => (.lineC :: r, [], false)

def step (st : Stack) (blank : Bool) (c : Cls) : Stack × List Emit :=
  match step1 st blank c with
  | (st1, e1, true) => match step1 st1 false c with | (st2, e2, _) => (st2, e1 ++ e2)
  | (st1, e1, false) => (st1, e1)

def logicalNewline (st : Stack) : Stack × List Emit :=
  match st with
  | .lineC :: _ => ([.top], [.sp])
  | .slash :: _ => ([.top], [.ns .slash])
  | .sq :: _ => ([.top], [])
  | .dq :: _ => ([.top], [])
  | .blockStar :: r => (r, [])
  | .dir :: _ => ([.top], [])
  | st => (st, [])

def Emit.visible : Emit → Bool | .ns .ws => false | .ns _ => true | .sp => false
def Emit.litWs : Emit → Bool | .ns .ws => true | _ => false

/-! ## Reference scanner (translation phase 3 on the spliced stream), with well-formedness -/

inductive WMode | code | slash | dq | dqEsc | sq0 | sq1 | sqEsc | lineC | blockC | blockStar
deriving DecidableEq, Repr

structure ROut where
  mode : WMode
  pend : Bool    -- a previously seen '/' turns out to be code (visible)
  now : Bool     -- this character survives and is visible
  lit : Bool     -- this character is white space inside a literal

/-- `none` = ill-formed (stray backslash, bad character constant) -/
def rstep (m : WMode) (c : Cls) : Option ROut :=
  match m with
  | .code =>
    match c with
    | .bslash => none
    | .slash => some ⟨.slash, false, false, false⟩
    | .dq => some ⟨.dq, false, true, false⟩
    | .sq => some ⟨.sq0, false, true, false⟩
    | .ws => some ⟨.code, false, false, false⟩
    | _ => some ⟨.code, false, true, false⟩
  | .slash =>
    match c with
    | .bslash => none
    | .slash => some ⟨.lineC, false, false, false⟩
    | .star => some ⟨.blockC, false, false, false⟩
    | .dq => some ⟨.dq, true, true, false⟩
    | .sq => some ⟨.sq0, true, true, false⟩
    | .ws => some ⟨.code, true, false, false⟩
    | _ => some ⟨.code, true, true, false⟩
  | .dq =>
    match c with
    | .bslash => some ⟨.dqEsc, false, true, false⟩
    | .dq => some ⟨.code, false, true, false⟩
    | .ws => some ⟨.dq, false, false, true⟩
    | _ => some ⟨.dq, false, true, false⟩
  | .dqEsc => some ⟨.dq, false, c != .ws, c == .ws⟩
  | .sq0 =>
    match c with
    | .bslash => some ⟨.sqEsc, false, true, false⟩
    | .sq => none
    | .ws => some ⟨.sq1, false, false, true⟩
    | _ => some ⟨.sq1, false, true, false⟩
  | .sqEsc => some ⟨.sq1, false, c != .ws, c == .ws⟩
  | .sq1 =>
    match c with
    | .sq => some ⟨.code, false, true, false⟩
    | _ => none
  | .lineC => some ⟨.lineC, false, false, false⟩
  | .blockC => some ⟨if c == .star then .blockStar else .blockC, false, false, false⟩
  | .blockStar => some ⟨if c == .slash then .code else if c == .star then .blockStar else .blockC, false, false, false⟩

/-! ## Simulation relation -/

/-- the cleaner stack that corresponds to reference mode `w` over base `[.top]` / `[.dir, .top]`;
    `hold` = the cleaner holds back a '/' inside a character constant -/
def absStack (dirBase : Bool) (w : WMode) (hold : Bool) : Stack :=
  let b : Stack := if dirBase then [.dir, .top] else [.top]
  match w with
  | .code => b
  | .slash => .slash :: b
  | .dq => .dq :: b
  | .dqEsc => .esc :: .dq :: b
  | .sq0 => .sq :: b
  | .sq1 => if hold then .slash :: .sq :: b else .sq :: b
  | .sqEsc => .esc :: .sq :: b
  | .lineC => .lineC :: b
  | .blockC => .blockC :: b
  | .blockStar => .blockStar :: .blockC :: b

def okHold (w : WMode) (hold : Bool) : Bool := !hold || w == .sq1

def anyVisible (es : List Emit) : Bool := es.any Emit.visible
def anyLitWs (es : List Emit) : Bool := es.any Emit.litWs

/-- the per-character obligation as a decidable check -/
def stepOK (d : Bool) (w : WMode) (hold : Bool) (blank : Bool) (c : Cls) : Bool :=
  !okHold w hold ||
  match rstep w c with
  | none => true
  | some o =>
    let r := step (absStack d w hold) blank c
    [(false, false), (false, true), (true, false), (true, true)].any fun (d', hold') =>
      r.1 == absStack d' o.mode hold' && okHold o.mode hold' &&
      ((anyVisible r.2 || hold') == (o.pend || o.now || hold)) &&
      (anyLitWs r.2 == o.lit) && (!hold' || c == .slash)

def allW : List WMode := [.code, .slash, .dq, .dqEsc, .sq0, .sq1, .sqEsc, .lineC, .blockC, .blockStar]
def allC : List Cls := [.slash, .star, .dq, .sq, .bslash, .hash, .ws, .other]
def allB : List Bool := [false, true]

theorem stepOK_all : (allB.all fun d => allW.all fun w => allB.all fun h => allB.all fun bl => allC.all fun c =>
    stepOK d w h bl c) = true := by decide +kernel

theorem mem_allB (b : Bool) : b ∈ allB := by cases b <;> decide
theorem mem_allW (w : WMode) : w ∈ allW := by cases w <;> decide
theorem mem_allC (c : Cls) : c ∈ allC := by cases c <;> decide

theorem stepOK_each (d : Bool) (w : WMode) (hold : Bool) (blank : Bool) (c : Cls) : stepOK d w hold blank c = true := by
  have h := stepOK_all
  simp only [List.all_eq_true] at h
  exact h d (mem_allB d) w (mem_allW w) hold (mem_allB hold) blank (mem_allB blank) c (mem_allC c)

/-! ## Buffers and whole lines -/

structure Buf where
  parts : List Bool := []      -- for each part: is it the string " "?
  trailing : Bool := false

def Buf.add (b : Buf) : Emit → Buf
  | .sp => if b.trailing then b else { parts := b.parts ++ [true], trailing := true }
  | .ns c => { parts := b.parts ++ [c == .ws], trailing := false }
def Buf.addAll (b : Buf) (es : List Emit) : Buf := es.foldl Buf.add b
def Buf.blank (b : Buf) : Bool := b.parts == [] || b.parts == [true]

def procChars : Stack → Buf → List Cls → Stack × Buf
  | st, b, [] => (st, b)
  | st, b, c :: cs => procChars (step st b.blank c).1 (b.addAll (step st b.blank c).2) cs

structure PLine where
  chars : List Cls
  continued : Bool

/-- one iteration of the `for` loop of `c_file_source` -/
def procLine (st : Stack) (l : PLine) : Stack × Bool :=
  let r := procChars st {} l.chars
  if !l.continued && r.1.head? != some .blockC then
    ((logicalNewline r.1).1, !(r.2.addAll (logicalNewline r.1).2).blank)
  else (r.1, !r.2.blank)

def cbiCounted : Stack → List PLine → List Bool
  | _, [] => []
  | st, l :: ls => (procLine st l).2 :: cbiCounted (procLine st l).1 ls

/-! reference, line by line -/
structure RAcc where
  mode : WMode
  vis : Bool      -- a visible character of this line survives
  lit : Bool      -- white space inside a literal occurs on this line

def rchars : RAcc → List Cls → Option RAcc
  | a, [] => some a
  | a, c :: cs =>
    match rstep a.mode c with
    | none => none
    | some o => rchars ⟨o.mode, a.vis || o.pend || o.now, a.lit || o.lit⟩ cs

/-- reference at an unspliced newline: new mode, and whether a pending '/' survives -/
def rnewline : WMode → Option (WMode × Bool)
  | .code => some (.code, false)
  | .slash => some (.code, true)
  | .lineC => some (.code, false)
  | .blockC => some (.blockC, false)
  | .blockStar => some (.blockC, false)
  | _ => none     -- unterminated literal

/-- `none`: ill-formed or in a recorded finding class (K1: pending '/' carried over a splice;
    K2: white space inside a literal on a line with nothing visible) -/
def rline (m : WMode) (l : PLine) : Option (WMode × Bool) :=
  match rchars ⟨m, false, false⟩ l.chars with
  | none => none
  | some a =>
    if l.continued then
      if a.mode == .slash then none                                   -- K1
      else if a.mode == .sq1 && l.chars.getLast? == some .slash then none   -- K1 inside '…'
      else if a.lit && !a.vis then none                               -- K2
      else some (a.mode, a.vis)
    else
      match rnewline a.mode with
      | none => none
      | some (m', p) => if a.lit && !(a.vis || p) then none else some (m', a.vis || p)

def refCounted : WMode → List PLine → Option (List Bool)
  | m, [] => if m == .code then some [] else none
  | m, l :: ls =>
    match rline m l with
    | none => none
    | some (m', b) => match refCounted m' ls with | none => none | some bs => some (b :: bs)

def Buf.hasVis (b : Buf) : Bool := b.parts.any (fun x => !x)
def Buf.OnlySp (b : Buf) : Prop := (b.parts = [] ∧ b.trailing = false) ∨ (b.parts = [true] ∧ b.trailing = true)

theorem vis_ns (c : Cls) : (Emit.ns c).visible = !(c == .ws) := by cases c <;> rfl
theorem lit_ns (c : Cls) : (Emit.ns c).litWs = (c == .ws) := by cases c <;> rfl

theorem hasVis_add (b : Buf) (e : Emit) : (b.add e).hasVis = (b.hasVis || e.visible) := by
  cases e with
  | sp => simp only [Buf.add, Emit.visible, Bool.or_false]; split <;> simp [Buf.hasVis]
  | ns c => simp [Buf.add, Buf.hasVis, vis_ns]

theorem onlySp_add (b : Buf) (e : Emit) (h : b.OnlySp) (hv : e.visible = false) (hl : e.litWs = false) :
    (b.add e).OnlySp := by
  cases e with
  | sp =>
    rcases h with ⟨hp, ht⟩ | ⟨hp, ht⟩ <;> exact .inr (by simp [Buf.add, hp, ht])
  | ns c =>
    rw [vis_ns] at hv; rw [lit_ns] at hl
    simp [hl] at hv

theorem blank_of_onlySp (b : Buf) (h : b.OnlySp) : b.blank = true := by
  rcases h with ⟨hp, _⟩ | ⟨hp, _⟩ <;> simp [Buf.blank, hp]

theorem blank_of_hasVis (b : Buf) (h : b.hasVis = true) : b.blank = false := by
  unfold Buf.blank Buf.hasVis at *
  cases hp : b.parts with
  | nil => simp [hp] at h
  | cons x xs =>
    cases xs with
    | nil => cases x <;> simp_all
    | cons y ys => simp

/-- buffer invariant on a physical line: `v`/`l` = some visible / literal-white-space emission so far -/
structure BInv (b : Buf) (v l : Bool) : Prop where
  vis : b.hasVis = v
  only : v = false → l = false → b.OnlySp

theorem BInv.add {b : Buf} {v l : Bool} (h : BInv b v l) (e : Emit) :
    BInv (b.add e) (v || e.visible) (l || e.litWs) := by
  refine ⟨by rw [hasVis_add, h.vis], fun hv hl => ?_⟩
  simp only [Bool.or_eq_false_iff] at hv hl
  exact onlySp_add b e (h.only hv.1 hl.1) hv.2 hl.2

theorem BInv.addAll {b : Buf} {v l : Bool} (h : BInv b v l) (es : List Emit) :
    BInv (b.addAll es) (v || anyVisible es) (l || anyLitWs es) := by
  induction es generalizing b v l with
  | nil => simpa [Buf.addAll, anyVisible, anyLitWs] using h
  | cons e es ih => simpa [Buf.addAll, anyVisible, anyLitWs, Bool.or_assoc] using ih (h.add e)

theorem BInv.counted {b : Buf} {v l : Bool} (h : BInv b v l) (hk : l = true → v = true) : (!b.blank) = v := by
  cases v with
  | true => simp [blank_of_hasVis b h.vis]
  | false =>
    have hl : l = false := by cases l <;> simp_all
    simp [blank_of_onlySp b (h.only rfl hl)]

/-! ## Lifting the finite check to characters, lines and texts -/

theorem step_sim (d : Bool) (w : WMode) (hold blank : Bool) (c : Cls) (o : ROut)
    (hk : okHold w hold = true) (ho : rstep w c = some o) :
    ∃ d' hold', (step (absStack d w hold) blank c).1 = absStack d' o.mode hold' ∧ okHold o.mode hold' = true ∧
      ((anyVisible (step (absStack d w hold) blank c).2 || hold') = (o.pend || o.now || hold)) ∧
      (anyLitWs (step (absStack d w hold) blank c).2 = o.lit) ∧ (hold' = true → c = .slash) := by
  have h := stepOK_each d w hold blank c
  simp only [stepOK, hk, Bool.not_true, Bool.false_or, ho, List.any_cons, List.any_nil, Bool.or_false,
    Bool.or_eq_true, Bool.and_eq_true, beq_iff_eq] at h
  rcases h with h | h | h | h
  · exact ⟨false, false, h.1.1.1.1, h.1.1.1.2, by simpa using h.1.1.2, h.1.2, by simp⟩
  · exact ⟨false, true, h.1.1.1.1, h.1.1.1.2, h.1.1.2, h.1.2, fun _ => by simpa using h.2⟩
  · exact ⟨true, false, h.1.1.1.1, h.1.1.1.2, by simpa using h.1.1.2, h.1.2, by simp⟩
  · exact ⟨true, true, h.1.1.1.1, h.1.1.1.2, h.1.1.2, h.1.2, fun _ => by simpa using h.2⟩

theorem chars_sim (chars : List Cls) : ∀ (d : Bool) (w : WMode) (hold : Bool) (buf : Buf) (v l : Bool) (a0 a : RAcc),
    okHold w hold = true → a0.mode = w → BInv buf v l → (v || hold) = a0.vis → l = a0.lit →
    rchars a0 chars = some a →
    ∃ d' hold' v' l', (procChars (absStack d w hold) buf chars).1 = absStack d' a.mode hold' ∧
      okHold a.mode hold' = true ∧ BInv (procChars (absStack d w hold) buf chars).2 v' l' ∧
      (v' || hold') = a.vis ∧ l' = a.lit ∧
      (hold' = true → (chars = [] ∧ hold = true) ∨ chars.getLast? = some .slash) := by
  induction chars with
  | nil =>
    intro d w hold buf v l a0 a hk hm hb hv hl hr
    cases hr
    exact ⟨d, hold, v, l, by rw [hm]; rfl, by rw [hm]; exact hk, hb, hv, hl, fun h => Or.inl ⟨rfl, h⟩⟩
  | cons c cs ih =>
    intro d w hold buf v l a0 a hk hm hb hv hl hr
    simp only [rchars] at hr
    cases ho : rstep a0.mode c with
    | none => rw [ho] at hr; cases hr
    | some o =>
      rw [ho] at hr
      obtain ⟨d', hold', hs1, hs2, hs3, hs4, hs5⟩ := step_sim d w hold buf.blank c o hk (hm ▸ ho)
      simp only [procChars]
      rw [hs1]
      have hvis : (v || anyVisible (step (absStack d w hold) buf.blank c).2 || hold') = (a0.vis || o.pend || o.now) := by
        rw [Bool.or_assoc, hs3, ← hv]
        cases v <;> cases hold <;> cases o.pend <;> cases o.now <;> rfl
      have hlit : (l || anyLitWs (step (absStack d w hold) buf.blank c).2) = (a0.lit || o.lit) := by rw [hs4, hl]
      obtain ⟨d2, h2, v2, l2, r1, r2, r3, r4, r5, r6⟩ := ih d' o.mode hold' _ (v || anyVisible (step (absStack d w hold) buf.blank c).2)
        (l || anyLitWs (step (absStack d w hold) buf.blank c).2) ⟨o.mode, a0.vis || o.pend || o.now, a0.lit || o.lit⟩ a hs2 rfl (hb.addAll _) hvis hlit hr
      refine ⟨d2, h2, v2, l2, r1, r2, r3, r4, r5, ?_⟩
      intro hh
      right
      rcases r6 hh with ⟨rfl, hh'⟩ | hlast
      · simp [hs5 hh']
      · cases cs with
        | nil => simp at hlast
        | cons x xs => simpa [List.getLast?_cons_cons] using hlast

theorem binv_empty : BInv ({} : Buf) false false :=
  ⟨by simp [Buf.hasVis], fun _ _ => Or.inl ⟨rfl, rfl⟩⟩

/-- the newline obligation as a decidable check -/
def newlineOK (d : Bool) (w : WMode) : Bool :=
  match rnewline w with
  | none => true
  | some (m', p) =>
    let st := absStack d w false
    if st.head? != some Mode.blockC then
      ([false, true].any fun d' => (logicalNewline st).1 == absStack d' m' false) &&
        (anyVisible (logicalNewline st).2 == p) && (anyLitWs (logicalNewline st).2 == false)
    else (m' == w) && (p == false)

theorem newlineOK_all : (allB.all fun d => allW.all fun w => newlineOK d w) = true := by decide +kernel

/-- the end of an unspliced line: the newline keeps the relation, and the line is counted iff the reference
    lets something visible survive on it (`p`: the pending `/`) -/
theorem newline_sim (d : Bool) (w m' : WMode) (p : Bool) (h : rnewline w = some (m', p)) {b : Buf} {v l : Bool}
    (hb : BInv b v l) (hk : l = true → (v || p) = true) :
    ∃ d', (if (absStack d w false).head? != some Mode.blockC then
        ((logicalNewline (absStack d w false)).1, !(b.addAll (logicalNewline (absStack d w false)).2).blank)
      else (absStack d w false, !b.blank)) = (absStack d' m' false, v || p) := by
  have hall := newlineOK_all
  simp only [List.all_eq_true] at hall
  have hd := hall d (mem_allB d) w (mem_allW w)
  simp only [newlineOK, h] at hd
  split
  · rename_i hc
    simp only [hc, if_true, Bool.and_eq_true, List.any_cons, List.any_nil, Bool.or_false, Bool.or_eq_true, beq_iff_eq] at hd
    have hb' := hb.addAll (logicalNewline (absStack d w false)).2
    rw [hd.1.2, hd.2, Bool.or_false] at hb'
    rw [hb'.counted hk]
    rcases hd.1.1 with h1 | h1 <;> exact ⟨_, by rw [h1]⟩
  · rename_i hc
    simp only [hc, Bool.false_eq_true, if_false, Bool.and_eq_true, beq_iff_eq] at hd
    obtain ⟨rfl, rfl⟩ := hd
    rw [Bool.or_false] at hk ⊢
    exact ⟨d, by rw [hb.counted hk]⟩

theorem imp_of_and_not {l v : Bool} (h : (l && !v) = false) : l = true → v = true := by
  cases l <;> cases v <;> simp at h ⊢

/-- what `rline m l = some (m', b)` says; `p`: a pending `/` survives at the newline (never at a splice) -/
theorem rline_some {m m' : WMode} {l : PLine} {b : Bool} (h : rline m l = some (m', b)) :
    ∃ a p, rchars ⟨m, false, false⟩ l.chars = some a ∧ (a.lit = true → (a.vis || p) = true) ∧ b = (a.vis || p) ∧
      ((l.continued = true ∧ p = false ∧ m' = a.mode ∧ a.mode ≠ .slash ∧
          ¬(a.mode = .sq1 ∧ l.chars.getLast? = some .slash)) ∨
        (l.continued = false ∧ rnewline a.mode = some (m', p))) := by
  unfold rline at h
  split at h
  · cases h
  rename_i a hr
  cases hc : l.continued with
  | true =>
    simp only [hc, if_true, Option.ite_none_left_eq_some, Option.some.injEq, Prod.mk.injEq] at h
    obtain ⟨h1, h2, h3, rfl, rfl⟩ := h
    exact ⟨a, false, hr, by simpa using h3, by simp, .inl ⟨rfl, rfl, rfl, by simpa using h1, by simpa using h2⟩⟩
  | false =>
    simp only [hc, Bool.false_eq_true, if_false] at h
    split at h; · cases h
    rename_i p hn
    simp only [Option.ite_none_left_eq_some, Option.some.injEq, Prod.mk.injEq] at h
    obtain ⟨h3, rfl, rfl⟩ := h
    exact ⟨a, p, hr, imp_of_and_not (Bool.eq_false_iff.mpr h3), rfl, .inr ⟨rfl, hn⟩⟩

/-- One physical line: the cleaner counts it iff the reference says a visible character survives on it. -/
theorem line_sim (d : Bool) (w w' : WMode) (l : PLine) (b : Bool) (h : rline w l = some (w', b)) :
    ∃ d', procLine (absStack d w false) l = (absStack d' w' false, b) := by
  obtain ⟨a, p, hr, hk2, rfl, hc⟩ := rline_some h
  obtain ⟨d', hold', v', l', h1, h2, h3, h4, rfl, h6⟩ :=
    chars_sim l.chars d w false {} false false ⟨w, false, false⟩ a rfl rfl binv_empty rfl rfl hr
  -- a `/` held back at the end of the line would be the last character of a character constant
  have hh : hold' = false := by
    cases hold' with
    | false => rfl
    | true =>
      have hm : a.mode = .sq1 := by simpa [okHold] using h2
      rcases hc with ⟨_, _, _, _, hnq⟩ | ⟨_, hn⟩
      · rcases h6 rfl with ⟨_, hf⟩ | hlast
        · cases hf
        · exact absurd ⟨hm, hlast⟩ hnq
      · rw [hm] at hn; cases hn
  subst hh
  rw [Bool.or_false] at h4; subst h4
  rcases hc with ⟨hc, rfl, rfl, _⟩ | ⟨hc, hn⟩
  · rw [Bool.or_false] at hk2 ⊢
    exact ⟨d', by simp only [procLine, hc, Bool.not_true, Bool.false_and, Bool.false_eq_true, if_false, h1,
      h3.counted hk2]⟩
  · simp only [procLine, hc, Bool.not_false, Bool.true_and, h1]
    exact newline_sim d' a.mode w' p hn h3 hk2

/-- **C05 (class level): for every well-formed text outside the recorded finding classes, the lines
    counted by the cleaner are exactly the lines on which a visible character survives
    splicing and comment removal.** -/
theorem counted_eq_ref (t : List PLine) : ∀ (d : Bool) (w : WMode) (bs : List Bool),
    refCounted w t = some bs → cbiCounted (absStack d w false) t = bs := by
  induction t with
  | nil =>
    intro d w bs h
    have h : (if w == .code then some [] else none) = some bs := h
    split at h <;> cases h
    rfl
  | cons l ls ih =>
    intro d w bs h
    simp only [refCounted] at h
    split at h
    · cases h
    · rename_i w' b hl
      split at h
      · cases h
      · rename_i bs' hrest
        cases h
        obtain ⟨d', hp⟩ := line_sim d w w' l b hl
        show (procLine (absStack d w false) l).2 :: cbiCounted (procLine (absStack d w false) l).1 ls = _
        rw [hp, ih d' w' bs' hrest]

theorem counted_eq_ref_top (t : List PLine) (bs : List Bool) (h : refCounted .code t = some bs) :
    cbiCounted [.top] t = bs := counted_eq_ref t false .code bs h

end CbiVerif.CLex2
#print axioms CbiVerif.CLex2.counted_eq_ref_top
#print axioms CbiVerif.CLex2.stepOK_all
