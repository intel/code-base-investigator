import CbiVerif.Lemmas.MacroObjSpec
/-! # C03: a model token seen as a token of the specification (`toSpec`), for the tests `Spec.Prosser.subst` and `collect` make,
    and one step of `subst` on a token that is not an operand of `##` -/
namespace CbiVerif.MX
open CbiVerif.PP
open CbiVerif.Spec.Prosser (K T Unspec)

theorem isP_toSpec_eq (hs : List String) (t : Tok) (s : String) :
    Spec.Prosser.isP (toSpec hs t) s = (kindOf t.kind == K.punct && t.text == s) := by
  cases t with
  | mk k tx pw ex => cases k <;> rfl

theorem isP_toSpec_ne (hs : List String) (t : Tok) (s : String) (h : t.text ≠ s) : Spec.Prosser.isP (toSpec hs t) s = false := by
  rw [isP_toSpec_eq, beq_false_of_ne h, Bool.and_false]

/-- the test by which the specification copies a token without looking it up, on the image of a model token -/
theorem copyTest_toSpec (hs : List String) (t : Tok) :
    ((toSpec hs t).kind != K.id || (toSpec hs t).hs.contains (toSpec hs t).text) = (t.kind != TKind.ident || hs.contains t.text) := by
  cases t with
  | mk k tx pw ex => cases k <;> rfl

theorem pidx_toSpec (hs : List String) (ps : List String) (t : Tok) : Spec.Prosser.pidx (some ps) (toSpec hs t) = paramIdx ps t := by
  cases t with
  | mk k tx pw ex => cases k <;> simp [Spec.Prosser.pidx, paramIdx, toSpec, kindOf, spellTok]

open CbiVerif.Spec.Prosser (subst pidx isP setWs stringize)

theorem subst_nil (ex : List T → Except Unspec (List T)) (params : Option (List String)) (args : List (List T)) (g : Nat)
    (os : List T) (pm : Bool) : subst ex params args (g + 1) [] os pm = .ok os := rfl

theorem subst_hash (ex : List T → Except Unspec (List T)) (params : List String) (args : List (List T)) (g : Nat) (t p : T)
    (r2 os : List T) (pm : Bool) (i : Nat) (ht : isP t "#" = true) (hp : pidx (some params) p = some i) :
    subst ex (some params) args (g + 1) (t :: p :: r2) os pm =
      match stringize (args.getD i []) with
      | .ok s => subst ex (some params) args g r2 (os ++ [{ s with ws := t.ws }]) false
      | .error e => .error e := by
  simp only [subst, Option.isSome_some, Bool.true_and, ht, if_true, hp, Option.map_some]
  rfl

theorem subst_tok (ex : List T → Except Unspec (List T)) (params : List String) (args : List (List T)) (g : Nat) (t : T)
    (rest os : List T) (pm : Bool) (h1 : isP t "#" = false) (h2 : isP t "##" = false)
    (hn : ((rest.head?.map (isP · "##")).getD false) = false) :
    subst ex (some params) args (g + 1) (t :: rest) os pm =
      match pidx (some params) t with
      | some i =>
        (match ex (args.getD i []) with
         | .ok e => subst ex (some params) args g rest (os ++ setWs e t.ws) false
         | .error e => .error e)
      | none => subst ex (some params) args g rest (os ++ [t]) false := by
  simp only [subst, Option.isSome_some, Bool.true_and, h1, Bool.false_eq_true, if_false, h2, hn]
  rfl

end CbiVerif.MX
