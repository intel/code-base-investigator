import CbiVerif.Model.EvalBridge
/-! C02 lemmas: the evaluator's operations on `_c_int`-wrapped integers (`Eval.applyBinary/applyUnary/
    applyTernary`) are, for all operands, the machine operations on `BitVec 64` (`wBin`, `wUn`: total), and these are
    the C operations (`CExpr.cBin/cUn`) wherever C defines them; the signedness of every result depends on the
    operands' signedness only.  Core `BitVec`/`Int` lemmas and `omega`; no bit-blasting. -/
namespace CbiVerif.EvalArith
open CbiVerif.Eval CbiVerif.CExpr CbiVerif.EvalBridge

theorem cInt_ofInt (z : Int) (u : Bool) : cInt z u = mval ⟨u, BitVec.ofInt 64 z⟩ := by
  cases u
  · -- `Int.bmod` is `_c_int`'s signed wrap, with the test the other way round
    have e : mval ⟨false, BitVec.ofInt 64 z⟩ = ⟨false, if z % two64 < two63 then z % two64 else z % two64 - two64⟩ :=
      congrArg (Eval.Val.mk false) (BitVec.toInt_ofInt ..)
    rw [e]
    show (if z % two64 ≥ two63 then (⟨false, z % two64 - two64⟩ : Eval.Val) else ⟨false, z % two64⟩) = _
    by_cases h : z % two64 < two63
    · rw [if_pos h, if_neg (Int.not_le.mpr h)]
    · rw [if_neg h, if_pos (Int.not_lt.mp h)]
  · refine congrArg (Eval.Val.mk true) ?_
    show z % two64 = ((BitVec.ofInt 64 z).toNat : Int)
    rw [BitVec.toNat_ofInt, Int.toNat_of_nonneg (Int.emod_nonneg z (by decide))]; rfl

theorem ofInt_mval (v : CExpr.Val) : BitVec.ofInt 64 (mval v).v = v.bits := by
  obtain ⟨u, b⟩ := v
  cases u
  · simp [mval]
  · simp [mval, BitVec.ofInt_natCast]

theorem cInt_mval (v : CExpr.Val) (u : Bool) : cInt (mval v).v u = mval ⟨u, v.bits⟩ := by
  rw [cInt_ofInt, ofInt_mval]
theorem cInt_toNat (b : BitVec 64) (u : Bool) : cInt (b.toNat : Int) u = mval ⟨u, b⟩ := cInt_mval ⟨true, b⟩ u
theorem cInt_toInt (b : BitVec 64) (u : Bool) : cInt b.toInt u = mval ⟨u, b⟩ := cInt_mval ⟨false, b⟩ u

theorem cInt_unsigned (z : Int) (u : Bool) : (cInt z u).unsigned = u := by
  rw [cInt_ofInt]; rfl

def conv (u : Bool) (x : BitVec 64) : Int := if u then (x.toNat : Int) else x.toInt
theorem conv_false (x : BitVec 64) : conv false x = x.toInt := rfl
theorem conv_true (x : BitVec 64) : conv true x = (x.toNat : Int) := rfl
theorem mval_v (v : CExpr.Val) : (mval v).v = conv v.unsigned v.bits := rfl
theorem mval_u (v : CExpr.Val) : (mval v).unsigned = v.unsigned := rfl
theorem cInt_conv (v : CExpr.Val) (u : Bool) : (cInt (mval v).v u).v = conv u v.bits := by
  rw [cInt_mval]; rfl
theorem ofInt_conv (u : Bool) (x : BitVec 64) : BitVec.ofInt 64 (conv u x) = x := by
  have := ofInt_mval ⟨u, x⟩; simpa [mval_v] using this

theorem ofInt_sub (a b : Int) : BitVec.ofInt 64 (a - b) = BitVec.ofInt 64 a - BitVec.ofInt 64 b := by
  rw [Int.sub_eq_add_neg, BitVec.ofInt_add, BitVec.ofInt_neg, BitVec.sub_eq_add_neg]

theorem conv_emod (u : Bool) (x : BitVec 64) : (conv u x % two64).toNat = x.toNat :=
  (BitVec.toNat_ofInt ..).symm.trans (congrArg BitVec.toNat (ofInt_conv u x))

theorem b2v_ofBool (b : Bool) : b2v b = mval (Val.ofBool b) := by
  cases b <;> simp [b2v, mval, Val.ofBool] <;> decide

theorem conv_inj (u : Bool) (x y : BitVec 64) : conv u x = conv u y ↔ x = y := by
  constructor
  · intro h; rw [← ofInt_conv u x, ← ofInt_conv u y, h]
  · intro h; rw [h]

theorem conv_lt (u : Bool) (x y : BitVec 64) : decide (conv u x < conv u y) = (if u then x.ult y else x.slt y) := by
  cases u
  · simp only [conv, Bool.false_eq_true, if_false]
    rw [Bool.eq_iff_iff]; simp [BitVec.slt_iff_toInt_lt]
  · simp only [conv, if_true]
    rw [Bool.eq_iff_iff]; simp [BitVec.ult_iff_lt, BitVec.lt_def]
theorem conv_le (u : Bool) (x y : BitVec 64) : decide (conv u x ≤ conv u y) = (if u then x.ule y else x.sle y) := by
  cases u
  · simp only [conv, Bool.false_eq_true, if_false]
    rw [Bool.eq_iff_iff]; simp [BitVec.sle_iff_toInt_le]
  · simp only [conv, if_true]
    rw [Bool.eq_iff_iff]; simp [BitVec.ule_iff_le, BitVec.le_def]
theorem conv_beq (u : Bool) (x y : BitVec 64) : (conv u x == conv u y) = (x == y) := by
  rw [Bool.eq_iff_iff, beq_iff_eq, beq_iff_eq, conv_inj]

theorem conv_eq_zero (u : Bool) (y : BitVec 64) : (conv u y == 0) = (y == 0#64) :=
  (show conv u (0#64) = 0 by cases u <;> rfl) ▸ conv_beq u y 0#64
theorem mval_v_eq_zero (x : CExpr.Val) : ((mval x).v == 0) = (x.bits == 0#64) := conv_eq_zero _ _
theorem mval_v_ne_zero (x : CExpr.Val) : ((mval x).v != 0) = (x.bits != 0#64) := congrArg (!·) (conv_eq_zero _ _)

theorem truncQuot_eq (a b : Int) : truncQuot a b = Int.tdiv a b := by
  unfold truncQuot
  cases a with
  | ofNat m =>
    cases b with
    | ofNat n =>
      simp [Int.tdiv]; intro h; omega
    | negSucc n =>
      have h2 : (Int.negSucc n < 0) := Int.negSucc_lt_zero n
      simp [h2, Int.tdiv]
  | negSucc m =>
    cases b with
    | ofNat n =>
      have h1 : (Int.negSucc m < 0) := Int.negSucc_lt_zero m
      simp [h1, Int.tdiv]
    | negSucc n =>
      have h1 : (Int.negSucc m < 0) := Int.negSucc_lt_zero m
      have h2 : (Int.negSucc n < 0) := Int.negSucc_lt_zero n
      simp [h1, h2, Int.tdiv]

theorem sub_tdiv_mul (a b : Int) : a - a.tdiv b * b = a.tmod b := by rw [Int.tmod_def, Int.mul_comm]

theorem ofInt_bmod (z : Int) : BitVec.ofInt 64 (z.bmod (2 ^ 64)) = BitVec.ofInt 64 z := by
  apply BitVec.eq_of_toInt_eq
  simp [BitVec.toInt_ofInt]

theorem ofInt_two_pow (n : Nat) : BitVec.ofInt 64 ((2 : Int) ^ n) = BitVec.twoPow 64 n := by
  have : ((2 : Int) ^ n) = ((2 ^ n : Nat) : Int) := by simp
  rw [this, BitVec.ofInt_natCast]
  apply BitVec.eq_of_toNat_eq
  simp [BitVec.toNat_twoPow]

/-- `__apply_binary_op` operator by operator: the chain of string comparisons is resolved here, once -/
theorem applyBinary_sym (op : BinOp) (l r : Eval.Val) : applyBinary op.sym l r =
    (let u := l.unsigned || r.unsigned
     let a := (cInt l.v u).v
     let b := (cInt r.v u).v
     match op with
     | .lor => b2v (l.v != 0 || r.v != 0)
     | .land => b2v (l.v != 0 && r.v != 0)
     | .shl => if r.v < 0 || r.v ≥ 64 then cInt 0 l.unsigned else cInt (l.v * (2 : Int) ^ r.v.toNat) l.unsigned
     | .shr => if r.v < 0 || r.v ≥ 64 then cInt 0 l.unsigned else cInt (l.v / (2 : Int) ^ r.v.toNat) l.unsigned
     | .bor => cInt (natOr (a % two64) (b % two64)) u
     | .bxor => cInt (natXor (a % two64) (b % two64)) u
     | .band => cInt (natAnd (a % two64) (b % two64)) u
     | .eq => b2v (a == b)
     | .ne => b2v (a != b)
     | .lt => b2v (decide (a < b))
     | .le => b2v (decide (a ≤ b))
     | .gt => b2v (decide (a > b))
     | .ge => b2v (decide (a ≥ b))
     | .add => cInt (a + b) u
     | .sub => cInt (a - b) u
     | .mul => cInt (a * b) u
     | .div => if b == 0 then cInt 0 u else cInt (truncQuot a b) u
     | .mod => if b == 0 then cInt 0 u else cInt (a - truncQuot a b * b) u) := by
  cases op <;> rfl

theorem applyUnary_sym (op : UnOp) (x : Eval.Val) : applyUnary op.sym x =
    (match op with
     | .neg => cInt (-x.v) x.unsigned
     | .pos => cInt x.v x.unsigned
     | .lnot => b2v (x.v == 0)
     | .bnot => cInt (-x.v - 1) x.unsigned) := by
  cases op <;> rfl

/-! ### the operations on 64-bit values as the machine computes them

`wBin` / `wUn` are total; C's `cBin` / `cUn` are their restrictions to the operands for which C defines a result
(`cBin_wBin`, `cUn_wUn`).  The evaluator computes `wBin` / `wUn` for all operands (`applyBinary_wrap`, `applyUnary_wrap`):
division by zero and a shift count outside 0..63 give 0, everything else wraps. -/

def wBin (op : BinOp) (a b : CExpr.Val) : CExpr.Val :=
  let u := a.unsigned || b.unsigned
  let x := a.bits
  let y := b.bits
  match op with
  | .add => ⟨u, x + y⟩
  | .sub => ⟨u, x - y⟩
  | .mul => ⟨u, x * y⟩
  | .div => ⟨u, if y == 0#64 then 0#64 else if u then x / y else x.sdiv y⟩
  | .mod => ⟨u, if y == 0#64 then 0#64 else if u then x % y else x.srem y⟩
  | .shl => ⟨a.unsigned, match shiftCount b with | some n => x <<< n | none => 0#64⟩
  | .shr => ⟨a.unsigned, match shiftCount b with
      | some n => if a.unsigned then x >>> n else x.sshiftRight n
      | none => 0#64⟩
  | .lt => .ofBool (if u then x.ult y else x.slt y)
  | .gt => .ofBool (if u then y.ult x else y.slt x)
  | .le => .ofBool (if u then x.ule y else x.sle y)
  | .ge => .ofBool (if u then y.ule x else y.sle x)
  | .eq => .ofBool (x == y)
  | .ne => .ofBool (x != y)
  | .band => ⟨u, x &&& y⟩
  | .bxor => ⟨u, x ^^^ y⟩
  | .bor => ⟨u, x ||| y⟩
  | .land => .ofBool (x != 0#64 && y != 0#64)
  | .lor => .ofBool (x != 0#64 || y != 0#64)

def wUn (op : UnOp) (a : CExpr.Val) : CExpr.Val :=
  match op with
  | .neg => ⟨a.unsigned, -a.bits⟩
  | .pos => a
  | .lnot => .ofBool (a.bits == 0#64)
  | .bnot => ⟨a.unsigned, ~~~a.bits⟩

theorem cBin_wBin {op : BinOp} {a b v : CExpr.Val} (h : cBin op a b = some v) : wBin op a b = v := by
  revert h
  -- by the cases of `cBin`: a branch without a value goes, in the others `wBin` takes the same turns
  fun_cases cBin op a b <;> intro h <;> cases h
  any_goals rfl
  all_goals simp +zetaDelta only [wBin, *, if_true, if_false, Bool.false_eq_true]

theorem cUn_wUn {op : UnOp} {a v : CExpr.Val} (h : cUn op a = some v) : wUn op a = v := by
  cases op <;> simp only [cUn, Option.ite_none_left_eq_some, Option.some.injEq] at h
  case neg => exact h.2
  all_goals exact h

/-- C's condition on the shift count is the evaluator's test `c < 0 or c >= 64` on the right operand's own value -/
theorem shiftCount_eq (y : CExpr.Val) :
    shiftCount y = if (mval y).v < 0 || (mval y).v ≥ 64 then none else some (mval y).v.toNat := by
  simp only [Bool.or_eq_true, decide_eq_true_eq]
  have key (n : Nat) : (if n ≥ 64 then none else some n) =
      if (n : Int) < 0 ∨ (n : Int) ≥ 64 then none else some (n : Int).toNat := by
    rw [Int.toNat_natCast]
    by_cases h64 : n ≥ 64
    · rw [if_pos h64, if_pos (Or.inr (by omega))]
    · rw [if_neg h64, if_neg (by omega)]
  obtain ⟨u, b⟩ := y
  unfold shiftCount
  cases u <;> simp only [mval_v, conv, Bool.not_false, Bool.not_true, Bool.true_and, Bool.false_and, Bool.false_eq_true,
    if_false, if_true, decide_eq_true_eq]
  · by_cases h0 : b.toInt < 0
    · rw [if_pos h0, if_pos (Or.inl h0)]
    · have e : b.toInt = b.toNat := by
        have hi := BitVec.toInt_eq_toNat_cond b
        split at hi <;> omega
      rw [if_neg h0, e]; exact key _
  · exact key _

theorem applyBinary_wrap (op : BinOp) (x y : CExpr.Val) :
    applyBinary op.sym (mval x) (mval y) = mval (wBin op x y) := by
  rw [applyBinary_sym]
  cases op <;> simp only [wBin, mval_u, cInt_conv]
  case add => rw [cInt_ofInt, BitVec.ofInt_add, ofInt_conv, ofInt_conv]
  case sub => rw [cInt_ofInt, ofInt_sub, ofInt_conv, ofInt_conv]
  case mul => rw [cInt_ofInt, BitVec.ofInt_mul, ofInt_conv, ofInt_conv]
  case bor => rw [natOr, conv_emod, conv_emod, ← BitVec.toNat_or, cInt_toNat]
  case bxor => rw [natXor, conv_emod, conv_emod, ← BitVec.toNat_xor, cInt_toNat]
  case band => rw [natAnd, conv_emod, conv_emod, ← BitVec.toNat_and, cInt_toNat]
  case lt => rw [conv_lt, b2v_ofBool]
  case gt => simp only [GT.gt, conv_lt, b2v_ofBool]
  case le => rw [conv_le, b2v_ofBool]
  case ge => simp only [GE.ge, conv_le, b2v_ofBool]
  case eq => rw [conv_beq, b2v_ofBool]
  case ne => rw [bne, conv_beq, b2v_ofBool]; rfl
  case land => rw [mval_v_ne_zero, mval_v_ne_zero, b2v_ofBool]
  case lor => rw [mval_v_ne_zero, mval_v_ne_zero, b2v_ofBool]
  case div =>
    rw [conv_eq_zero]
    cases y.bits == 0#64
    · -- `abs(a) // abs(b)` with the sign put back truncates: `BitVec.sdiv` / `udiv`
      simp only [Bool.false_eq_true, if_false, truncQuot_eq]
      cases x.unsigned || y.unsigned
      · rw [conv_false, conv_false, cInt_ofInt, ← ofInt_bmod, ← BitVec.toInt_sdiv, BitVec.ofInt_toInt]; rfl
      · rw [conv_true, conv_true, ← Int.ofNat_tdiv, ← BitVec.toNat_udiv, cInt_toNat]; rfl
    · exact cInt_toNat 0#64 _
  case mod =>
    rw [conv_eq_zero]
    cases y.bits == 0#64
    · simp only [Bool.false_eq_true, if_false, truncQuot_eq, sub_tdiv_mul]
      cases x.unsigned || y.unsigned
      · rw [conv_false, conv_false, ← BitVec.toInt_srem, cInt_toInt]; rfl
      · rw [conv_true, conv_true, ← Int.ofNat_tmod, ← BitVec.toNat_umod, cInt_toNat]; rfl
    · exact cInt_toNat 0#64 _
  case shl =>
    rw [shiftCount_eq]
    cases decide ((mval y).v < 0) || decide ((mval y).v ≥ 64)
    · simp only [Bool.false_eq_true, if_false]
      rw [cInt_ofInt, BitVec.ofInt_mul, ofInt_mval, ofInt_two_pow, ← BitVec.shiftLeft_eq_mul_twoPow]
    · exact cInt_toNat 0#64 _
  case shr =>
    rw [shiftCount_eq]
    cases decide ((mval y).v < 0) || decide ((mval y).v ≥ 64)
    · simp only [Bool.false_eq_true, if_false]
      have e (n : Nat) : ((2 : Int) ^ n) = ((2 ^ n : Nat) : Int) := by simp
      rw [e, mval_v]
      cases x.unsigned
      · rw [conv_false, ← Int.shiftRight_eq_div_pow, ← BitVec.toInt_sshiftRight, cInt_toInt]; rfl
      · rw [conv_true, ← Int.natCast_ediv, ← Nat.shiftRight_eq_div_pow, ← BitVec.toNat_ushiftRight, cInt_toNat]; rfl
    · exact cInt_toNat 0#64 _

theorem applyUnary_wrap (op : UnOp) (x : CExpr.Val) : applyUnary op.sym (mval x) = mval (wUn op x) := by
  rw [applyUnary_sym]
  cases op <;> simp only [wUn, mval_u]
  case neg => rw [cInt_ofInt, BitVec.ofInt_neg, ofInt_mval]
  case pos => rw [cInt_mval]
  case lnot => rw [mval_v_eq_zero, b2v_ofBool]
  case bnot => rw [cInt_ofInt, ofInt_sub, BitVec.ofInt_neg, ofInt_mval, BitVec.not_eq_neg_add]; rfl

theorem tern_ok (c t e : CExpr.Val) :
    applyTernary (mval c) (mval t) (mval e) =
      mval ⟨t.unsigned || e.unsigned, if c.bits != 0#64 then t.bits else e.bits⟩ := by
  simp only [applyTernary, mval_v_ne_zero, mval_u]
  split
  · rw [cInt_mval]
  · rw [cInt_mval]

theorem applyBinary_spec (op : BinOp) (x y v : CExpr.Val) (h : cBin op x y = some v) :
    applyBinary op.sym (mval x) (mval y) = mval v := cBin_wBin h ▸ applyBinary_wrap op x y

theorem applyUnary_spec (op : UnOp) (x v : CExpr.Val) (h : cUn op x = some v) :
    applyUnary op.sym (mval x) = mval v := cUn_wUn h ▸ applyUnary_wrap op x

/-! signedness of the evaluator's results depends on the operands' signedness only (whatever their values) -/
def binU (op : BinOp) (lu ru : Bool) : Bool :=
  match op with
  | .land | .lor | .lt | .gt | .le | .ge | .eq | .ne => false
  | .shl | .shr => lu
  | _ => lu || ru
def unU (op : UnOp) (u : Bool) : Bool := match op with | .lnot => false | _ => u

theorem b2v_unsigned (b : Bool) : (b2v b).unsigned = false := rfl

theorem applyBinary_unsigned (op : BinOp) (l r : Eval.Val) :
    (applyBinary op.sym l r).unsigned = binU op l.unsigned r.unsigned := by
  rw [applyBinary_sym]
  cases op <;> simp only [binU, apply_ite Eval.Val.unsigned, cInt_unsigned, b2v_unsigned, ite_self]

theorem applyUnary_unsigned (op : UnOp) (x : Eval.Val) :
    (applyUnary op.sym x).unsigned = unU op x.unsigned := by
  rw [applyUnary_sym]
  cases op <;> simp only [unU, cInt_unsigned, b2v_unsigned]

theorem applyTernary_unsigned (c t e : Eval.Val) : (applyTernary c t e).unsigned = (t.unsigned || e.unsigned) := by
  simp only [applyTernary, cInt_unsigned]

theorem wBin_unsigned (op : BinOp) (a b : CExpr.Val) : (wBin op a b).unsigned = binU op a.unsigned b.unsigned := by
  cases op <;> rfl
theorem wUn_unsigned (op : UnOp) (a : CExpr.Val) : (wUn op a).unsigned = unU op a.unsigned := by
  cases op <;> rfl

theorem cBin_unsigned (op : BinOp) (x y v : CExpr.Val) (h : cBin op x y = some v) :
    v.unsigned = binU op x.unsigned y.unsigned := cBin_wBin h ▸ wBin_unsigned op x y
theorem cUn_unsigned (op : UnOp) (x v : CExpr.Val) (h : cUn op x = some v) :
    v.unsigned = unU op x.unsigned := cUn_wUn h ▸ wUn_unsigned op x
end CbiVerif.EvalArith
