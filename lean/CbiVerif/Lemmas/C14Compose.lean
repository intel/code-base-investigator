import CbiVerif.Model.C14Compose
import CbiVerif.Lemmas.AnalyseClosed
import CbiVerif.Lemmas.Setmap
import CbiVerif.Lemmas.Order
import CbiVerif.Lemmas.OrderSort
import Batteries.Data.List.Perm
import Mathlib.Data.List.Nodup
import CbiVerif.Lemmas.Forall2Facts
/-!
Helper lemmas for `Props/C14Compose.lean`, on the closed form of `C06C.analyse` (`analyse_iff`, `Lemmas/AnalyseClosed.lean`): the
record of a file is a function of the file, of the tree lookup (which depends on the SET of files only: `lkOf_perm`) and of the
platforms (`recClosed`); `closed` is the list of these records.  Permuting the files permutes the records; rearranging the
entries of a database changes nothing; permuting the platform tables re-lists every platform set (`relist`, a sub-list of the
duplicate-free list of names, hence determined by its members).  Then the dict (`get_setmap` is one fold of `add`), the summary
table, the coverage records and the attribution under a permutation of the records and under an injective renaming `ren σ` of
the keys with `σ k ~ k`, and `map_analyse_eq_of_good`: how two presentations of one code base are shown to be read alike.
-/
namespace CbiVerif.C14C
open CbiVerif.SM CbiVerif.C06C

/-! ## permuting the files -/

theorem lkOf_perm {files files' : List SrcFile} (h : files.Perm files') (hnd : (files.map (·.path)).Nodup) :
    lkOf files = lkOf files' :=
  funext fun _ => CbiVerif.Order.find?_map_perm h fun _ ha _ hb h1 h2 =>
    congrArg pf (List.inj_on_of_nodup_map hnd ha hb ((beq_iff_eq.mp h1).trans (beq_iff_eq.mp h2).symm))

theorem good_perm_files {files files' : List SrcFile} (h : files.Perm files') (hnd : (files.map (·.path)).Nodup)
    (plats : List Plat) : Good files plats ↔ Good files' plats := by
  unfold Good
  rw [lkOf_perm h hnd]
  constructor
  · rintro ⟨a, b⟩; exact ⟨fun f hf => a f (h.mem_iff.mpr hf), b⟩
  · rintro ⟨a, b⟩; exact ⟨fun f hf => a f (h.mem_iff.mp hf), b⟩

theorem analyse_perm_files {files files' : List SrcFile} (h : files.Perm files') (hnd : (files.map (·.path)).Nodup)
    (plats : List Plat) (hg : Good files plats) :
    analyse files' plats = .ok (files'.map (recClosed (lkOf files) plats)) := by
  rw [analyse_iff, lkOf_perm h hnd]
  exact ⟨(good_perm_files h hnd plats).mp hg, rfl⟩

theorem closed_perm_files {files files' : List SrcFile} (h : files.Perm files') (hnd : (files.map (·.path)).Nodup)
    (plats : List Plat) : (closed files plats).Perm (closed files' plats) := by
  unfold closed; rw [← lkOf_perm h hnd]; exact h.map _

/-! ## the node records of a file are a function of the platform sets of its nodes -/

theorem nodeRecs_congr {pr pr' : List (String × List Run)} (path : List String)
    (h : ∀ j, platsOf pr path j = platsOf pr' path j) (ns : List CClean.Node) :
    nodeRecs pr path ns = nodeRecs pr' path ns := by
  unfold nodeRecs; simp only [h]

theorem nodeRecs_relist {pr pr' : List (String × List Run)} (names : List String) (path : List String)
    (h : ∀ j, platsOf pr' path j = relist names (platsOf pr path j)) (ns : List CClean.Node) :
    nodeRecs pr' path ns = (nodeRecs pr path ns).map (relistNode names) := by
  unfold nodeRecs; simp only [h, List.map_map]; rfl

/-! ## the entries of a platform: only the SET matters -/

/-- same platforms in the same order, each with the same SET of database entries (permuted, repeated) -/
def SameEntries (plats plats' : List Plat) : Prop :=
  List.Forall₂ (fun p p' => p.name = p'.name ∧ ∀ e, e ∈ p.entries ↔ e ∈ p'.entries) plats plats'

theorem sameEntries_refl (plats : List Plat) : SameEntries plats plats :=
  List.forall₂_same.mpr fun _ _ => ⟨rfl, fun _ => Iff.rfl⟩

theorem any_congr_mem {α : Type} {l l' : List α} (h : ∀ a, a ∈ l ↔ a ∈ l') (q : α → Bool) : l.any q = l'.any q :=
  Bool.eq_iff_iff.mpr (by
    rw [List.any_eq_true, List.any_eq_true]; exact exists_congr fun a => and_congr_left' (h a))

theorem attributed_runsOf_congr (lk : List String → Option Parsed) {p p' : Plat} (h : ∀ e, e ∈ p.entries ↔ e ∈ p'.entries)
    (path : List String) (j : Nat) : attributed (runsOf lk p).2 path j = attributed (runsOf lk p').2 path j := by
  rw [attributed_runsOf, attributed_runsOf]
  exact any_congr_mem h _

theorem platsOf_sameEntries (lk : List String → Option Parsed) (path : List String) (j : Nat) {plats plats' : List Plat}
    (h : SameEntries plats plats') : platsOf (prOf lk plats) path j = platsOf (prOf lk plats') path j := by
  unfold SameEntries at h
  induction h with
  | nil => rfl
  | @cons p p' ps ps' hp _ ih =>
    unfold platsOf prOf at ih ⊢
    simp only [List.map_cons, List.filter_cons, attributed_runsOf_congr lk hp.2]
    split
    · simp only [List.map_cons, ih]; congr 1; exact hp.1
    · exact ih

theorem good_sameEntries (files : List SrcFile) {plats plats' : List Plat} (h : SameEntries plats plats') :
    Good files plats ↔ Good files plats' := by
  refine and_congr_right fun _ => ⟨fun g pl' hpl' e he => ?_, fun g pl hpl e he => ?_⟩
  · obtain ⟨pl, hpl, hr⟩ := ListFacts.forall₂_right h pl' hpl'
    exact g pl hpl e ((hr.2 e).mpr he)
  · obtain ⟨pl', hpl', hr⟩ := ListFacts.forall₂_left h pl hpl
    exact g pl' hpl' e ((hr.2 e).mp he)

theorem recClosed_sameEntries (lk : List String → Option Parsed) {plats plats' : List Plat} (h : SameEntries plats plats')
    (f : SrcFile) : recClosed lk plats f = recClosed lk plats' f := by
  unfold recClosed mkRec
  simp only [nodeRecs_congr f.path (fun j => platsOf_sameEntries lk f.path j h)]

theorem analyse_ok_sameEntries (files : List SrcFile) {plats plats' : List Plat} (h : SameEntries plats plats')
    (fs : List FileRec) : analyse files plats = .ok fs ↔ analyse files plats' = .ok fs := by
  rw [analyse_iff, analyse_iff, good_sameEntries files h,
    List.map_congr_left fun f _ => recClosed_sameEntries (lkOf files) h f]

theorem toOption_analyse_sameEntries (files : List SrcFile) {plats plats' : List Plat} (h : SameEntries plats plats') :
    (analyse files plats).toOption = (analyse files plats').toOption := by
  cases ha : analyse files plats with
  | ok fs => rw [(analyse_ok_sameEntries files h fs).mp ha]
  | error e =>
    cases hb : analyse files plats' with
    | ok fs => rw [(analyse_ok_sameEntries files h fs).mpr hb] at ha; cases ha
    | error e' => rfl

/-! ## sub-lists of a duplicate-free list are determined by their members -/

theorem sublist_eq_filter {names k : List String} (hnd : names.Nodup) (hs : k.Sublist names) :
    names.filter (fun x => k.contains x) = k :=
  -- two sub-lists of `names` with the same members
  (hnd.perm_iff_eq_of_sublist List.filter_sublist hs).mp <|
    (List.perm_ext_iff_of_nodup (hnd.filter _) (hnd.sublist hs)).mpr fun x => by
      rw [List.mem_filter, List.contains_iff_mem]; exact and_iff_right_of_imp fun h => hs.subset h

theorem relist_perm {names names' k : List String} (hnd : names.Nodup) (h : names.Perm names') (hs : k.Sublist names) :
    (relist names' k).Perm k :=
  (h.filter fun x => k.contains x).symm.trans (.of_eq (sublist_eq_filter hnd hs))

theorem relist_inj {names names' : List String} (hnd : names.Nodup) (h : names.Perm names') (a b : Key)
    (ha : a.Sublist names) (hb : b.Sublist names) (he : relist names' a = relist names' b) : a = b :=
  (hnd.perm_iff_eq_of_sublist ha hb).mp ((relist_perm hnd h ha).symm.trans (he ▸ relist_perm hnd h hb))

/-! ## permuting the platform tables -/

theorem good_perm_plats (files : List SrcFile) {plats plats' : List Plat} (h : plats.Perm plats') :
    Good files plats ↔ Good files plats' := by
  unfold Good
  constructor
  · rintro ⟨a, b⟩; exact ⟨a, fun pl hpl => b pl (h.mem_iff.mpr hpl)⟩
  · rintro ⟨a, b⟩; exact ⟨a, fun pl hpl => b pl (h.mem_iff.mp hpl)⟩

theorem filter_fst_perm {β : Type} {pr pr' : List (String × β)} (h : pr.Perm pr') (hnd : (pr.map (·.1)).Nodup)
    (att : String × β → Bool) :
    (pr'.filter att).map (·.1) = relist (pr'.map (·.1)) ((pr.filter att).map (·.1)) :=
  (sublist_eq_filter ((h.map _).nodup_iff.mp hnd) (List.filter_sublist.map _)).symm.trans
    (List.filter_congr fun _ _ => ((h.filter att).map _).symm.contains_eq)

theorem prOf_names (lk : List String → Option Parsed) (plats : List Plat) :
    (prOf lk plats).map (·.1) = plats.map (·.name) := by
  unfold prOf; rw [List.map_map]; rfl

theorem platsOf_perm_plats (lk : List String → Option Parsed) (path : List String) (j : Nat) {plats plats' : List Plat}
    (h : plats.Perm plats') (hnd : (plats.map (·.name)).Nodup) :
    platsOf (prOf lk plats') path j = relist (plats'.map (·.name)) (platsOf (prOf lk plats) path j) := by
  unfold platsOf
  rw [← prOf_names lk plats']
  exact filter_fst_perm (pr := prOf lk plats) (h.map (runsOf lk)) (by rw [prOf_names]; exact hnd) _

theorem recClosed_perm_plats (lk : List String → Option Parsed) {plats plats' : List Plat}
    (h : plats.Perm plats') (hnd : (plats.map (·.name)).Nodup) (f : SrcFile) :
    recClosed lk plats' f = relistRec (plats'.map (·.name)) (recClosed lk plats f) := by
  unfold recClosed mkRec relistRec
  simp only [nodeRecs_relist (plats'.map (·.name)) f.path (fun j => platsOf_perm_plats lk f.path j h hnd)]

theorem closed_perm_plats (files : List SrcFile) {plats plats' : List Plat} (h : plats.Perm plats')
    (hnd : (plats.map (·.name)).Nodup) :
    closed files plats' = (closed files plats).map (relistRec (plats'.map (·.name))) := by
  unfold closed
  rw [List.map_map]
  exact List.map_congr_left fun f _ => recClosed_perm_plats (lkOf files) h hnd f

/-- every platform set of the records is a sub-list of `names` -/
def Keyed (names : List String) (fs : List FileRec) : Prop := ∀ r ∈ fs, ∀ n ∈ r.nodes, n.plats.Sublist names

theorem recClosed_keys_sublist (lk : List String → Option Parsed) (plats : List Plat) (f : SrcFile) :
    ∀ n ∈ (recClosed lk plats f).nodes, n.plats.Sublist (plats.map (·.name)) := by
  intro n hn
  unfold recClosed mkRec nodeRecs at hn
  simp only [List.mem_map] at hn
  obtain ⟨x, _, rfl⟩ := hn
  show (platsOf (prOf lk plats) f.path x.2).Sublist _
  unfold platsOf
  rw [← prOf_names lk plats]
  exact List.filter_sublist.map _

theorem closed_keys_sublist (files : List SrcFile) (plats : List Plat) : Keyed (plats.map (·.name)) (closed files plats) := by
  intro r hr
  obtain ⟨f, _, rfl⟩ := List.mem_map.mp hr
  exact recClosed_keys_sublist _ plats f

/-! ## the sort key of the summary table -/

section sortKey
open CbiVerif.Summary

theorem listLe_eq_lexLe (a b : List String) : listLe a b = CbiVerif.Order.lexLe a b := by
  induction a generalizing b with
  | nil => rfl
  | cons a as ih =>
    cases b with
    | nil => rfl
    | cons b bs =>
      show (decide (a < b) || (a == b && listLe as bs)) =
        if a < b then true else if a = b then CbiVerif.Order.lexLe as bs else false
      rw [ih bs]
      by_cases h1 : a < b
      · rw [if_pos h1, decide_eq_true h1]; rfl
      · rw [if_neg h1, decide_eq_false h1, Bool.false_or]
        by_cases h2 : a = b
        · rw [if_pos h2, beq_iff_eq.mpr h2, Bool.true_and]
        · rw [if_neg h2, beq_eq_false_iff_ne.mpr h2]; rfl

theorem keyLe_eq (a b : Key × Nat) : keyLe a b = CbiVerif.Order.keyLe (sortStrings a.1) (sortStrings b.1) := by
  unfold keyLe CbiVerif.Order.keyLe sortStrings
  simp only [List.length_mergeSort, listLe_eq_lexLe]

theorem keyLe_trans (a b c : Key × Nat) : keyLe a b → keyLe b c → keyLe a c := by
  simp only [keyLe_eq]; exact CbiVerif.Order.keyLe_trans _ _ _

theorem keyLe_total (a b : Key × Nat) : keyLe a b || keyLe b a := by
  simp only [keyLe_eq]; exact CbiVerif.Order.keyLe_total _ _

theorem sortStrings_perm {a b : List String} (h : a.Perm b) : sortStrings a = sortStrings b := by
  unfold sortStrings
  exact CbiVerif.Order.mergeSort_eq_of_perm (le := fun a b : String => decide (a ≤ b))
    CbiVerif.Order.strLe_trans CbiVerif.Order.strLe_total (fun a _ b _ => CbiVerif.Order.strLe_antisymm a b) h

theorem perm_of_sortStrings_eq {a b : List String} (h : sortStrings a = sortStrings b) : a.Perm b := by
  unfold sortStrings at h
  exact (List.mergeSort_perm a _).symm.trans (h ▸ List.mergeSort_perm b _)

/-- on a dict whose keys are sub-lists of one duplicate-free list of names the sort key is injective -/
theorem keyLe_antisymm_on {names : List String} (hnd : names.Nodup) {sm : Setmap} (hk : (keys sm).Nodup)
    (hs : ∀ e ∈ sm, e.1.Sublist names) : ∀ a ∈ sm, ∀ b ∈ sm, keyLe a b → keyLe b a → a = b := by
  intro a ha b hb h1 h2
  rw [keyLe_eq] at h1 h2
  have hp := perm_of_sortStrings_eq (CbiVerif.Order.keyLe_antisymm _ _ h1 h2)
  have he : a.1 = b.1 := (hnd.perm_iff_eq_of_sublist (hs a ha) (hs b hb)).mp hp
  exact List.inj_on_of_nodup_map (f := fun e : Key × Nat => e.1) hk ha hb he

end sortKey

/-! ## the dict of the analysis -/

theorem getSetmap_perm {fs fs' : List FileRec} (h : fs.Perm fs') : (getSetmap fs).Perm (getSetmap fs') := by
  rw [getSetmap_eq_foldl, getSetmap_eq_foldl]
  exact foldl_add_perm _ _ ((h.filter _).flatMap_right _)

theorem key_of_getSetmap (fs : List FileRec) (e : Key × Nat) (he : e ∈ getSetmap fs) :
    ∃ r ∈ fs, ∃ n ∈ r.nodes, n.plats = e.1 := by
  have hk : e.1 ∈ keys (getSetmap fs) := List.mem_map_of_mem he
  rw [getSetmap_eq_foldl, mem_keys_foldl_add] at hk
  obtain ⟨n, hn, hp⟩ := hk.resolve_left List.not_mem_nil
  obtain ⟨r, hr, hnr⟩ := List.mem_flatMap.mp hn
  exact ⟨r, (List.mem_filter.mp hr).1, n, hnr, hp⟩

theorem getSetmap_keyed {names : List String} {fs : List FileRec} (hk : Keyed names fs) :
    ∀ e ∈ getSetmap fs, e.1.Sublist names := by
  intro e he
  obtain ⟨r, hr, n, hn, hp⟩ := key_of_getSetmap _ e he
  exact hp ▸ hk r hr n hn

theorem setmap_keys_sublist (files : List SrcFile) (plats : List Plat) :
    ∀ e ∈ getSetmap (closed files plats), e.1.Sublist (plats.map (·.name)) :=
  getSetmap_keyed (closed_keys_sublist files plats)

/-! ## the summary table of two dicts with the same items -/

open CbiVerif.Summary in
theorem rows_perm {sm sm' : Setmap} (h : sm.Perm sm')
    (anti : ∀ a ∈ sm, ∀ b ∈ sm, keyLe a b → keyLe b a → a = b) :
    rows sm = rows sm' ∧ totalCount sm = totalCount sm' := by
  have hs : sm.mergeSort keyLe = sm'.mergeSort keyLe :=
    CbiVerif.Order.mergeSort_eq_of_perm keyLe_trans keyLe_total anti h
  have ht : total sm = total sm' := CbiVerif.Order.total_perm h
  have hn : sm = [] ↔ sm' = [] := CbiVerif.Order.eq_nil_iff_of_perm h
  unfold rows totalCount
  simp only [hs, ht, ne_eq, hn, and_self]

/-! ## re-listing the keys of a dict (an injective renaming of the platform sets) -/

def ren (σ : Key → Key) (e : Key × Nat) : Key × Nat := (σ e.1, e.2)
def renNode (σ : Key → Key) (n : NodeRec) : NodeRec := { n with plats := σ n.plats }
def renRec (σ : Key → Key) (r : FileRec) : FileRec := { r with nodes := r.nodes.map (renNode σ) }

theorem relistRec_eq (names : List String) : relistRec names = renRec (relist names) := rfl
theorem relistSetmap_eq (names : List String) (sm : Setmap) : relistSetmap names sm = sm.map (ren (relist names)) := rfl

theorem total_ren (σ : Key → Key) (sm : Setmap) : CbiVerif.Order.total (sm.map (ren σ)) = CbiVerif.Order.total sm :=
  CbiVerif.Metrics.wsum_map_key σ sm fun _ => true

section ren
variable (σ : Key → Key) (P : Key → Prop) (hσ : ∀ a b, P a → P b → σ a = σ b → a = b)
include hσ

theorem addNodes_ren (ns : List NodeRec) (sm : Setmap) (hs : ∀ e ∈ sm, P e.1) (hn : ∀ n ∈ ns, P n.plats) :
    addNodes (sm.map (ren σ)) (ns.map (renNode σ)) = (addNodes sm ns).map (ren σ) := by
  unfold addNodes
  rw [List.foldl_map]
  exact foldl_add_map_key σ P hσ NodeRec.plats NodeRec.numLines ns hn sm (List.forall_mem_map.mpr hs)

theorem getSetmap_ren_fold (fs : List FileRec) : ∀ (s : Setmap), (∀ e ∈ s, P e.1) → (∀ r ∈ fs, ∀ n ∈ r.nodes, P n.plats) →
    (fs.map (renRec σ)).foldl (fun s f => if f.link then s else addNodes s f.nodes) (s.map (ren σ))
      = ((fs.foldl (fun s f => if f.link then s else addNodes s f.nodes) s)).map (ren σ) := by
  intro s hs hn
  have hl : ((fs.map (renRec σ)).filter fun f => !f.link).flatMap (·.nodes) =
      ((fs.filter fun f => !f.link).flatMap (·.nodes)).map (renNode σ) := by
    rw [List.filter_map, List.flatMap_map, List.map_flatMap]; rfl
  rw [foldl_addNodes_eq, foldl_addNodes_eq, hl, List.foldl_map]
  refine foldl_add_map_key σ P hσ NodeRec.plats NodeRec.numLines _ (fun n hn' => ?_) s (List.forall_mem_map.mpr hs)
  obtain ⟨r, hr, hnr⟩ := List.mem_flatMap.mp hn'
  exact hn r (List.mem_filter.mp hr).1 n hnr

/-- **the dict of the re-listed analysis is the re-listed dict**: same items in the same insertion order -/
theorem getSetmap_ren (fs : List FileRec) (hn : ∀ r ∈ fs, ∀ n ∈ r.nodes, P n.plats) :
    getSetmap (fs.map (renRec σ)) = (getSetmap fs).map (ren σ) :=
  getSetmap_ren_fold σ P hσ fs [] nofun hn

end ren

/-- a `σ` that only re-lists sub-lists of one duplicate-free list of names is injective on them -/
theorem getSetmap_relist {names : List String} (hnd : names.Nodup) {fs : List FileRec} (hk : Keyed names fs) (σ : Key → Key)
    (hσ : ∀ k : Key, k.Sublist names → (σ k).Perm k) : getSetmap (fs.map (renRec σ)) = (getSetmap fs).map (ren σ) :=
  getSetmap_ren σ (·.Sublist names)
    (fun a b ha hb he => (hnd.perm_iff_eq_of_sublist ha hb).mp ((hσ a ha).symm.trans (he ▸ hσ b hb))) fs hk

open CbiVerif.Summary in
/-- what is PRINTED of the table does not change when every key is listed in another order -/
theorem printed_rows_ren (σ : Key → Key) (sm : Setmap) (hperm : ∀ e ∈ sm, (σ e.1).Perm e.1) :
    printed (rows (sm.map (ren σ))) = printed (rows sm) ∧ totalCount (sm.map (ren σ)) = totalCount sm := by
  have htot : total (sm.map (ren σ)) = total sm := total_ren σ sm
  -- the sort key reads a key through `sortStrings`, so `ren σ` commutes with the sort
  have hs : (sm.mergeSort keyLe).map (ren σ) = (sm.map (ren σ)).mergeSort keyLe :=
    List.map_mergeSort fun a ha b hb => by
      rw [keyLe_eq, keyLe_eq]
      simp only [ren, sortStrings_perm (hperm a ha), sortStrings_perm (hperm b hb)]
  constructor
  · unfold printed rows
    -- the same test on both sides, then row by row
    simp only [htot, ← hs, ne_eq, List.map_eq_nil_iff]
    split
    · rfl
    · simp only [Option.map_some, List.map_map]
      refine congrArg some (List.map_congr_left fun e he => ?_)
      simp only [Function.comp, mkRow, ren, rowName, sortStrings_perm (hperm e (List.mem_mergeSort.mp he))]
  · unfold totalCount
    rw [← hs, List.map_map]
    rfl

/-! ## coverage and per-line attribution under re-listing -/

theorem split_ren (σ : Key → Key) (ns : List NodeRec) (h : ∀ n ∈ ns, (σ n.plats).isEmpty = n.plats.isEmpty) :
    CbiVerif.Cov.split (ns.map (renNode σ)) = CbiVerif.Cov.split ns := by
  unfold CbiVerif.Cov.split
  generalize (⟨[], []⟩ : CbiVerif.Cov.Split) = s
  induction ns generalizing s with
  | nil => rfl
  | cons n ns ih =>
    simp only [List.map_cons, List.foldl_cons]
    have : (renNode σ n).plats.isEmpty = n.plats.isEmpty := h n List.mem_cons_self
    rw [this]
    exact ih (fun n' hn' => h n' (List.mem_cons_of_mem _ hn')) _

theorem compute_ren (σ : Key → Key) (fs : List FileRec) (h : ∀ r ∈ fs, ∀ n ∈ r.nodes, (σ n.plats).Perm n.plats) :
    CbiVerif.Cov.compute (fs.map (renRec σ)) = CbiVerif.Cov.compute fs := by
  unfold CbiVerif.Cov.compute
  rw [List.filter_map, List.map_map]
  have : ((fun f : FileRec => !f.link) ∘ renRec σ) = fun f : FileRec => !f.link := rfl
  rw [this]
  apply List.map_congr_left
  intro r hr
  have hr' : r ∈ fs := (List.mem_filter.mp hr).1
  simp only [Function.comp]
  show ((renRec σ r).path, CbiVerif.Cov.split (r.nodes.map (renNode σ))) = _
  rw [split_ren σ r.nodes (fun n hn => (h r hr' n hn).isEmpty_eq)]
  rfl

theorem covExport_ren (σ : Key → Key) (fs : List FileRec) (h : ∀ r ∈ fs, ∀ n ∈ r.nodes, (σ n.plats).Perm n.plats) :
    covExport (fs.map (renRec σ)) = covExport fs := by
  unfold covExport; rw [compute_ren σ fs h]

theorem attrOf_ren (σ : Key → Key) (r : FileRec) (h : ∀ n ∈ r.nodes, (σ n.plats).Perm n.plats) :
    attrOf (renRec σ r) = attrOf r := by
  unfold attrOf
  show (r.nodes.map (renNode σ)).flatMap _ = _
  rw [List.flatMap_map]
  apply List.flatMap_congr
  intro n hn
  show n.lines.map (fun l => (l, CbiVerif.Summary.sortStrings (σ n.plats))) = _
  rw [sortStrings_perm (h n hn)]

theorem attrExport_ren (σ : Key → Key) (fs : List FileRec) (h : ∀ r ∈ fs, ∀ n ∈ r.nodes, (σ n.plats).Perm n.plats) :
    attrExport (fs.map (renRec σ)) = attrExport fs := by
  unfold attrExport
  rw [List.map_map]
  congr 1
  apply List.map_congr_left
  intro r hr
  simp only [Function.comp, attrOf_ren σ r (h r hr)]
  rfl

/-! ## the sorted exports under permutation of the files -/

theorem closed_names (files : List SrcFile) (plats : List Plat) :
    (closed files plats).map (fun r => fileName r.path) = files.map fun f => fileName f.path := by
  unfold closed; simp only [List.map_map]; rfl

theorem nodup_paths_of_names {files : List SrcFile} (hnd : (files.map fun f => fileName f.path).Nodup) :
    (files.map (·.path)).Nodup :=
  List.Nodup.of_map fileName (by rw [List.map_map]; exact hnd)

theorem attrLe_trans (a b c : String × List (Nat × List String)) : attrLe a b → attrLe b c → attrLe a c :=
  CbiVerif.Order.strLe_trans a.1 b.1 c.1

theorem attrLe_total (a b : String × List (Nat × List String)) : attrLe a b || attrLe b a :=
  CbiVerif.Order.strLe_total a.1 b.1

theorem attrExport_perm {fs fs' : List FileRec} (h : fs.Perm fs') (hnd : (fs.map fun r => fileName r.path).Nodup) :
    attrExport fs = attrExport fs' :=
  CbiVerif.Order.mergeSort_key_eq_of_perm Prod.fst (by rw [List.map_map]; exact hnd) (h.map _)

theorem covExport_perm {fs fs' : List FileRec} (h : fs.Perm fs') (hnd : (fs.map fun r => fileName r.path).Nodup) :
    covExport fs = covExport fs' := by
  refine CbiVerif.Order.mergeSort_key_eq_of_perm CbiVerif.Order.CovRecord.file ?_ (((h.filter _).map _).map _)
  unfold CbiVerif.Cov.compute
  rw [List.map_map, List.map_map]
  exact hnd.sublist (List.filter_sublist.map _)

/-! ## readings of the analysis result -/

/-- every reading `r` of the analysis result: two presentations that raise together and on which the closed forms read
    the same are read the same (`none` = the analysis raises) -/
theorem map_analyse_eq_of_good {β : Type} (r : List FileRec → β) {files files' : List SrcFile} {plats plats' : List Plat}
    (hg : Good files plats ↔ Good files' plats')
    (hc : Good files plats → Good files' plats' → r (closed files plats) = r (closed files' plats')) :
    (analyse files plats).toOption.map r = (analyse files' plats').toOption.map r := by
  by_cases h : Good files plats
  · rw [analyse_closed files plats h, analyse_closed files' plats' (hg.mp h)]
    exact congrArg some (hc h (hg.mp h))
  · rw [analyse_not_good h, analyse_not_good fun x => h (hg.mpr x)]

/-! For any reading `r` of the records: one that does not depend on the order of the records does not depend on the order of
    the files; one that does not change when every platform set is listed in another order does not depend on the order of
    the platform tables (and none depends on the arrangement of the database entries: `toOption_analyse_sameEntries`).  The
    readings of the dict (`g (getSetmap fs)`, by `getSetmap_perm` and `getSetmap_ren`) and `canonOf` are instances. -/

theorem map_analyse_perm_files {β : Type} (r : List FileRec → β) {files files' : List SrcFile} (hf : files.Perm files')
    (hnd : (files.map (·.path)).Nodup) (plats : List Plat)
    (hr : ∀ fs fs' : List FileRec, fs.Perm fs' → fs.map (·.path) = files.map (·.path) → Keyed (plats.map (·.name)) fs →
      r fs = r fs') :
    (analyse files plats).toOption.map r = (analyse files' plats).toOption.map r :=
  map_analyse_eq_of_good r (good_perm_files hf hnd plats) fun _ _ =>
    hr _ _ (closed_perm_files hf hnd plats) (by unfold closed; rw [List.map_map]; rfl) (closed_keys_sublist files plats)

theorem map_analyse_perm_plats {β : Type} (r : List FileRec → β) (files : List SrcFile) {plats plats' : List Plat}
    (hp : plats.Perm plats') (hpn : (plats.map (·.name)).Nodup)
    (hr : ∀ (σ : Key → Key) (fs : List FileRec), Keyed (plats.map (·.name)) fs →
      (∀ k : Key, k.Sublist (plats.map (·.name)) → (σ k).Perm k) → r (fs.map (renRec σ)) = r fs) :
    (analyse files plats).toOption.map r = (analyse files plats').toOption.map r :=
  map_analyse_eq_of_good r (good_perm_plats files hp) fun _ _ => by
    rw [closed_perm_plats files hp hpn, relistRec_eq]
    exact (hr _ _ (closed_keys_sublist files plats) fun k hk => relist_perm hpn (hp.map _) hk).symm

section canonOf
variable {names : List String} (hpn : names.Nodup) {fs : List FileRec} (hk : Keyed names fs)
include hpn hk

theorem canonOf_perm {fs' : List FileRec} (h : fs.Perm fs') (hnd : (fs.map fun r => fileName r.path).Nodup) :
    canonOf fs = canonOf fs' := by
  obtain ⟨hr, ht⟩ := rows_perm (getSetmap_perm h) (keyLe_antisymm_on hpn (nodup_keys_getSetmap _) (getSetmap_keyed hk))
  unfold canonOf
  rw [hr, ht, covExport_perm h hnd, attrExport_perm h hnd]

open CbiVerif.Summary in
theorem printed_rows_relist (σ : Key → Key) (hσ : ∀ k : Key, k.Sublist names → (σ k).Perm k) :
    printed (rows (getSetmap (fs.map (renRec σ)))) = printed (rows (getSetmap fs)) ∧
      totalCount (getSetmap (fs.map (renRec σ))) = totalCount (getSetmap fs) := by
  rw [getSetmap_relist hpn hk σ hσ]
  exact printed_rows_ren σ (getSetmap fs) fun e he => hσ _ (getSetmap_keyed hk e he)

theorem canonOf_ren (σ : Key → Key) (hσ : ∀ k : Key, k.Sublist names → (σ k).Perm k) :
    canonOf (fs.map (renRec σ)) = canonOf fs := by
  have hperm : ∀ r ∈ fs, ∀ n ∈ r.nodes, (σ n.plats).Perm n.plats := fun r hr n hn => hσ _ (hk r hr n hn)
  obtain ⟨hrows, htot⟩ := printed_rows_relist hpn hk σ hσ
  unfold canonOf
  rw [hrows, htot, covExport_ren _ _ hperm, attrExport_ren _ _ hperm]

end canonOf

theorem resultsOfTexts_eq (files : List SrcFile) (plats : List Plat) :
    resultsOfTexts files plats = (analyse files plats).toOption.map canonOf := by
  unfold resultsOfTexts; cases analyse files plats <;> rfl

theorem setmapOfTexts_ok {files : List SrcFile} {plats : List Plat} {sm : Setmap} :
    setmapOfTexts files plats = .ok sm ↔ ∃ fs, analyse files plats = .ok fs ∧ getSetmap fs = sm := by
  unfold setmapOfTexts
  cases analyse files plats with
  | error e => exact ⟨nofun, fun ⟨_, h, _⟩ => nomatch h⟩
  | ok fs => exact ⟨fun h => ⟨fs, rfl, Except.ok.inj h⟩, fun ⟨_, h, e⟩ => Except.ok.inj h ▸ e ▸ rfl⟩

theorem map_getSetmap_of_ok {β : Type} {files : List SrcFile} {plats : List Plat} {sm : Setmap}
    (h : setmapOfTexts files plats = .ok sm) (g : Setmap → β) :
    (analyse files plats).toOption.map (fun fs => g (getSetmap fs)) = some (g sm) := by
  obtain ⟨fs, ha, rfl⟩ := setmapOfTexts_ok.mp h
  rw [ha]; rfl

/-- the other way round, from a reading that shows the dict -/
theorem setmapOfTexts_of_map {β : Type} {files : List SrcFile} {plats : List Plat} {r : List FileRec → β} {sm : Setmap} {y : β}
    (h : (analyse files plats).toOption.map (fun fs => (getSetmap fs, r fs)) = some (sm, y)) :
    setmapOfTexts files plats = .ok sm := by
  unfold setmapOfTexts
  cases ha : analyse files plats with
  | error e => rw [ha] at h; cases h
  | ok fs => rw [ha] at h; exact congrArg (fun x => Except.ok x.1) (Option.some.inj h)

end CbiVerif.C14C
