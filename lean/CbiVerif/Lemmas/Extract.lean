import CbiVerif.Lemmas.ListFacts
import CbiVerif.Spec.Extract
/-! C11 helper lemmas about the property-level extractor alone: how the lists of two stretches of a command line
combine (`Lists.append`, with unit and associativity), that the scan may be cut after a complete prefix
(`lists_append`), what `reading` says of the forms of an argument, and the lists of a command line built from
items (`lists_items`; the definitions in force: `inForce_sublist`, `mem_inForce`). -/
namespace CbiVerif.ExtractLemmas
open CbiVerif.Extract

theorem surviving_nil (ds : List (List Char)) : surviving ds [] = ds := by
  simp [surviving]

theorem nil_surviving (us : List (List Char)) : surviving [] us = [] := by
  simp [surviving]

theorem surviving_append (ds es us : List (List Char)) : surviving (ds ++ es) us = surviving ds us ++ surviving es us := by
  simp [surviving]

theorem surviving_surviving (ds us vs : List (List Char)) : surviving (surviving ds us) vs = surviving ds (us ++ vs) := by
  simp only [surviving, List.filter_filter]
  congr 1
  funext d
  simp only [List.contains_eq_mem, List.mem_append, Bool.decide_or]
  cases decide (macroName d ∈ us) <;> cases decide (macroName d ∈ vs) <;> rfl

theorem mem_surviving {d : List Char} {ds us : List (List Char)} : d ∈ surviving ds us ↔ d ∈ ds ∧ macroName d ∉ us := by
  simp [surviving]

theorem Lists.append_empty (l : Lists) : l.append {} = l := by
  cases l; simp [Lists.append, surviving_nil]

theorem Lists.empty_append (l : Lists) : Lists.append {} l = l := by
  cases l; simp [Lists.append, nil_surviving]

theorem Lists.append_assoc (a b c : Lists) : (a.append b).append c = a.append (b.append c) := by
  simp [Lists.append, surviving_append, surviving_surviving]

theorem Lists.add_eq (l : Lists) (f : Flag) (v : List Char) : l.add f v = l.append (Lists.add {} f v) := by
  cases f <;> simp [Lists.add, Lists.append, surviving_nil, nil_surviving]

theorem Lists.append_add (l m : Lists) (f : Flag) (v : List Char) : (l.append m).add f v = l.append (m.add f v) := by
  rw [Lists.add_eq, Lists.append_assoc, ← Lists.add_eq]

/-- what stands in front of the accumulator stays in front of the result -/
theorem scan_append_acc (l m : Lists) (sp : Option Flag) (xs : List (List Char)) :
    scan sp (l.append m) xs = l.append (scan sp m xs) := by
  fun_induction scan sp m xs with
  | case1 => simp only [scan]
  | case2 f m a rest ih => rw [scan, Lists.append_add, ih]
  | case3 m a rest hr ih => rw [scan, hr]; exact ih
  | case4 m a rest f hr ih => rw [scan, hr]; exact ih
  | case5 m a rest f v hr ih => rw [scan, hr]; simp only []; rw [Lists.append_add, ih]

theorem scan_acc : ∀ (xs : List (List Char)) (sp : Option Flag) (l : Lists),
    scan sp l xs = l.append (scan sp {} xs) := fun xs sp l => by
  simpa only [Lists.append_empty] using scan_append_acc l {} sp xs

theorem scan_append (xs ys : List (List Char)) (sp : Option Flag) (l : Lists) (h : completeFrom sp xs = true) :
    scan sp l (xs ++ ys) = scan none (scan sp l xs) ys := by
  fun_induction completeFrom sp xs generalizing l with
  | case1 => rfl
  | case2 => cases h
  | case3 f a rest ih => exact ih _ h
  | case4 a rest f hr ih => simp only [List.cons_append, scan, hr]; exact ih _ h
  | case5 a rest hr ih =>
    cases hr' : reading a with
    | sep f => exact absurd hr' (hr f)
    | _ => simp only [List.cons_append, scan, hr']; exact ih _ h

/-- a complete prefix contributes its own lists, the rest is read independently -/
theorem lists_append (xs ys : List (List Char)) (h : Complete xs) :
    lists (xs ++ ys) = (lists xs).append (lists ys) := by
  unfold lists
  rw [scan_append xs ys none {} h, scan_acc ys none (scan none {} xs)]

theorem complete_append (xs ys : List (List Char)) (sp : Option Flag) (h : completeFrom sp xs = true)
    (h2 : completeFrom none ys = true) : completeFrom sp (xs ++ ys) = true := by
  fun_induction completeFrom sp xs with
  | case1 => exact h2
  | case2 => cases h
  | case3 f a rest ih => exact ih h
  | case4 a rest f hr ih => simp only [List.cons_append, completeFrom, hr]; exact ih h
  | case5 a rest hr ih => simp only [List.cons_append, completeFrom]; exact ih h

theorem stripPrefix_append : ∀ (p r : List Char), stripPrefix p (p ++ r) = some r
  | [], r => by simp [stripPrefix]
  | p :: ps, r => by simp [stripPrefix, stripPrefix_append ps r]

theorem stripPrefix_none (p a : List Char) (h : p.isPrefixOf a = false) : stripPrefix p a = none := by
  fun_induction stripPrefix p a with
  | case1 => cases h
  | case2 => rfl
  | case3 c ps cs ih => exact ih (by simpa using h)
  | case4 => rfl

theorem reading_sep (f : Flag) : reading f.text = .sep f := by cases f <;> decide

theorem reading_other {a : List Char} (h : ∀ f : Flag, f.text.isPrefixOf a = false) : reading a = .other := by
  have hs : ∀ f : Flag, stripPrefix f.text a = none := fun f => stripPrefix_none _ _ (h f)
  simp only [reading, allFlags, readingFrom, hs]

theorem reading_att (f : Flag) (v : List Char) (hv : v ≠ []) : reading (f.text ++ v) = .att f v := by
  cases v with
  | nil => exact absurd rfl hv
  | cons c cs =>
    cases f <;> simp [reading, readingFrom, allFlags, Flag.text, stripPrefix]

theorem Lists.get_add_empty (f g : Flag) (v : List Char) :
    (Lists.add {} f v).get g = (if f = g then some v else none).toList := by
  cases f <;> cases g <;> rfl

theorem lists_item (it : Item) (h : it.WF) :
    Complete it.render ∧ ∀ g, (lists it.render).get g = (it.value? g).toList := by
  cases it with
  | sep f v =>
    refine ⟨by simp [Complete, Item.render, completeFrom, reading_sep], fun g => ?_⟩
    simp only [lists, Item.render, scan, reading_sep, Item.value?]
    exact Lists.get_add_empty f g v
  | att f v =>
    have hr := reading_att f v h
    refine ⟨by simp [Complete, Item.render, completeFrom, hr], fun g => ?_⟩
    simp only [lists, Item.render, scan, hr, Item.value?]
    exact Lists.get_add_empty f g v
  | other u =>
    have hr : reading u = .other := h
    refine ⟨by simp [Complete, Item.render, completeFrom, hr], fun g => ?_⟩
    simp only [lists, Item.render, scan, hr, Item.value?]
    cases g <;> rfl

/-- every list but the definitions is a plain concatenation -/
theorem Lists.get_append (a b : Lists) (g : Flag) (hg : g ≠ .D) : (a.append b).get g = a.get g ++ b.get g := by
  cases g <;> simp [Lists.append, Lists.get] at hg ⊢

theorem Lists.defines_append (a b : Lists) : (a.append b).defines = surviving a.defines b.undefs ++ b.defines := rfl

/-- a command line built from items: it is complete; every list but the definitions is the sequence of that
flag's values (for `-U`: the names) in command-line order; the definitions are the `-D` values in force -/
theorem lists_items : ∀ (items : List Item), (∀ it ∈ items, it.WF) →
    Complete (renderAll items) ∧ (∀ g, g ≠ .D → (lists (renderAll items)).get g = items.filterMap (Item.value? g)) ∧
    (lists (renderAll items)).defines = inForce items
  | [], _ => ⟨by simp [Complete, renderAll, completeFrom], by intro g _; cases g <;> simp [renderAll, lists, scan, Lists.get],
      by simp [renderAll, lists, scan, inForce]⟩
  | it :: rest, h => by
    have hit := lists_item it (h it (by simp))
    have ih := lists_items rest (fun x hx => h x (by simp [hx]))
    have e : renderAll (it :: rest) = it.render ++ renderAll rest := by simp [renderAll]
    rw [e]
    refine ⟨complete_append _ _ none hit.1 ih.1, ?_, ?_⟩
    · intro g hg
      rw [lists_append _ _ hit.1, Lists.get_append _ _ _ hg, hit.2 g, ih.2.1 g hg, ListFacts.filterMap_cons_toList]
    · have hd := hit.2 .D
      have hu := ih.2.1 .U (by decide)
      simp only [Lists.get] at hd hu
      rw [lists_append _ _ hit.1, Lists.defines_append, hd, hu, ih.2.2]
      rfl

theorem inForce_no_undef : ∀ (items : List Item), (∀ it ∈ items, it.value? .U = none) →
    inForce items = items.filterMap (Item.value? .D)
  | [], _ => rfl
  | it :: rest, h => by
    have hr : rest.filterMap (Item.value? .U) = [] := by
      rw [List.filterMap_eq_nil_iff]; intro x hx; exact h x (by simp [hx])
    rw [inForce, hr, surviving_nil, inForce_no_undef rest (fun x hx => h x (by simp [hx])), ListFacts.filterMap_cons_toList]

/-- the definitions in force are a subsequence of the `-D` values: order is kept, nothing is invented -/
theorem inForce_sublist : ∀ (items : List Item), (inForce items).Sublist (items.filterMap (Item.value? .D))
  | [] => List.Sublist.refl _
  | it :: rest => by
    rw [ListFacts.filterMap_cons_toList]
    exact List.filter_sublist.append (inForce_sublist rest)

/-- a `-D` value is in force at the end iff it is the value of some `-D` item
that no later `-U` item names -/
theorem mem_inForce (items : List Item) (d : List Char) :
    d ∈ inForce items ↔ ∃ pre it post, items = pre ++ it :: post ∧ it.value? .D = some d ∧
      macroName d ∉ post.filterMap (Item.value? .U) := by
  induction items with
  | nil => simp [inForce]
  | cons it rest ih =>
    simp only [inForce, List.mem_append, ih, mem_surviving, Option.mem_toList]
    constructor
    · rintro (⟨h1, h2⟩ | ⟨pre, it', post, rfl, h1, h2⟩)
      · exact ⟨[], it, rest, rfl, h1, h2⟩
      · exact ⟨it :: pre, it', post, rfl, h1, h2⟩
    · rintro ⟨pre, it', post, he, h1, h2⟩
      rcases List.cons_eq_append_iff.mp he with ⟨rfl, he⟩ | ⟨pre', rfl, rfl⟩
      · cases he; exact .inl ⟨h1, h2⟩
      · exact .inr ⟨pre', it', post, rfl, h1, h2⟩

end CbiVerif.ExtractLemmas
