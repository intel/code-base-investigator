import CbiVerif.Model.Assoc
/-! Lemmas for `C01.assoc_eq_ref`: over every structured program the visitor over the built tree and the flat
reference machine make the same change to world and attribution and no other (`joint`, by mutual induction over
`Item/Block/Conts`, with `skip`: an inactive reference ignores a block).  That the two stay related (`Rel`, `sim`) and
that an active block leaves the stack as it found it (`balanced`) are read off. -/
namespace CbiVerif.Cond
variable {Env : Type}

theorem refRun_append (M : Sem Env) (r : RState Env) (xs ys : List Lbl) :
    refRun M r (xs ++ ys) = refRun M (refRun M r xs) ys := by
  simp [refRun, List.foldl_append]

theorem refRun_cons (M : Sem Env) (r : RState Env) (l : Lbl) (ls : List Lbl) :
    refRun M r (l :: ls) = refRun M (refStep M r l) ls := rfl

theorem refRun_single (M : Sem Env) (r : RState Env) (l : Lbl) : refRun M r [l] = refStep M r l := rfl

theorem visitList_append (M : Sem Env) (st : AState Env) (xs ys : List Tree) :
    visitList M st (xs ++ ys) = visitList M (visitList M st xs) ys := by
  induction xs generalizing st with
  | nil => simp [visitList]
  | cons x xs ih => simp [visitList, ih]

/-! ## one step of the reference machine on a conditional directive, by the shape of the top frame -/

theorem refStep_if (M : Sem Env) {r : RState Env} (id p : Nat) (h : r.active = true) :
    refStep M r ⟨id, .ifk, p⟩ =
      { r with σ := (M.evalIf r.σ p).2, out := r.out ++ [id], stack := ⟨true, (M.evalIf r.σ p).1, (M.evalIf r.σ p).1, false⟩ :: r.stack } := by
  simp [refStep, h]

theorem refStep_elif_taken (M : Sem Env) {r : RState Env} {a : Bool} {fs : List CFrame} (id p : Nat)
    (h : r.stack = ⟨true, true, a, false⟩ :: fs) :
    refStep M r ⟨id, .elifk, p⟩ = { r with out := r.out ++ [id], stack := ⟨true, true, false, false⟩ :: fs } := by
  simp [refStep, h]

theorem refStep_elif_open (M : Sem Env) {r : RState Env} {a : Bool} {fs : List CFrame} (id p : Nat)
    (h : r.stack = ⟨true, false, a, false⟩ :: fs) :
    refStep M r ⟨id, .elifk, p⟩ =
      { r with σ := (M.evalIf r.σ p).2, out := r.out ++ [id], stack := ⟨true, (M.evalIf r.σ p).1, (M.evalIf r.σ p).1, false⟩ :: fs } := by
  simp [refStep, h]

theorem refStep_else (M : Sem Env) {r : RState Env} {t a : Bool} {fs : List CFrame} (id : Nat)
    (h : r.stack = ⟨true, t, a, false⟩ :: fs) :
    refStep M r ⟨id, .elsek, 0⟩ = { r with out := r.out ++ [id], stack := ⟨true, true, !t, true⟩ :: fs } := by
  simp [refStep, h]

theorem refStep_endif (M : Sem Env) {r : RState Env} {t a e : Bool} {fs : List CFrame} (id : Nat)
    (h : r.stack = ⟨true, t, a, e⟩ :: fs) :
    refStep M r ⟨id, .endk, 0⟩ = { r with out := r.out ++ [id], stack := fs } := by
  simp [refStep, h]

mutual
theorem Item.skip (M : Sem Env) (i : Item) (r : RState Env) (h : r.active = false) :
    refRun M r i.lines = r := by
  cases i with
  | code id => simp [Item.lines, refRun, refStep, h]
  | dir id p => simp [Item.lines, refRun, refStep, h]
  | cond id p b rest =>
    have e : refStep M r ⟨id, .ifk, p⟩ = { r with stack := ⟨false, true, false, false⟩ :: r.stack } := by
      simp [refStep, h]
    rw [Item.lines, refRun_cons, e, refRun_append, Block.skip M b _ rfl]
    exact Conts.skipDead M rest r
theorem Block.skip (M : Sem Env) (b : Block) (r : RState Env) (h : r.active = false) :
    refRun M r b.lines = r := by
  cases b with
  | nil => rfl
  | cons i b => rw [Block.lines, refRun_append, Item.skip M i r h, Block.skip M b r h]
theorem Conts.skipDead (M : Sem Env) (c : Conts) (r : RState Env) :
    refRun M { r with stack := ⟨false, true, false, false⟩ :: r.stack } c.lines = r := by
  cases c with
  | endif id => simp [Conts.lines, refRun, refStep]
  | elif id p b rest =>
    have e : refStep M { r with stack := ⟨false, true, false, false⟩ :: r.stack } ⟨id, .elifk, p⟩
        = { r with stack := ⟨false, true, false, false⟩ :: r.stack } := by
      simp [refStep]
    rw [Conts.lines, refRun_cons, e, refRun_append, Block.skip M b _ rfl]
    exact Conts.skipDead M rest r
  | els id b e =>
    have e1 : refStep M { r with stack := ⟨false, true, false, false⟩ :: r.stack } ⟨id, .elsek, 0⟩
        = { r with stack := ⟨false, true, false, true⟩ :: r.stack } := by
      simp [refStep]
    rw [Conts.lines, refRun_cons, e1, refRun_append, Block.skip M b _ rfl]
    simp [refRun, refStep]
end

/-! ## both machines on a structured program

From states with the same world and the same attributed ids, on a block whose lines the reference processes (`v`: the
current group is active; the visitor descends into it exactly then), both machines make the same change to world and
attribution and no other: `branch_taken`, the reference's stack and the two failure flags are as before.  After a chain's
open group, `branch_taken` loses its head and the reference its top frame. -/

mutual
theorem Item.joint (M : Sem Env) (i : Item) (st : AState Env) (r : RState Env) (he : st.σ = r.σ) (ho : st.out = r.out)
    (ha : r.active = true) :
    ∃ σ' o', visitList M st i.trees = { st with σ := σ', out := o' } ∧ refRun M r i.lines = { r with σ := σ', out := o' } := by
  obtain ⟨σ, tk, out, cr⟩ := st
  obtain ⟨_, stack, _, bad⟩ := r
  cases he; cases ho
  cases i with
  | code id => exact ⟨σ, out ++ [id], by simp only [Item.trees, visitList, visit], by simp [Item.lines, refRun, refStep, ha]⟩
  | dir id p =>
    exact ⟨M.exec σ p, out ++ [id], by simp only [Item.trees, visitList, visit], by simp [Item.lines, refRun, refStep, ha]⟩
  | cond id p b rest =>
    rw [Item.lines, Item.trees, refRun_cons, refStep_if M id p ha, refRun_append]
    simp only [visitList, visit]
    generalize M.evalIf σ p = v
    obtain ⟨σ1, o1, h1, h2⟩ := Block.joint M b v.1 ⟨v.2, v.1 :: tk, out ++ [id], cr⟩
      ⟨v.2, ⟨true, v.1, v.1, false⟩ :: stack, out ++ [id], bad⟩ rfl rfl rfl
    rw [h1, h2]
    exact Conts.joint M rest _ _ rfl rfl rfl rfl
theorem Block.joint (M : Sem Env) (b : Block) (v : Bool) (st : AState Env) (r : RState Env) (he : st.σ = r.σ)
    (ho : st.out = r.out) (ha : r.active = v) :
    ∃ σ' o', (if v then visitList M st b.trees else st) = { st with σ := σ', out := o' } ∧
      refRun M r b.lines = { r with σ := σ', out := o' } := by
  cases v with
  | false => exact ⟨st.σ, st.out, rfl, by rw [Block.skip M b r ha, he, ho]⟩
  | true =>
    rw [if_pos rfl]
    cases b with
    | nil => exact ⟨st.σ, st.out, rfl, by rw [he, ho]; rfl⟩
    | cons i b =>
      rw [Block.trees, Block.lines, visitList_append, refRun_append]
      obtain ⟨σ1, o1, h1, h2⟩ := Item.joint M i st r he ho ha
      rw [h1, h2]
      exact Block.joint M b true _ _ rfl rfl ha
theorem Conts.joint (M : Sem Env) (c : Conts) (st : AState Env) (r : RState Env) (he : st.σ = r.σ) (ho : st.out = r.out)
    {t a : Bool} {tk : List Bool} {fs : List CFrame} (hs : r.stack = ⟨true, t, a, false⟩ :: fs) (ht : st.taken = t :: tk) :
    ∃ σ' o', visitList M st c.trees = { st with σ := σ', out := o', taken := tk } ∧
      refRun M r c.lines = { r with σ := σ', out := o', stack := fs } := by
  obtain ⟨σ, _, out, cr⟩ := st
  obtain ⟨_, _, _, bad⟩ := r
  cases he; cases ho; cases hs; cases ht
  cases c with
  | endif id =>
    exact ⟨σ, out ++ [id], by simp only [Conts.trees, visitList, visit], by rw [Conts.lines, refRun_single, refStep_endif M id rfl]⟩
  | elif id p b rest =>
    rw [Conts.lines, Conts.trees, refRun_cons, refRun_append]
    simp only [visitList, visit]
    cases t with
    | true =>
      rw [refStep_elif_taken M id p rfl, Block.skip M b _ rfl, if_pos rfl]
      exact Conts.joint M rest _ _ rfl rfl rfl rfl
    | false =>
      rw [refStep_elif_open M id p rfl, if_neg Bool.false_ne_true]
      generalize M.evalIf σ p = v
      obtain ⟨σ1, o1, h1, h2⟩ := Block.joint M b v.1 ⟨v.2, v.1 :: tk, out ++ [id], cr⟩
        ⟨v.2, ⟨true, v.1, v.1, false⟩ :: fs, out ++ [id], bad⟩ rfl rfl rfl
      rw [h1, h2]
      exact Conts.joint M rest _ _ rfl rfl rfl rfl
  | els id b e =>
    rw [Conts.lines, Conts.trees, refRun_cons, refStep_else M id rfl, refRun_append, refRun_single]
    simp only [visitList, visit]
    obtain ⟨σ1, o1, h1, h2⟩ := Block.joint M b (!t) ⟨σ, true :: tk, out ++ [id], cr⟩
      ⟨σ, ⟨true, true, !t, true⟩ :: fs, out ++ [id], bad⟩ rfl rfl rfl
    rw [h2, refStep_endif M e rfl]
    cases t with
    | true => cases h1; exact ⟨_, _, rfl, rfl⟩
    | false => rw [if_neg Bool.false_ne_true, (if_pos rfl).symm.trans h1]; exact ⟨_, _, rfl, rfl⟩
end

theorem Item.balanced (M : Sem Env) (i : Item) (r : RState Env) (h : r.active = true) :
    (refRun M r i.lines).stack = r.stack := by
  obtain ⟨_, _, -, h2⟩ := Item.joint M i ⟨r.σ, [], r.out, false⟩ r rfl rfl h
  rw [h2]

theorem Block.balanced (M : Sem Env) (b : Block) (r : RState Env) (h : r.active = true) :
    (refRun M r b.lines).stack = r.stack := by
  obtain ⟨_, _, -, h2⟩ := Block.joint M b true ⟨r.σ, [], r.out, false⟩ r rfl rfl h
  rw [h2]

theorem Conts.balanced (M : Sem Env) (c : Conts) (r : RState Env) (t a : Bool) (fs : List CFrame)
    (h : r.stack = ⟨true, t, a, false⟩ :: fs) : (refRun M r c.lines).stack = fs := by
  obtain ⟨_, _, -, h2⟩ := Conts.joint M c ⟨r.σ, [t], r.out, false⟩ r rfl rfl h rfl
  rw [h2]

def AllAct (fs : List CFrame) : Prop := ∀ f ∈ fs, f.parentActive = true ∧ f.active = true

/-- visitor state and reference state agree: same world, same attributed ids in the same order,
`branch_taken` = the `taken` flags of the reference stack, every open group active, and neither
side has raised / diagnosed anything. -/
structure Rel (st : AState Env) (r : RState Env) : Prop where
  env : st.σ = r.σ
  out : st.out = r.out
  tk : st.taken = r.stack.map (·.taken)
  act : AllAct r.stack
  ok : st.crash = false ∧ r.bad = false

theorem Rel.active {st : AState Env} {r : RState Env} (h : Rel st r) : r.active = true := by
  unfold RState.active
  cases hs : r.stack with
  | nil => rfl
  | cons f fs => exact (h.act f (by simp [hs])).2

/-- relation while inside a conditional whose top frame is `⟨true, t, a, false⟩`, rest fully active -/
structure RelIn (t : Bool) (st : AState Env) (r : RState Env) : Prop where
  env : st.σ = r.σ
  out : st.out = r.out
  stk : ∃ a fs, r.stack = ⟨true, t, a, false⟩ :: fs ∧ (t = false → a = false) ∧ st.taken = t :: fs.map (·.taken) ∧ AllAct fs
  ok : st.crash = false ∧ r.bad = false

theorem Item.sim (M : Sem Env) (i : Item) (st : AState Env) (r : RState Env) (h : Rel st r) :
    Rel (visitList M st i.trees) (refRun M r i.lines) := by
  obtain ⟨_, _, h1, h2⟩ := Item.joint M i st r h.env h.out h.active
  rw [h1, h2]
  exact ⟨rfl, rfl, h.tk, h.act, h.ok⟩

theorem Block.sim (M : Sem Env) (b : Block) (st : AState Env) (r : RState Env) (h : Rel st r) :
    Rel (visitList M st b.trees) (refRun M r b.lines) := by
  obtain ⟨_, _, h1, h2⟩ := Block.joint M b true st r h.env h.out h.active
  rw [(if_pos rfl).symm.trans h1, h2]
  exact ⟨rfl, rfl, h.tk, h.act, h.ok⟩

theorem Conts.simOpen (M : Sem Env) (c : Conts) (st : AState Env) (r : RState Env) (h : RelIn false st r) :
    Rel (visitList M st c.trees) (refRun M r c.lines) := by
  obtain ⟨he, ho, ⟨a, fs, hs, -, ht, hact⟩, hok⟩ := h
  obtain ⟨_, _, h1, h2⟩ := Conts.joint M c st r he ho hs ht
  rw [h1, h2]
  exact ⟨rfl, rfl, rfl, hact, hok⟩

end CbiVerif.Cond
