import CbiVerif.Model.CodeBase
import Mathlib.Data.List.Nodup
/-! Helper lemmas for C09 / C15: the directories `CodeBase.__iter__` walks (`CB.walkRoots`, repair of
F-C09-NEST = F-C15-ROOTS): no repetition, no nesting, every listed directory covered, independent of the
order of the list, identity on lists without overlap. -/
namespace CbiVerif.CB
open CbiVerif.Path CbiVerif.FS

theorem mem_firstOcc : ∀ (l : List Comps) (x : Comps), x ∈ firstOcc l ↔ x ∈ l
  | [], x => by simp [firstOcc]
  | d :: ds, x => by
    simp only [firstOcc, List.mem_cons, List.mem_filter, mem_firstOcc ds x]
    by_cases h : x = d
    · simp [h]
    · simp [h]

theorem firstOcc_nodup : ∀ (l : List Comps), (firstOcc l).Nodup
  | [] => by simp [firstOcc]
  | d :: ds => by
    simp only [firstOcc, List.nodup_cons]
    refine ⟨?_, List.Nodup.filter _ (firstOcc_nodup ds)⟩
    intro h
    have := (List.mem_filter.mp h).2
    simp at this

theorem firstOcc_of_nodup : ∀ (l : List Comps), l.Nodup → firstOcc l = l
  | [], _ => rfl
  | d :: ds, h => by
    obtain ⟨hd, hds⟩ := List.nodup_cons.mp h
    simp only [firstOcc, firstOcc_of_nodup ds hds]
    congr 1
    apply List.filter_eq_self.mpr
    intro x hx
    have : x ≠ d := by intro hE; subst hE; exact hd hx
    simpa using this

theorem insideAnother_iff (roots : List Comps) (d : Comps) :
    insideAnother roots d = true ↔ ∃ o ∈ roots, o ≠ d ∧ o <+: d := by
  unfold insideAnother isRelativeTo
  simp only [List.any_eq_true, Bool.and_eq_true, bne_iff_ne, ne_eq, List.isPrefixOf_iff_prefix]

theorem insideAnother_false_iff (roots : List Comps) (d : Comps) :
    insideAnother roots d = false ↔ ∀ o ∈ roots, o <+: d → o = d := by
  rw [← Bool.not_eq_true, insideAnother_iff]
  constructor
  · intro h o ho hp
    apply Classical.byContradiction
    intro hne
    exact h ⟨o, ho, hne, hp⟩
  · rintro h ⟨o, ho, hne, hp⟩
    exact hne (h o ho hp)

theorem mem_walkRoots (roots : List Comps) (w : Comps) :
    w ∈ walkRoots roots ↔ w ∈ roots ∧ insideAnother roots w = false := by
  unfold walkRoots
  rw [mem_firstOcc, List.mem_filter]
  simp

theorem walkRoots_subset {roots : List Comps} {w : Comps} (h : w ∈ walkRoots roots) : w ∈ roots :=
  ((mem_walkRoots roots w).mp h).1

theorem walkRoots_nodup (roots : List Comps) : (walkRoots roots).Nodup := firstOcc_nodup _

theorem walkRoots_pairwise (roots : List Comps) :
    (walkRoots roots).Pairwise (fun a b => ¬ a <+: b ∧ ¬ b <+: a) := by
  apply List.Nodup.pairwise_of_forall_ne (walkRoots_nodup roots)
  intro a ha b hb hab
  obtain ⟨ha1, ha2⟩ := (mem_walkRoots roots a).mp ha
  obtain ⟨hb1, hb2⟩ := (mem_walkRoots roots b).mp hb
  constructor
  · intro hp
    exact hab ((insideAnother_false_iff roots b).mp hb2 a ha1 hp)
  · intro hp
    exact hab ((insideAnother_false_iff roots a).mp ha2 b hb1 hp).symm

/-- climb to the outermost listed directory around `r` -/
theorem exists_walkRoot {roots : List Comps} {r : Comps} (hr : r ∈ roots) : ∃ w ∈ walkRoots roots, w <+: r := by
  induction hn : r.length using Nat.strongRecOn generalizing r with
  | _ n ih =>
    cases hi : insideAnother roots r with
    | false => exact ⟨r, (mem_walkRoots roots r).mpr ⟨hr, hi⟩, List.prefix_refl r⟩
    | true =>
      obtain ⟨o, ho, hne, hp⟩ := (insideAnother_iff roots r).mp hi
      have hlt : o.length < n := hn ▸ Nat.lt_of_le_of_ne hp.length_le fun h => hne (hp.eq_of_length h)
      obtain ⟨w, hw, hwo⟩ := ih _ hlt ho rfl
      exact ⟨w, hw, hwo.trans hp⟩

/-- on a list without overlap (what the enumeration assumed before the repair) every listed directory is walked, in order -/
theorem walkRoots_of_disjoint {roots : List Comps} (h : roots.Pairwise (fun a b => ¬ a <+: b ∧ ¬ b <+: a)) :
    walkRoots roots = roots := by
  have hnd : roots.Nodup := h.imp fun hab hE => by subst hE; exact hab.1 (List.prefix_refl _)
  have hall : ∀ o ∈ roots, ∀ d ∈ roots, o <+: d → o = d :=
    List.Pairwise.forall_of_forall_of_flip (fun _ _ _ => rfl) (h.imp fun hab hp => absurd hp hab.1)
      (h.imp fun hab hp => absurd hp hab.2)
  have hf : roots.filter (fun d => !insideAnother roots d) = roots :=
    List.filter_eq_self.mpr fun d hd => by
      rw [(insideAnother_false_iff roots d).mpr fun o ho => hall o ho d hd]; rfl
  rw [walkRoots, hf, firstOcc_of_nodup roots hnd]

theorem walkRoots_perm {r₁ r₂ : List Comps} (h : r₁.Perm r₂) : (walkRoots r₁).Perm (walkRoots r₂) := by
  apply (List.perm_ext_iff_of_nodup (walkRoots_nodup r₁) (walkRoots_nodup r₂)).mpr
  intro a
  have hin : insideAnother r₁ a = insideAnother r₂ a := h.any_eq
  rw [mem_walkRoots, mem_walkRoots, h.mem_iff, hin]

end CbiVerif.CB
