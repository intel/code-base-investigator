import CbiVerif.Lemmas.MacroFunHead
/-! # C03, macros with `#` / `##`: only the macro names among the disabled entries matter

The `none` placeholders the machine pushes for the outermost stream and for argument streams disable nothing:
`RefS`, `fitsbS`, `costS` depend on the disabled-name list only through `D.contains (some x)`. -/
namespace CbiVerif.MX
open CbiVerif.PP

/-- two disabled-name lists disable the same names -/
def Eqv (D D' : NoExp) : Prop := ∀ x : String, D.contains (some x) = D'.contains (some x)

theorem eqv_cons (y : Option String) (D D' : NoExp) (h : Eqv D D') : Eqv (y :: D) (y :: D') := by
  intro x; simp only [List.contains_cons, h x]

theorem eqv_none (D : NoExp) : Eqv (none :: D) D := by
  intro x; simp

theorem headOf_congr (tbl : Table) (D D' : NoExp) (h : Eqv D D') (a : Tok) (as : List Tok) : headOf tbl D a as = headOf tbl D' a as := by
  unfold headOf; rw [h a.text]

theorem scan_congrS (tbl : Table) (ex : NoExp → List Tok → List Tok) (fit : NoExp → List Tok → Bool) (cost : NoExp → List Tok → Nat)
    (hex : ∀ D D', Eqv D D' → ex D = ex D' ∧ fit D = fit D' ∧ cost D = cost D') :
    ∀ (n : Nat) (D D' : NoExp) (ts : List Tok), Eqv D D' →
      scanRefS tbl ex n D ts = scanRefS tbl ex n D' ts ∧ scanFitS tbl ex fit n D ts = scanFitS tbl ex fit n D' ts ∧
      scanCostS tbl ex cost n D ts = scanCostS tbl ex cost n D' ts := by
  intro n
  induction n with
  | zero => intro D D' ts _; exact ⟨rfl, rfl, rfl⟩
  | succ n ih =>
    intro D D' ts h
    cases ts with
    | nil => exact ⟨rfl, rfl, rfl⟩
    | cons a as =>
      obtain ⟨i1, i2, i3⟩ := ih D D' as h
      obtain ⟨x1, x2, x3⟩ := hex (none :: D) (none :: D') (eqv_cons _ D D' h)
      simp only [scanRefS_cons, scanFitS_cons, scanCostS_cons, ← headOf_congr tbl D D' h, i1, i2, i3, x1, x2, x3]
      cases headOf tbl D a as with
      | stay a' ok => exact ⟨rfl, rfl, rfl⟩
      | obj m =>
        obtain ⟨e1, e2, e3⟩ := hex (some m.name :: D) (some m.name :: D') (eqv_cons _ D D' h)
        simp only [Head.elim, e1, e2, e3, and_self]
      | call m ps args rest =>
        obtain ⟨e1, e2, e3⟩ := hex (some m.name :: D) (some m.name :: D') (eqv_cons _ D D' h)
        obtain ⟨j1, j2, j3⟩ := ih D D' rest h
        simp only [Head.elim, e1, e2, e3, j1, j2, j3, and_self]

theorem ref_congrS (tbl : Table) : ∀ (d : Nat) (D D' : NoExp), Eqv D D' →
    RefS tbl d D = RefS tbl d D' ∧ fitsbS tbl d D = fitsbS tbl d D' ∧ costS tbl d D = costS tbl d D' := by
  intro d
  induction d with
  | zero => intro D D' _; refine ⟨?_, ?_, ?_⟩ <;> funext ts <;> simp [RefS, fitsbS, costS]
  | succ d ih =>
    intro D D' h
    refine ⟨?_, ?_, ?_⟩ <;> funext ts <;> simp only [RefS, fitsbS, costS]
    · exact (scan_congrS tbl _ _ _ ih ts.length D D' ts h).1
    · exact (scan_congrS tbl _ _ _ ih ts.length D D' ts h).2.1
    · exact (scan_congrS tbl _ _ _ ih ts.length D D' ts h).2.2

end CbiVerif.MX
