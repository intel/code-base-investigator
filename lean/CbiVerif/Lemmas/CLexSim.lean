import CbiVerif.Model.CClean
import CbiVerif.Spec.CLexRef
/-! # C05: per-character and per-line simulation between `c_cleaner` and the reference scanner

The per-character obligation is a finite decidable table over
(directive base?) × (reference mode) × (buffer blank?) × (lexical class), closed by kernel
`decide`; it is lifted by induction to lines of any length.  The reference side is phrased on classes:
`refChars`, `refNewline`, `refLine` give the next mode and what survives as buffer actions (`REmit`); the
cleaner's buffer is compared through its class-level view `CBuf`. -/
namespace CbiVerif.CLexSim
open CbiVerif.CClean CbiVerif.CLexRef

/-- the reference scanner's view of a lexical class of the cleaner -/
def _root_.CbiVerif.CClean.Cls.kind : Cls → Kind
  | .slash => .slash | .star => .star | .dq => .dq | .sq => .sq | .bslash => .bslash
  | .hash => .other | .space => .white | .ws => .white | .other => .other

/-- a buffer action with the class of the appended character -/
inductive REmit | sp | ns (k : Cls)
deriving DecidableEq, Repr

def render (k : Cls) : Emit → REmit
  | .sp => .sp | .cur => .ns k | .slash => .ns .slash

def _root_.CbiVerif.CClean.Cls.isWhite : Cls → Bool | .space => true | .ws => true | _ => false

def REmit.visible : REmit → Bool | .ns k => !k.isWhite | .sp => false
def REmit.litWs : REmit → Bool | .ns k => k.isWhite | .sp => false

/-- what the reference lets survive of a kept character of class `k` read in mode `m` -/
def keepEmit (m : DMode) (k : Cls) : REmit := if k.isWhite && !m.inLiteral then .sp else .ns k

def refEmits (m : DMode) (k : Cls) (o : DOut) : List REmit :=
  (if o.pend then [.ns .slash] else []) ++ (if o.space then [.sp] else []) ++ (if o.keep then [keepEmit m k] else [])

/-- the cleaner stack corresponding to reference mode `w` over base `[top]` / `[dir, top]`;
    in mode `sqSl` the cleaner holds back the `/` (state FOUND_SLASH above SINGLE_QUOTATION) -/
def absStack (d : Bool) (w : DMode) : Stack :=
  let b : Stack := if d then [.dir, .top] else [.top]
  match w with
  | .code => b
  | .slash => .slash :: b
  | .dq => .dq :: b
  | .dqEsc => .esc :: .dq :: b
  | .sq0 => .sq :: b
  | .sqN => .sq :: b
  | .sqSl => .slash :: .sq :: b
  | .sqEsc => .esc :: .sq :: b
  | .lineC => .lineC :: b
  | .blockC => .blockC :: b
  | .blockStar => .blockStar :: .blockC :: b

/-- the `/` the cleaner still owes in mode `sqSl` -/
def holdL (w : DMode) : List REmit := if w == .sqSl then [.ns .slash] else []

/-- the per-character obligation -/
def stepOK (d : Bool) (w : DMode) (blank : Bool) (k : Cls) : Bool :=
  match dstep w (k.kind) with
  | none => true
  | some o =>
    let r := step (absStack d w) blank k
    [false, true].any fun d' =>
      r.1 == absStack d' o.mode && (holdL w ++ refEmits w k o == r.2.map (render k) ++ holdL o.mode)

def allW : List DMode := [.code, .slash, .dq, .dqEsc, .sq0, .sqN, .sqSl, .sqEsc, .lineC, .blockC, .blockStar]
def allC : List Cls := [.slash, .star, .dq, .sq, .bslash, .hash, .space, .ws, .other]
def allB : List Bool := [false, true]

theorem stepOK_all : (allB.all fun d => allW.all fun w => allB.all fun bl => allC.all fun c =>
    stepOK d w bl c) = true := by decide +kernel

theorem mem_allB (b : Bool) : b ∈ allB := by cases b <;> decide
theorem mem_allW (w : DMode) : w ∈ allW := by cases w <;> decide
theorem mem_allC (k : Cls) : k ∈ allC := by cases k <;> decide

theorem stepOK_each (d : Bool) (w : DMode) (blank : Bool) (c : Cls) : stepOK d w blank c = true :=
  List.all_eq_true.mp (List.all_eq_true.mp (List.all_eq_true.mp (List.all_eq_true.mp stepOK_all
    d (mem_allB d)) w (mem_allW w)) blank (mem_allB blank)) c (mem_allC c)

theorem step_sim (d : Bool) (w : DMode) (blank : Bool) (k : Cls) (o : DOut)
    (ho : dstep w (k.kind) = some o) :
    ∃ d', (step (absStack d w) blank k).1 = absStack d' o.mode ∧
      holdL w ++ refEmits w k o = (step (absStack d w) blank k).2.map (render k) ++ holdL o.mode := by
  have h := stepOK_each d w blank k
  simp only [stepOK, ho, List.any_cons, List.any_nil, Bool.or_false, Bool.or_eq_true, Bool.and_eq_true,
    beq_iff_eq] at h
  rcases h with h | h
  · exact ⟨false, h.1, h.2⟩
  · exact ⟨true, h.1, h.2⟩

/-- the reference at an unspliced newline: next mode, what survives, whether the logical line ends -/
def refNewline : DMode → Option (DMode × List REmit × Bool)
  | .code => some (.code, [], true)
  | .slash => some (.code, [.ns .slash], true)
  | .lineC => some (.code, [.sp], true)
  | .blockC => some (.blockC, [], false)
  | .blockStar => some (.blockC, [], false)
  | _ => none

/-- the newline obligation; a newline ends a directive unless it falls inside a block comment -/
def newlineOK (d : Bool) (w : DMode) : Bool :=
  match refNewline w with
  | none => true
  | some (m', es, ends) =>
    let st := absStack d w
    if st.head? != some Mode.blockC then
      (logicalNewline st).1 == absStack (d && m' == .blockC) m' &&
      (logicalNewline st).2.map (render .other) == es &&
      (((logicalNewline st).1.head? != some Mode.blockC) == ends)
    else m' == w && es == [] && ends == false

theorem newlineOK_all : (allB.all fun d => allW.all fun w => newlineOK d w) = true := by decide +kernel

theorem newlineOK_each (d : Bool) (w : DMode) : newlineOK d w = true :=
  List.all_eq_true.mp (List.all_eq_true.mp newlineOK_all d (mem_allB d)) w (mem_allW w)

theorem refNewline_ends {w w' : DMode} {es : List REmit} {ends : Bool} (h : refNewline w = some (w', es, ends)) :
    ends = true ↔ w' = .code := by
  cases w <;> simp [refNewline] at h <;> obtain ⟨rfl, _, rfl⟩ := h <;> decide

/-! ## class-level view of `one_space_line` -/

structure CBuf where
  parts : List Cls := []
  trailing : Bool := false
deriving Repr, DecidableEq

def CBuf.add (b : CBuf) : REmit → CBuf
  | .sp => if b.trailing then b else ⟨b.parts ++ [.space], true⟩
  | .ns k => ⟨b.parts ++ [k], false⟩

def CBuf.addAll (b : CBuf) (es : List REmit) : CBuf := es.foldl CBuf.add b

def _root_.CbiVerif.CClean.Buf.toC (b : Buf) : CBuf := ⟨b.parts.map (·.1), b.trailing⟩

theorem toC_add (p : PChar) (b : Buf) (e : Emit) : (Buf.add p b e).toC = b.toC.add (render p.1 e) := by
  cases e with
  | sp =>
    cases ht : b.trailing <;> simp [Buf.add, render, CBuf.add, Buf.toC, ht, spacePart]
  | cur => simp [Buf.add, render, CBuf.add, Buf.toC]
  | slash => simp [Buf.add, render, CBuf.add, Buf.toC, slashPart]

theorem toC_addAll (p : PChar) (es : List Emit) : ∀ b : Buf, (b.addAll p es).toC = b.toC.addAll (es.map (render p.1)) := by
  induction es with
  | nil => intro b; rfl
  | cons e es ih =>
    intro b
    simp only [Buf.addAll, List.foldl_cons, List.map_cons, CBuf.addAll] at ih ⊢
    rw [ih, toC_add]

theorem CBuf.addAll_append (b : CBuf) (xs ys : List REmit) : b.addAll (xs ++ ys) = (b.addAll xs).addAll ys := by
  simp [CBuf.addAll, List.foldl_append]

theorem toC_empty : ({} : Buf).toC = {} := rfl

theorem category_toC (b : Buf) : b.category = catOf b.toC.parts := rfl

theorem blank_toC (b : Buf) : b.blank = (catOf b.toC.parts == .blank) := rfl

/-- the reference scanner over the classes of a run of characters: final mode and what survives -/
def refChars : DMode → List Cls → Option (DMode × List REmit)
  | w, [] => some (w, [])
  | w, k :: ks =>
    match dstep w k.kind with
    | none => none
    | some o =>
      match refChars o.mode ks with
      | none => none
      | some (w', es) => some (w', refEmits w k o ++ es)

theorem refChars_cons_eq (w : DMode) (k : Cls) (ks : List Cls) : refChars w (k :: ks) =
    match dstep w k.kind with
    | none => none
    | some o =>
      match refChars o.mode ks with
      | none => none
      | some (w', es) => some (w', refEmits w k o ++ es) := rfl

theorem refChars_cons {w w' : DMode} {k : Cls} {ks : List Cls} {es : List REmit}
    (h : refChars w (k :: ks) = some (w', es)) :
    ∃ o es2, dstep w k.kind = some o ∧ refChars o.mode ks = some (w', es2) ∧ es = refEmits w k o ++ es2 := by
  rw [refChars_cons_eq] at h
  split at h
  · cases h
  · split at h
    · cases h
    · cases h; exact ⟨_, _, ‹_›, ‹_›, rfl⟩

theorem refChars_step {w w' : DMode} {k : Cls} {ks : List Cls} {o : DOut} {es : List REmit}
    (ho : dstep w k.kind = some o) (hr : refChars o.mode ks = some (w', es)) :
    refChars w (k :: ks) = some (w', refEmits w k o ++ es) := by
  rw [refChars_cons_eq, ho]; simp only; rw [hr]

theorem procChars_cons (st : Stack) (b : Buf) (p : PChar) (ps : List PChar) :
    procChars st b (p :: ps) = procChars (step st b.blank p.1).1 (b.addAll p (step st b.blank p.1).2) ps := rfl

theorem chars_sim (ps : List PChar) : ∀ (d : Bool) (w : DMode) (b : Buf) (w' : DMode) (es : List REmit),
    refChars w (ps.map (·.1)) = some (w', es) →
    ∃ d' ms, (procChars (absStack d w) b ps).1 = absStack d' w' ∧
      (procChars (absStack d w) b ps).2.toC = b.toC.addAll ms ∧ holdL w ++ es = ms ++ holdL w' := by
  induction ps with
  | nil =>
    intro d w b w' es h
    cases h
    exact ⟨d, [], rfl, rfl, by simp⟩
  | cons p ps ih =>
    intro d w b w' es h
    obtain ⟨o, es2, ho, hr, rfl⟩ := refChars_cons h
    obtain ⟨d1, hs1, hs2⟩ := step_sim d w b.blank p.1 o ho
    obtain ⟨d', ms, h1, h2, h3⟩ := ih d1 o.mode (b.addAll p (step (absStack d w) b.blank p.1).2) w' es2 hr
    refine ⟨d', (step (absStack d w) b.blank p.1).2.map (render p.1) ++ ms, ?_, ?_, ?_⟩
    · rw [procChars_cons, hs1]; exact h1
    · rw [procChars_cons, hs1, h2, toC_addAll, CBuf.addAll_append]
    · rw [← List.append_assoc, hs2, List.append_assoc, h3, List.append_assoc]

/-- the reference over one physical line: final mode, what survives on it, whether the logical line ends -/
def refLine (w : DMode) (ks : List Cls) (continued : Bool) : Option (DMode × List REmit × Bool) :=
  match refChars w ks with
  | none => none
  | some (w1, es) =>
    if continued then some (w1, es, false)
    else
      match refNewline w1 with
      | none => none
      | some (w2, es2, ends) => some (w2, es ++ es2, ends)

theorem refLine_some {w w' : DMode} {ks : List Cls} {cont ends : Bool} {es : List REmit}
    (h : refLine w ks cont = some (w', es, ends)) :
    ∃ w1 es1, refChars w ks = some (w1, es1) ∧
      ((cont = true ∧ w' = w1 ∧ es = es1 ∧ ends = false) ∨
       (cont = false ∧ ∃ es2, refNewline w1 = some (w', es2, ends) ∧ es = es1 ++ es2)) := by
  unfold refLine at h
  split at h
  · cases h
  · refine ⟨_, _, ‹_›, ?_⟩
    cases cont
    · simp only [Bool.false_eq_true, if_false] at h
      split at h
      · cases h
      · cases h; exact Or.inr ⟨rfl, _, ‹_›, rfl⟩
    · simp only [if_true] at h
      cases h; exact Or.inl ⟨rfl, rfl, rfl, rfl⟩

theorem refLine_ends {w w' : DMode} {ks : List Cls} {cont ends : Bool} {es : List REmit}
    (h : refLine w ks cont = some (w', es, ends)) : ends = true ↔ cont = false ∧ w' = .code := by
  obtain ⟨w1, es1, _, ⟨hc, _, _, he⟩ | ⟨hc, es2, hn, _⟩⟩ := refLine_some h
  · simp [hc, he]
  · simp [hc, refNewline_ends hn]

theorem holdL_nil_of_refNewline {w : DMode} {r} (h : refNewline w = some r) : holdL w = [] := by
  cases w <;> simp [refNewline] at h <;> rfl

theorem logicalNewline_render (st : Stack) (k k' : Cls) :
    (logicalNewline st).2.map (render k) = (logicalNewline st).2.map (render k') := by
  unfold logicalNewline
  split <;> try rfl
  split <;> rfl

/-- what `procLine` does at the end of an unspliced physical line, on the stack and the buffer the characters left -/
def endLine (st : Stack) (b : Buf) : Stack × Buf × Bool :=
  if st.head? != some .blockC then
    ((logicalNewline st).1, b.addAll spacePart (logicalNewline st).2, (logicalNewline st).1.head? != some .blockC)
  else (st, b, false)

theorem procLine_eq (st : Stack) (l : PLine) :
    procLine st l = if l.continued then ((procChars st {} l.chars).1, (procChars st {} l.chars).2, false)
      else endLine (procChars st {} l.chars).1 (procChars st {} l.chars).2 := by
  cases h : l.continued <;> simp [procLine, endLine, h]

/-- the newline keeps the relation, appends what the reference lets survive of it, and ends the logical line iff the
    reference does; a directive ends there unless the newline falls inside a block comment -/
theorem newline_sim (d : Bool) {w w' : DMode} {es : List REmit} {ends : Bool} (h : refNewline w = some (w', es, ends))
    (b : Buf) : ∃ d' ms, endLine (absStack d w) b = (absStack d' w', b.addAll spacePart ms, ends) ∧
      ms.map (render spacePart.1) = es ∧ (ends = true → d' = false) := by
  have hnl := newlineOK_each d w
  simp only [newlineOK, h] at hnl
  unfold endLine
  split at hnl
  · rename_i hcond
    simp only [Bool.and_eq_true, beq_iff_eq] at hnl
    obtain ⟨⟨hst, hem⟩, hends⟩ := hnl
    refine ⟨_, _, by rw [if_pos hcond, ← hends, hst], by rw [logicalNewline_render _ _ .other, hem], ?_⟩
    rintro rfl
    rw [(refNewline_ends h).mp rfl]; exact Bool.and_false d
  · rename_i hcond
    simp only [Bool.and_eq_true, beq_iff_eq] at hnl
    obtain ⟨⟨rfl, rfl⟩, rfl⟩ := hnl
    exact ⟨d, [], by rw [if_neg hcond]; rfl, rfl, nofun⟩

/-- from related states with no `/` owed at either end, the cleaner ends in the
    related state, its buffer for this line is the one-space normalisation of what the reference
    lets survive on the line, and it ends the logical line iff the reference does. -/
theorem line_sim (d : Bool) (w w' : DMode) (l : PLine) (es : List REmit) (ends : Bool)
    (h : refLine w (l.chars.map (·.1)) l.continued = some (w', es, ends))
    (hw : holdL w = []) (hw' : holdL w' = []) :
    ∃ d', (procLine (absStack d w) l).1 = absStack d' w' ∧
      (procLine (absStack d w) l).2.1.toC = ({} : CBuf).addAll es ∧ (procLine (absStack d w) l).2.2 = ends ∧
      (ends = true → d' = false) := by
  obtain ⟨w1, es1, hr, hc⟩ := refLine_some h
  obtain ⟨d1, ms, h1, h2, h3⟩ := chars_sim l.chars d w {} w1 es1 hr
  rw [hw, List.nil_append] at h3
  rw [procLine_eq]
  rcases hc with ⟨hcont, rfl, rfl, rfl⟩ | ⟨hcont, es2, hn, rfl⟩
  · rw [hw', List.append_nil] at h3
    subst h3
    rw [if_pos hcont]
    exact ⟨d1, h1, h2, rfl, nofun⟩
  · rw [holdL_nil_of_refNewline hn, List.append_nil] at h3
    subst h3
    obtain ⟨d', ms2, he, hm, hd⟩ := newline_sim d1 hn (procChars (absStack d w) {} l.chars).2
    rw [if_neg (by simp [hcont]), h1, he]
    exact ⟨d', rfl, by rw [toC_addAll, h2, toC_empty, hm, CBuf.addAll_append], rfl, hd⟩
end CbiVerif.CLexSim
