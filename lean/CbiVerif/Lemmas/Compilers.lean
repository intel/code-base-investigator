import CbiVerif.Spec.Compilers
import CbiVerif.AliasFuel
/-! The executed compiler model (`Model/Compilers.lean`) against its reference semantics (`Spec/Compilers.lean`):
    association lists, the alias walk and the uniqueness of its answer, pass / mode composition in closed form,
    the merge of the user file, attribution, classification of single arguments. -/
namespace CbiVerif.Compilers
open CbiVerif.Compilers.Spec

theorem lookup_cons {α} (k' : String) (v' : α) (r : List (String × α)) (k : String) :
    lookup ((k', v') :: r) k = if k' == k then some v' else lookup r k := rfl

theorem dictSet_cons {α} (k' : String) (v' : α) (r : List (String × α)) (k : String) (v : α) :
    dictSet ((k', v') :: r) k v = if k' == k then (k, v) :: r else (k', v') :: dictSet r k v := rfl

/-- `d[k] = v` then `d.get(k2)` -/
theorem lookup_dictSet {α} (l : List (String × α)) (k k2 : String) (v : α) :
    lookup (dictSet l k v) k2 = if k = k2 then some v else lookup l k2 := by
  induction l with
  | nil => simp [dictSet, lookup]
  | cons hd tl ih =>
    rw [dictSet_cons, lookup_cons]
    by_cases h1 : hd.1 = k <;> by_cases h2 : k = k2 <;> simp_all [lookup_cons]

theorem lookup_some_mem_keys {α} (l : List (String × α)) (k : String) (v : α) (h : lookup l k = some v) :
    k ∈ l.map (·.1) := by
  induction l with
  | nil => cases h
  | cons hd tl ih =>
    rw [lookup_cons] at h
    split at h
    · next hk => simp [eq_of_beq hk]
    · exact List.mem_cons_of_mem _ (ih h)

theorem lookup_none_of_not_mem {α} (l : List (String × α)) (k : String) (h : k ∉ l.map (·.1)) : lookup l k = none := by
  cases hl : lookup l k with
  | none => rfl
  | some v => exact absurd (lookup_some_mem_keys l k v hl) h

theorem hasKey_dictSet_same {α} (l : List (String × α)) (k : String) (v : α) : hasKey (dictSet l k v) k = true := by
  simp [hasKey, lookup_dictSet]

theorem dedupAux_cons (seen : List String) (y : String) (r : List String) :
    dedupAux seen (y :: r) = if seen.contains y then dedupAux seen r else y :: dedupAux (seen ++ [y]) r := rfl

theorem mem_dedupAux (seen l : List String) (x : String) : x ∈ dedupAux seen l ↔ x ∈ l ∧ x ∉ seen := by
  induction l generalizing seen with
  | nil => simp [dedupAux]
  | cons y r ih =>
    rw [dedupAux_cons]
    split
    · next hs =>
      have hy : y ∈ seen := by simpa using hs
      rw [ih, List.mem_cons]
      exact ⟨fun ⟨h1, h2⟩ => ⟨.inr h1, h2⟩, fun ⟨h1, h2⟩ => ⟨h1.resolve_left fun e => h2 (e ▸ hy), h2⟩⟩
    · next hs =>
      have hy : y ∉ seen := by simpa using hs
      simp only [List.mem_cons, ih, List.mem_append, List.not_mem_nil, or_false, not_or]
      constructor
      · rintro (rfl | ⟨h1, h2, _⟩)
        · exact ⟨.inl rfl, hy⟩
        · exact ⟨.inr h1, h2⟩
      · rintro ⟨h1 | h1, h2⟩
        · exact .inl h1
        · exact (Classical.em (x = y)).imp_right fun hxy => ⟨h1, h2, hxy⟩

theorem mem_dedup (l : List String) (x : String) : x ∈ dedup l ↔ x ∈ l := by
  simp [dedup, mem_dedupAux]

theorem nodup_dedupAux (seen l : List String) : (dedupAux seen l).Nodup := by
  induction l generalizing seen with
  | nil => exact .nil
  | cons y r ih =>
    rw [dedupAux_cons]
    split
    · exact ih seen
    · exact List.nodup_cons.mpr ⟨fun h => ((mem_dedupAux (seen ++ [y]) r y).mp h).2 (by simp), ih _⟩

theorem nodup_dedup (l : List String) : (dedup l).Nodup := nodup_dedupAux [] l

/-! ### alias walk -/

theorem Spec.Path.snoc {cs : CompilerMap} {n m a : String} {p : List String} (h : Path cs n p m) (l : Link cs m a) :
    Path cs n (p ++ [a]) a := by
  induction h with
  | nil n => exact .cons l (.nil a)
  | cons l0 _ ih => exact .cons l0 (ih l)

/-- pigeonhole for the walk: a chain of `Alias.ChainOk` has fewer names after the first than the table has entries -/
theorem chain_bound {cs : CompilerMap} {name : String} {p : List String} (h : Alias.ChainOk (cs.map (·.1)) (name :: p)) :
    p.length < cs.length := by
  have := h.length_le
  rwa [List.length_cons, List.length_map] at this

/-- invariant of the `while` loop: `name :: p` is `alias_chain`, it is duplicate free and consists of known names
    (`Alias.ChainOk`), stands at `m` whose definition is `cur`, and the remaining fuel covers the unseen names -/
theorem walk_outcome (cs : CompilerMap) (name : String) : ∀ (fuel : Nat) (p : List String) (m : String) (cur : Compiler),
    Path cs name p m → lookup cs m = some cur → Alias.ChainOk (cs.map (·.1)) (name :: p) →
    cs.length < fuel + (p.length + 1) → Outcome cs name (walk cs fuel (name :: p) cur) := by
  intro fuel p m cur hpath hm hok hlen
  generalize hch : name :: p = chain
  fun_induction walk cs fuel chain cur generalizing p m with
  | case1 => have := chain_bound hok; omega
  | case2 fuel chain cur ha => exact ⟨p, m, hpath, chain_bound hok, hm, ha⟩
  | case3 fuel chain cur a ha hc => exact ⟨p, m, a, hpath, chain_bound hok, ⟨cur, hm, ha⟩, by simpa [hch] using hc⟩
  | case4 fuel chain cur a ha hc hg => exact ⟨p, m, hpath, chain_bound hok, ⟨cur, hm, ha⟩, hg⟩
  | case5 fuel chain cur a ha hc c2 hg ih =>
    exact ih (p ++ [a]) a (hpath.snoc ⟨cur, hm, ha⟩) hg
      (hok.snoc (by simpa [hch] using hc) (lookup_some_mem_keys cs _ c2 hg))
      (by simp only [List.length_append, List.length_singleton]; omega) (by rw [← hch]; rfl)

theorem resolve_outcome (cs : CompilerMap) (name : String) : Outcome cs name (resolve cs name) := by
  unfold resolve
  cases h : lookup cs name with
  | none => exact h
  | some c =>
    exact walk_outcome cs name (cs.length + 1) [] name c (.nil name) h (.single (lookup_some_mem_keys cs _ c h))
      (by simp only [List.length_nil]; omega)

/-! ### the walk's answer is the only justified one -/

theorem Link.unique {cs : CompilerMap} {n a b : String} (h1 : Link cs n a) (h2 : Link cs n b) : a = b := by
  obtain ⟨c1, l1, t1⟩ := h1
  obtain ⟨c2, l2, t2⟩ := h2
  rw [l1] at l2; cases l2
  rw [t1] at t2; cases t2; rfl

theorem Path.prefix {cs : CompilerMap} {n m m' : String} {p q : List String} (h1 : Path cs n p m) (h2 : Path cs n q m')
    (hlen : p.length ≤ q.length) : ∃ s, q = p ++ s ∧ Path cs m s m' := by
  induction h1 generalizing q with
  | nil n => exact ⟨q, rfl, h2⟩
  | @cons n a m p l0 _ ih =>
    cases h2 with
    | nil => simp at hlen
    | @cons _ a' _ q' l1 hq =>
      obtain rfl : a' = a := Link.unique l1 l0
      obtain ⟨s, rfl, hp⟩ := ih hq (by simpa using hlen)
      exact ⟨s, rfl, hp⟩

def StuckAt (cs : CompilerMap) (name : String) (p : List String) (x : String) : Prop :=
  Path cs name p x ∧ ∀ a, ¬ Link cs x a

theorem StuckAt.unique {cs : CompilerMap} {name x y : String} {p q : List String}
    (h1 : StuckAt cs name p x) (h2 : StuckAt cs name q y) : p = q ∧ x = y := by
  have key : ∀ {p q x y}, StuckAt cs name p x → StuckAt cs name q y → p.length ≤ q.length → p = q ∧ x = y := by
    intro p q x y h1 h2 hlen
    obtain ⟨s, rfl, hp⟩ := Path.prefix h1.1 h2.1 hlen
    cases hp with
    | nil => exact ⟨(List.append_nil p).symm, rfl⟩
    | cons l _ => exact absurd l (h1.2 _)
  rcases Nat.le_total p.length q.length with h | h
  · exact key h1 h2 h
  · obtain ⟨a, b⟩ := key h2 h1 h; exact ⟨a.symm, b.symm⟩

def Cyclic (cs : CompilerMap) (name : String) : Prop :=
  ∃ S : List String, name ∈ S ∧ ∀ x ∈ S, ∃ b, Link cs x b ∧ b ∈ S

theorem loop_closed {cs : CompilerMap} {n m a : String} {q : List String} (hp : Path cs n q m) (hl : Link cs m a)
    (S : List String) (hsub : ∀ x ∈ n :: q, x ∈ S) (ha : a ∈ S) : ∀ x ∈ n :: q, ∃ b, Link cs x b ∧ b ∈ S := by
  induction hp with
  | nil n => intro x hx; exact List.mem_singleton.mp hx ▸ ⟨a, hl, ha⟩
  | @cons n a0 m q' l0 _ ih =>
    intro x hx
    rcases List.mem_cons.mp hx with rfl | h
    · exact ⟨a0, l0, hsub a0 (by simp)⟩
    · exact ih hl (fun y hy => hsub y (List.mem_cons_of_mem _ hy)) x h

theorem Cyclic.stays {cs : CompilerMap} {S : List String} (hS : ∀ x ∈ S, ∃ b, Link cs x b ∧ b ∈ S)
    {n m : String} {p : List String} (hp : Path cs n p m) (hn : n ∈ S) : m ∈ S := by
  induction hp with
  | nil n => exact hn
  | @cons n a m p l0 _ ih =>
    obtain ⟨b, lb, hb⟩ := hS n hn
    exact ih (Link.unique l0 lb ▸ hb)

theorem Cyclic.not_stuck {cs : CompilerMap} {name x : String} {p : List String} (hc : Cyclic cs name)
    (hs : StuckAt cs name p x) : False := by
  obtain ⟨S, hn, hS⟩ := hc
  obtain ⟨b, lb, _⟩ := hS x (Cyclic.stays hS hs.1 hn)
  exact hs.2 b lb

theorem not_link_of_lookup_none {cs : CompilerMap} {x : String} (h : lookup cs x = none) : ∀ a, ¬ Link cs x a := by
  rintro a ⟨c, hc, _⟩
  rw [h] at hc; cases hc

theorem not_link_of_nonalias {cs : CompilerMap} {x : String} {d : Compiler} (h : lookup cs x = some d)
    (hd : aliasTarget d = none) : ∀ a, ¬ Link cs x a := by
  rintro a ⟨c, hc, ht⟩
  rw [h] at hc; cases hc
  rw [hd] at ht; cases ht

/-- normal form of an outcome -/
inductive Fate (cs : CompilerMap) (name : String) : Resolved → Prop
  | nr : StuckAt cs name [] name → lookup cs name = none → Fate cs name .notRecognized
  | found (p m d) : StuckAt cs name p m → lookup cs m = some d → Fate cs name (.found d)
  | unknown (p a) : StuckAt cs name (p ++ [a]) a → lookup cs a = none → Fate cs name (.unknownTarget a)
  | loop : Cyclic cs name → Fate cs name .loop

theorem fate_of_outcome {cs : CompilerMap} {name : String} {r : Resolved} (h : Outcome cs name r) : Fate cs name r := by
  cases r with
  | notRecognized => exact .nr ⟨.nil name, not_link_of_lookup_none h⟩ h
  | found d =>
    obtain ⟨p, m, hp, _, hm, hd⟩ := h
    exact .found p m d ⟨hp, not_link_of_nonalias hm hd⟩ hm
  | unknownTarget a =>
    obtain ⟨p, m, hp, _, hl, ha⟩ := h
    exact .unknown p a ⟨hp.snoc hl, not_link_of_lookup_none ha⟩ ha
  | loop =>
    obtain ⟨p, m, a, hp, _, hl, ha⟩ := h
    exact .loop ⟨name :: p, by simp, loop_closed hp hl (name :: p) (fun _ h => h) ha⟩

/-- the answer that a chain which is stuck at `x` after the names `p` justifies -/
def stuckAnswer (cs : CompilerMap) (p : List String) (x : String) : Resolved :=
  match lookup cs x with
  | some d => .found d
  | none => if p.isEmpty then .notRecognized else .unknownTarget x

theorem Fate.cases {cs : CompilerMap} {name : String} {r : Resolved} (h : Fate cs name r) :
    (r = .loop ∧ Cyclic cs name) ∨ ∃ p x, StuckAt cs name p x ∧ r = stuckAnswer cs p x := by
  cases h with
  | nr s l => exact .inr ⟨[], name, s, by simp [stuckAnswer, l]⟩
  | found p m d s l => exact .inr ⟨p, m, s, by simp [stuckAnswer, l]⟩
  | unknown p a s l => exact .inr ⟨p ++ [a], a, s, by simp [stuckAnswer, l]⟩
  | loop c => exact .inl ⟨rfl, c⟩

theorem Fate.unique {cs : CompilerMap} {name : String} {r1 r2 : Resolved} (h1 : Fate cs name r1) (h2 : Fate cs name r2) :
    r1 = r2 := by
  rcases h1.cases with ⟨rfl, c⟩ | ⟨p, x, s1, rfl⟩ <;> rcases h2.cases with ⟨rfl, c'⟩ | ⟨q, y, s2, rfl⟩
  · rfl
  · exact (c.not_stuck s2).elim
  · exact (c'.not_stuck s1).elim
  · obtain ⟨rfl, rfl⟩ := StuckAt.unique s1 s2; rfl

/-! ### pass / mode composition -/

/-- the `for mode_name in modes:` loop in closed form -/
theorem foldl_modeStep (c : Compiler) (ms : List String) (cfg : PPConfig) (logs : List Log) :
    ms.foldl (modeStep c) (cfg, logs) =
      ({ passName := cfg.passName
         defines := cfg.defines ++ (declaredModes c ms).flatMap (·.defines)
         includePaths := cfg.includePaths ++ (declaredModes c ms).flatMap (·.includePaths)
         includeFiles := cfg.includeFiles ++ (declaredModes c ms).flatMap (·.includeFiles) },
       logs ++ ((ms.filter fun m => !hasKey c.modes m).map Log.badMode)) := by
  induction ms generalizing cfg logs with
  | nil => simp [declaredModes]
  | cons m r ih =>
    simp only [List.foldl_cons, modeStep]
    cases hm : lookup c.modes m with
    | none => rw [ih]; simp [declaredModes, hm, hasKey]
    | some md => rw [ih]; simp [declaredModes, hm, hasKey, PPConfig.update]

theorem buildPass_eq (c : Compiler) (base : PPConfig) (active : List String) (p : String) :
    buildPass c base active p = (specConfig c base active p, specLogs c active p) := by
  unfold buildPass specConfig specLogs
  cases hp : (p == "default") with
  | true =>
    simp only [if_true]
    rw [foldl_modeStep]
    simp [configOf]
  | false =>
    simp only [Bool.false_eq_true, if_false]
    cases lookup c.passes p with
    | none => rfl
    | some pd =>
      simp only [Option.map_some]
      rw [foldl_modeStep]
      simp [configOf, PPConfig.update]

theorem compose_eq (c : Compiler) (st : PState) :
    compose c st = ((selectedPasses st).filterMap (specConfig c (baseConfig st) (activeModes st)),
                    (selectedPasses st).flatMap (specLogs c (activeModes st))) := by
  unfold compose
  simp only [funext (buildPass_eq c (baseConfig st) (activeModes st)), List.filterMap_map, List.flatMap_map,
    Function.comp_def]

theorem specConfig_passName (c : Compiler) (base : PPConfig) (active : List String) (p : String) (cfg : PPConfig)
    (h : specConfig c base active p = some cfg) : cfg.passName = p := by
  unfold specConfig at h
  split at h
  · cases h; rfl
  · obtain ⟨pd, _, rfl⟩ := Option.map_eq_some_iff.mp h; rfl

theorem specConfig_isSome (c : Compiler) (base : PPConfig) (active : List String) (p : String) :
    (specConfig c base active p).isSome = (p == "default" || hasKey c.passes p) := by
  unfold specConfig hasKey
  cases p == "default" with
  | true => rfl
  | false => exact Option.isSome_map

theorem map_filterMap_eq_filter {α β} (f : α → Option β) (g : β → α) (h : ∀ a b, f a = some b → g b = a) (l : List α) :
    (l.filterMap f).map g = l.filter fun a => (f a).isSome := by
  induction l with
  | nil => rfl
  | cons a r ih =>
    rw [List.filterMap_cons, List.filter_cons]
    cases hf : f a with
    | none => exact ih
    | some b => simp [ih, h a b hf]

theorem compose_congr (c1 c2 : Compiler) (hm : c1.modes = c2.modes) (hp : c1.passes = c2.passes) :
    compose c1 = compose c2 := by
  funext st
  rw [compose_eq, compose_eq]
  unfold specConfig specLogs declaredModes hasKey
  rw [hm, hp]

/-- only the parser rules, modes and passes of a compiler matter to `parse_args`, and its implicit options
    are read as a suffix of the command line -/
theorem parseArgs_options (c1 c2 : Compiler) (hr : c1.parser = c2.parser) (hm : c1.modes = c2.modes)
    (hp : c1.passes = c2.passes) (mt : Matches) (argv : List String) :
    parseArgs c1 mt argv = parseArgs { c2 with options := [] } mt (argv ++ c1.options) := by
  unfold parseArgs
  simp only [List.append_nil]
  rw [hr, compose_congr c1 { c2 with options := [] } hm hp]

/-! ### merging the user file into the built-in table -/

/-- a loop of `d[name(x)] = x` assignments (whatever it records beside the dictionary) overrides by name -/
theorem lookup_foldl_dictSet {α β} (name : α → String) (g : List (String × α) × β → α → β) (l : List α)
    (st : List (String × α) × β) (k : String) :
    lookup (l.foldl (fun s x => (dictSet s.1 (name x) x, g s x)) st).1 k = overridden name st.1 l k := by
  induction l generalizing st with
  | nil => simp [overridden, lastBy]
  | cons x r ih =>
    rw [List.foldl_cons, ih]
    unfold overridden lastBy
    simp only [List.reverse_cons, List.find?_append]
    cases r.reverse.find? (fun y => name y == k) with
    | some y => rfl
    | none =>
      simp only [Option.none_or, List.find?_cons, List.find?_nil]
      cases hx : (name x == k) with
      | true => rw [lookup_dictSet, if_pos (eq_of_beq hx)]
      | false => rw [lookup_dictSet, if_neg (by simpa using hx)]

theorem mergeModes_fst (ms : List ModeDef) (st : List (String × ModeDef) × List Log) :
    (mergeModes ms st).1 = ms.foldl (fun s m => dictSet s m.name m) st.1 :=
  (List.foldl_hom Prod.fst (fun _ _ => rfl)).symm

theorem mergePasses_fst (ps : List PassDef) (st : List (String × PassDef) × List Log) :
    (mergePasses ps st).1 = ps.foldl (fun s p => dictSet s p.name p) st.1 :=
  (List.foldl_hom Prod.fst (fun _ _ => rfl)).symm

theorem extendCompiler_extends (c : Compiler) (d : Definition) : Extends c d (extendCompiler c d).1 :=
  ⟨rfl, rfl, rfl, fun k => lookup_foldl_dictSet (fun m : ModeDef => m.name) _ _ (c.modes, []) k,
    fun k => lookup_foldl_dictSet (fun p : PassDef => p.name) _ _ (c.passes, []) k⟩

/-- what one table of the user file does to the compiler it names -/
def mergedDef (old : Option Compiler) (d : Definition) : Compiler :=
  match old with
  | none => fromToml d
  | some c =>
    match d.aliasOf with
    | some _ => fromToml d
    | none => (extendCompiler { c with aliasOf := none } d).1

theorem mergedDef_alias (old : Option Compiler) {d : Definition} {a : String} (h : d.aliasOf = some a) :
    mergedDef old d = fromToml d := by
  cases old <;> simp only [mergedDef, h]

theorem mergedDef_extend (c : Compiler) {d : Definition} (h : d.aliasOf = none) :
    mergedDef (some c) d = (extendCompiler { c with aliasOf := none } d).1 := by
  simp only [mergedDef, h]

theorem lookup_mergeOne (st : CompilerMap × List Log) (name : String) (d : Definition) (k : String) :
    lookup (mergeOne st (name, d)).1 k = if name = k then some (mergedDef (lookup st.1 name) d) else lookup st.1 k := by
  obtain ⟨cs, logs⟩ := st
  cases hl : lookup cs name with
  | none => simp only [mergeOne, mergedDef, hl, lookup_dictSet]
  | some c => cases ha : d.aliasOf <;> simp only [mergeOne, mergedDef, hl, ha, lookup_dictSet]

theorem foldl_mergeOne_other (l : List (String × Definition)) (st : CompilerMap × List Log) (k : String)
    (h : k ∉ l.map (·.1)) : lookup (l.foldl mergeOne st).1 k = lookup st.1 k := by
  induction l generalizing st with
  | nil => rfl
  | cons nd r ih =>
    simp only [List.map_cons, List.mem_cons, not_or] at h
    rw [List.foldl_cons, ih _ h.2, lookup_mergeOne, if_neg (Ne.symm h.1)]

/-- TOML tables have distinct names: each user table acts exactly once, on what the built-ins say -/
theorem foldl_mergeOne_mem (l : List (String × Definition)) (st : CompilerMap × List Log) (name : String) (d : Definition)
    (hnd : (l.map (·.1)).Nodup) (hmem : (name, d) ∈ l) :
    lookup (l.foldl mergeOne st).1 name = some (mergedDef (lookup st.1 name) d) := by
  induction l generalizing st with
  | nil => cases hmem
  | cons nd r ih =>
    simp only [List.map_cons, List.nodup_cons] at hnd
    rw [List.foldl_cons]
    rcases List.mem_cons.mp hmem with rfl | h
    · rw [foldl_mergeOne_other r _ name hnd.1, lookup_mergeOne, if_pos rfl]
    · have hne : nd.1 ≠ name := fun e => hnd.1 (e ▸ List.mem_map.mpr ⟨(name, d), h, rfl⟩)
      rw [ih _ hnd.2 h, lookup_mergeOne, if_neg hne]

/-- `_load_compilers` when the built-in files load and the user file passes the schema: the user's tables are merged one by
    one into the built-in table -/
theorem loadCompilers_defs (builtin : List (List (String × Definition))) (l : List (String × Definition))
    (hb : (loadBuiltin builtin []).2 = true) (hv : l.all (·.2.valid) = true) :
    loadCompilers builtin (.defs l) = l.foldl mergeOne ((loadBuiltin builtin []).1, []) := by
  unfold loadCompilers
  generalize loadBuiltin builtin [] = lb at hb
  obtain ⟨m, ok⟩ := lb
  obtain rfl : ok = true := hb
  simp only [hv, if_true]

/-- the table `_load_compilers` then returns, name by name: as built in where the user file is silent, and otherwise what
    the user's one table for the name makes of the built-in entry -/
theorem lookup_loadCompilers (builtin : List (List (String × Definition))) (l : List (String × Definition))
    (hb : (loadBuiltin builtin []).2 = true) (hv : l.all (·.2.valid) = true) (hnd : (l.map (·.1)).Nodup) (k : String) :
    (k ∉ l.map (·.1) → lookup (loadCompilers builtin (.defs l)).1 k = lookup (loadBuiltin builtin []).1 k) ∧
    ∀ d, (k, d) ∈ l →
      lookup (loadCompilers builtin (.defs l)).1 k = some (mergedDef (lookup (loadBuiltin builtin []).1 k) d) := by
  rw [loadCompilers_defs builtin l hb hv]
  exact ⟨foldl_mergeOne_other l _ k, fun d => foldl_mergeOne_mem l _ k d hnd⟩

/-! ### attribution: the loops of `finder.find`, the entries of `load_database` -/

theorem foldl_append_flatMap {α β} (g : α → List β) (l : List α) (acc : List β) :
    l.foldl (fun acc x => acc ++ g x) acc = acc ++ l.flatMap g := by
  induction l generalizing acc with
  | nil => simp
  | cons x r ih => simp [ih, List.append_assoc]

/-- the two nested accumulation loops of `finder.find` as a comprehension -/
theorem attributeAll_eq {Node} (uses : Entry → Node → Bool) (nodes : List Node) (config : List (String × List Entry)) :
    attributeAll uses nodes config =
      config.flatMap fun pe => pe.2.flatMap fun e => (nodes.filter (uses e)).map fun n => (n, pe.1) := by
  simp only [attributeAll, foldl_append_flatMap, List.nil_append]

theorem mem_loadDatabase (cs : CompilerMap) (mt : Matches) (cmds : List Command) (es : List Entry) (logs : List Log)
    (h : loadDatabase cs mt cmds = .ok (es, logs)) (e : Entry) :
    e ∈ es ↔ ∃ cmd ∈ cmds, ∃ cfgs l, emulate cs mt cmd.argv0 cmd.argv = .ok (cfgs, l) ∧ e ∈ entriesOf cmd cfgs := by
  fun_induction loadDatabase cs mt cmds generalizing es logs with
  | case1 => cases h; simp
  | case2 => cases h
  | case3 => cases h
  | case4 cmd r cfgs l he es2 l2 hr ih =>
    cases h
    rw [List.mem_append, ih es2 l2 hr]
    simp only [List.mem_cons, exists_eq_or_imp]
    -- the first command's share of the right side is `e ∈ entriesOf cmd cfgs`: `emulate` has the one result `he`
    refine or_congr_left ⟨fun h1 => ⟨cfgs, l, he, h1⟩, ?_⟩
    rintro ⟨cf, l', h2, h3⟩
    rw [he] at h2
    cases h2
    exact h3

/-! ### classification of an argument -/

theorem classify_exact (t : List Opt) (f : String) (o : Opt) (c : Char) (r : List Char)
    (hf : f.toList = '-' :: c :: r) (ho : findOpt t f = some o) : classify t f = .opt f o none := by
  unfold classify
  simp only [hf, ho]
  simp

theorem splitEq_spec : ∀ (l acc v : List Char), '=' ∉ l → splitEq (l ++ '=' :: v) acc = some (acc.reverse ++ l, v) := by
  intro l
  induction l with
  | nil => intro acc v _; simp [splitEq]
  | cons c cs ih =>
    intro acc v h
    have hc : (c == '=') = false := by
      have : c ≠ '=' := fun e => h (by simp [e])
      simpa using this
    simp only [List.cons_append, splitEq, hc, Bool.false_eq_true, if_false]
    rw [ih _ _ fun e => h (by simp [e])]
    simp

theorem classify_eq (t : List Opt) (fl vl : List Char) (o : Opt) (c : Char) (r : List Char)
    (hf : fl = '-' :: c :: r) (hne : '=' ∉ fl)
    (hnone : findOpt t (String.ofList (fl ++ '=' :: vl)) = none)
    (ho : findOpt t (String.ofList fl) = some o) :
    classify t (String.ofList (fl ++ '=' :: vl)) = .opt (String.ofList fl) o (some (String.ofList vl)) := by
  unfold classify
  simp only [String.toList_ofList, hnone]
  subst hf
  have := splitEq_spec ('-' :: c :: r) [] vl hne
  simp only [List.cons_append, List.reverse_nil, List.nil_append] at this ⊢
  simp only [this, ho, Option.map_some]
  simp

/-- for the test vectors of `Props/C12*.lean`, which compare results of `parseArgs` / `emulate` -/
instance instDecEqExcept {ε α} [DecidableEq ε] [DecidableEq α] : DecidableEq (Except ε α)
  | .ok a, .ok b => if h : a = b then isTrue (by rw [h]) else isFalse (by intro e; cases e; exact h rfl)
  | .error a, .error b => if h : a = b then isTrue (by rw [h]) else isFalse (by intro e; cases e; exact h rfl)
  | .ok _, .error _ => isFalse (by intro e; cases e)
  | .error _, .ok _ => isFalse (by intro e; cases e)

end CbiVerif.Compilers
