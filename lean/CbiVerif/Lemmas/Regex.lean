import CbiVerif.Spec.Regex
import CbiVerif.Spec.RegexPrio
/-! The back-tracking matcher as a first-success search over an ordered list of runs.

    `runs g r s caps` lists the ways `r` can match at the beginning of `s` in the matcher's order of preference.  With
    `g` set, a repetition goes on only after an iteration that consumed something, as `starLoop` does; without it the
    list is `allMatches`.  For EVERY expression `matchRe r s caps k` is the first success of `k` over `runs true r s caps`
    (`matchRe_eq_runs`), the runs are matches of the language `Match` (`runs_sound`) and every match of the language is a
    run (`runs_complete`); where no repeated body can match the empty string the guard never fires
    (`runs_eq_allMatches`).  Soundness, completeness and the priority theorem of the matcher are then facts about lists. -/
namespace CbiVerif.Regex

/-! ## one-step equations (to rewrite without unfolding the matcher under binders) -/

theorem first_eq_or {R : Type} (o e : Option R) : (match o with | some x => some x | none => e) = o.or e := by
  cases o <;> rfl
theorem starLoop_succ {R : Type} (body : List Char → Caps → Cont R → Option R) (n : Nat) (s : List Char) (caps : Caps) (k : Cont R) :
    starLoop body (n + 1) s caps k =
      (body s caps (fun s' caps' => if s'.length < s.length then starLoop body n s' caps' k else none)).or (k s caps) :=
  first_eq_or _ _
theorem matchRe_alt {R : Type} (a b : Re) (s : List Char) (caps : Caps) (k : Cont R) :
    matchRe (.alt a b) s caps k = (matchRe a s caps k).or (matchRe b s caps k) := first_eq_or _ _
theorem matchRe_opt {R : Type} (r : Re) (s : List Char) (caps : Caps) (k : Cont R) :
    matchRe (.opt r) s caps k = (matchRe r s caps k).or (k s caps) := first_eq_or _ _

theorem matchRe_seq {R : Type} (a b : Re) (s : List Char) (caps : Caps) (k : Cont R) :
    matchRe (.seq a b) s caps k = matchRe a s caps (fun s1 c1 => matchRe b s1 c1 k) := rfl
theorem matchRe_group {R : Type} (i : Nat) (r : Re) (s : List Char) (caps : Caps) (k : Cont R) :
    matchRe (.group i r) s caps k = matchRe r s caps (fun s1 c1 => k s1 ((i, s.take (s.length - s1.length)) :: c1)) := rfl
theorem matchRe_plus {R : Type} (r : Re) (s : List Char) (caps : Caps) (k : Cont R) :
    matchRe (.plus r) s caps k =
      matchRe r s caps (fun s1 c1 => starLoop (fun s0 c0 k0 => matchRe r s0 c0 k0) s1.length s1 c1 k) := rfl
theorem matchRe_cls_cons {R : Type} (neg : Bool) (items : List CItem) (c : Char) (t : List Char) (caps : Caps) (k : Cont R) :
    matchRe (.cls neg items) (c :: t) caps k = if classTest neg items c then k t caps else none := rfl
theorem matchRe_cls_nil {R : Type} (neg : Bool) (items : List CItem) (caps : Caps) (k : Cont R) :
    matchRe (.cls neg items) [] caps k = none := rfl

/-! ## what a match of the language consumes -/

theorem Match.suffix {r : Re} {s s' : List Char} (h : Match r s s') : ∃ w, s = w ++ s' := by
  induction h with
  | chr c s | any c s _ | cls _ _ c s _ => exact ⟨[c], rfl⟩
  | seq _ _ ih1 ih2 | starS _ _ ih1 ih2 | plus _ _ ih1 ih2 =>
    obtain ⟨w1, h1⟩ := ih1; obtain ⟨w2, h2⟩ := ih2; exact ⟨w1 ++ w2, by rw [h1, h2, List.append_assoc]⟩
  | altL _ ih | altR _ ih | optS _ ih | group _ ih => exact ih
  | empty s | star0 r s | opt0 r s | eol s _ => exact ⟨[], rfl⟩

theorem Match.length_le {r : Re} {s s' : List Char} (h : Match r s s') : s'.length ≤ s.length := by
  obtain ⟨w, rfl⟩ := h.suffix
  simp

theorem Match.eq_of_length {r : Re} {s s' : List Char} (h : Match r s s') (hl : ¬ s'.length < s.length) : s' = s := by
  obtain ⟨w, rfl⟩ := h.suffix
  obtain rfl : w = [] := List.eq_nil_of_length_eq_zero (by simp only [List.length_append] at hl; omega)
  rfl

theorem Match.consumes {r : Re} {s s' : List Char} (h : Match r s s') : nullable r = false → s'.length < s.length := by
  induction h with
  | chr c s | any c s _ | cls _ _ c s _ => intro _; simp
  | empty s | star0 r s | starS _ _ _ _ | opt0 r s | optS _ _ | eol s _ => intro hn; cases hn
  | seq h1 h2 ih1 ih2 =>
    intro hn
    have l1 := h1.length_le
    have l2 := h2.length_le
    simp only [nullable, Bool.and_eq_false_iff] at hn
    rcases hn with hn | hn
    · have := ih1 hn; omega
    · have := ih2 hn; omega
  | altL _ ih => intro hn; simp only [nullable, Bool.or_eq_false_iff] at hn; exact ih hn.1
  | altR _ ih => intro hn; simp only [nullable, Bool.or_eq_false_iff] at hn; exact ih hn.2
  | plus _ h2 ih1 _ => intro hn; have := h2.length_le; have := ih1 hn; omega
  | group _ ih => exact ih

/-! ## the runs -/

/-- `starAll`, except that with `g` an iteration that consumed nothing is not continued (the length test of `starLoop`) -/
def starRuns (g : Bool) (body : List Char → Caps → List MRes) : Nat → List Char → Caps → List MRes
  | 0, s, caps => [(s, caps)]
  | n + 1, s, caps =>
    (body s caps).flatMap (fun x => if g && !decide (x.1.length < s.length) then [] else starRuns g body n x.1 x.2) ++ [(s, caps)]

/-- `allMatches` with every repetition guarded by `g`; an expression without sub-expressions has the runs listed there -/
def runs (g : Bool) : Re → List Char → Caps → List MRes
  | .seq a b, s, caps => (runs g a s caps).flatMap fun x => runs g b x.1 x.2
  | .alt a b, s, caps => runs g a s caps ++ runs g b s caps
  | .star r, s, caps => starRuns g (fun s0 c0 => runs g r s0 c0) s.length s caps
  | .plus r, s, caps => (runs g r s caps).flatMap fun x => starRuns g (fun s0 c0 => runs g r s0 c0) x.1.length x.1 x.2
  | .opt r, s, caps => runs g r s caps ++ [(s, caps)]
  | .group i r, s, caps => (runs g r s caps).map fun x => (x.1, (i, s.take (s.length - x.1.length)) :: x.2)
  | r, s, caps => allMatches r s caps

theorem starRuns_nil (body : List Char → Caps → List MRes) (n : Nat) (caps : Caps) : starRuns true body n [] caps = [([], caps)] := by
  cases n with
  | zero => rfl
  | succ n => simp [starRuns]

/-- fuel beyond the length of the text changes nothing: every further iteration starts from a shorter text -/
theorem starRuns_fuel (body : List Char → Caps → List MRes) : ∀ (n m : Nat) (s : List Char) (caps : Caps),
    s.length ≤ n → s.length ≤ m → starRuns true body n s caps = starRuns true body m s caps := by
  intro n
  induction n with
  | zero => intro m s caps hn _; obtain rfl := List.eq_nil_of_length_eq_zero (Nat.le_zero.mp hn); rw [starRuns_nil, starRuns_nil]
  | succ n ih =>
    intro m s caps hn hm
    cases m with
    | zero => obtain rfl := List.eq_nil_of_length_eq_zero (Nat.le_zero.mp hm); rw [starRuns_nil, starRuns_nil]
    | succ m =>
      simp only [starRuns]
      refine congrArg (· ++ _) (congrArg List.flatten (List.map_congr_left fun x _ => ?_))
      by_cases hl : x.1.length < s.length
      · rw [ih m x.1 x.2 (by omega) (by omega)]
      · simp [hl]

/-! ## the matcher is the first success over the runs -/

theorem findSome?_flatMap {α β γ : Type} (g : α → List β) (f : β → Option γ) : ∀ (l : List α),
    (l.flatMap g).findSome? f = l.findSome? (fun x => (g x).findSome? f) := by
  intro l
  induction l with
  | nil => rfl
  | cons a t ih =>
    simp only [List.flatMap_cons, List.findSome?_append, List.findSome?_cons, ih]
    cases (g a).findSome? f <;> rfl

theorem findSome?_ite {α β : Type} (c : Bool) (l : List α) (f : α → Option β) :
    (if c then [] else l).findSome? f = if c then none else l.findSome? f := by
  cases c <;> rfl

/-- the repetition of any matcher `f` that is the first success over a list `body` of runs is the first success over the
    guarded repetition of `body` -/
theorem starLoop_eq_runs {R : Type} (f : List Char → Caps → Cont R → Option R) (body : List Char → Caps → List MRes)
    (hf : ∀ (s : List Char) (caps : Caps) (k : Cont R), f s caps k = (body s caps).findSome? (fun x => k x.1 x.2))
    (k : Cont R) : ∀ (n : Nat) (s : List Char) (caps : Caps),
    starLoop f n s caps k = (starRuns true body n s caps).findSome? (fun x => k x.1 x.2) := by
  intro n
  induction n with
  | zero => intro s caps; simp only [starLoop, starRuns, List.findSome?_singleton]
  | succ n ihn =>
    intro s caps
    simp only [starLoop_succ, starRuns, List.findSome?_append, List.findSome?_singleton, findSome?_flatMap, hf s caps,
      findSome?_ite, ihn, Bool.true_and]
    congr 2
    funext x
    by_cases h : x.1.length < s.length <;> simp [h]

theorem matchRe_eq_runs {R : Type} (r : Re) : ∀ (s : List Char) (caps : Caps) (k : Cont R),
    matchRe r s caps k = (runs true r s caps).findSome? (fun x => k x.1 x.2) := by
  induction r with
  | empty => intro s caps k; simp only [matchRe, runs, allMatches, List.findSome?_singleton]
  | chr c | any | cls neg items =>
    intro s caps k
    cases s with
    | nil => rfl
    | cons a t => simp only [matchRe, runs, allMatches]; split <;> simp
  | seq a b iha ihb => intro s caps k; simp only [matchRe, runs, findSome?_flatMap, iha, ihb]
  | alt a b iha ihb => intro s caps k; simp only [matchRe_alt, runs, List.findSome?_append, iha, ihb]
  | star r ih => intro s caps k; exact starLoop_eq_runs _ _ ih k _ _ _
  | plus r ih =>
    intro s caps k
    rw [matchRe_plus, ih]
    simp only [runs, findSome?_flatMap, starLoop_eq_runs _ _ ih k]
  | opt r ih => intro s caps k; simp only [matchRe_opt, runs, List.findSome?_append, List.findSome?_singleton, ih]
  | group i r ih => intro s caps k; simp only [matchRe, runs, List.findSome?_map, ih]; rfl
  | eol =>
    intro s caps k
    simp only [matchRe, runs, allMatches]
    split <;> simp

theorem starLoop_fuel {R : Type} (r : Re) (k : Cont R) : ∀ (n m : Nat) (s : List Char) (caps : Caps),
    s.length ≤ n → s.length ≤ m →
    starLoop (fun s0 c0 k0 => matchRe r s0 c0 k0) n s caps k = starLoop (fun s0 c0 k0 => matchRe r s0 c0 k0) m s caps k := by
  intro n m s caps hn hm
  rw [starLoop_eq_runs _ _ (matchRe_eq_runs r), starLoop_eq_runs _ _ (matchRe_eq_runs r), starRuns_fuel _ n m s caps hn hm]

/-! ## the runs are the matches of the language -/

theorem starRuns_sound (g : Bool) (r : Re) (body : List Char → Caps → List MRes)
    (hb : ∀ s caps x, x ∈ body s caps → Match r s x.1) :
    ∀ n s caps x, x ∈ starRuns g body n s caps → Match (.star r) s x.1 := by
  intro n
  induction n with
  | zero => intro s caps x hx; obtain rfl := List.mem_singleton.mp hx; exact .star0 r s
  | succ n ih =>
    intro s caps x hx
    simp only [starRuns, List.mem_append, List.mem_flatMap, List.mem_singleton] at hx
    rcases hx with ⟨y, hy, hx⟩ | rfl
    · split at hx
      · cases hx
      · exact .starS (hb _ _ _ hy) (ih _ _ _ hx)
    · exact .star0 r s

theorem eolTest_iff (s : List Char) : (s.isEmpty || s == ['\n']) = true ↔ s = [] ∨ s = ['\n'] := by
  simp [List.isEmpty_iff]

theorem runs_sound (g : Bool) (r : Re) (s : List Char) (caps : Caps) (x : MRes) (hx : x ∈ runs g r s caps) : Match r s x.1 := by
  -- an expression without sub-expressions has at most one run, under the side condition of its `Match` rule
  have single : ∀ {p : Prop} [Decidable p] {x y : MRes}, (x ∈ if p then [y] else []) → p ∧ x = y :=
    fun h => ⟨(List.mem_ite_nil_right.mp h).1, List.mem_singleton.mp (List.mem_ite_nil_right.mp h).2⟩
  induction r generalizing s caps x with
  | empty => obtain rfl := List.mem_singleton.mp hx; exact .empty s
  | chr c =>
    match s, hx with
    | a :: t, hx => obtain ⟨hc, rfl⟩ := single hx; exact eq_of_beq hc ▸ .chr a t
  | any =>
    match s, hx with
    | a :: t, hx => obtain ⟨hc, rfl⟩ := single hx; exact .any a t (bne_iff_ne.mp hc)
  | cls neg items =>
    match s, hx with
    | a :: t, hx => obtain ⟨hc, rfl⟩ := single hx; exact .cls neg items a t hc
  | eol => obtain ⟨hc, rfl⟩ := single hx; exact .eol s ((eolTest_iff s).mp hc)
  | seq a b iha ihb =>
    obtain ⟨y, hy, hx⟩ := List.mem_flatMap.mp hx
    exact .seq (iha _ _ _ hy) (ihb _ _ _ hx)
  | alt a b iha ihb =>
    rcases List.mem_append.mp hx with hx | hx
    · exact .altL (iha _ _ _ hx)
    · exact .altR (ihb _ _ _ hx)
  | star r ih => exact starRuns_sound g r _ ih _ _ _ _ hx
  | plus r ih =>
    obtain ⟨y, hy, hx⟩ := List.mem_flatMap.mp hx
    exact .plus (ih _ _ _ hy) (starRuns_sound g r _ ih _ _ _ _ hx)
  | opt r ih =>
    rcases List.mem_append.mp hx with hx | hx
    · exact .optS (ih _ _ _ hx)
    · obtain rfl := List.mem_singleton.mp hx; exact .opt0 r s
  | group i r ih =>
    obtain ⟨y, hy, rfl⟩ := List.mem_map.mp hx
    exact .group (ih s caps y hy)

theorem starRuns_eq_starAll (g : Bool) (body : List Char → Caps → List MRes)
    (hb : g = true → ∀ s caps x, x ∈ body s caps → x.1.length < s.length) :
    ∀ n s caps, starRuns g body n s caps = starAll body n s caps := by
  intro n
  induction n with
  | zero => intro s caps; rfl
  | succ n ih =>
    intro s caps
    simp only [starRuns, starAll, ih]
    refine congrArg (· ++ _) (congrArg List.flatten (List.map_congr_left fun x hx => if_neg ?_))
    cases g with
    | false => simp
    | true => simpa using hb rfl s caps x hx

/-- without the guard, and with it wherever every repeated body consumes, the runs are the priority list -/
theorem runs_eq_allMatches (g : Bool) (r : Re) : (g = true → inFragment r = true) → ∀ (s : List Char) (caps : Caps),
    runs g r s caps = allMatches r s caps := by
  -- the guard never fires after a body that is not nullable
  have star : ∀ r, (g = true → nullable r = false) → (∀ s caps, runs g r s caps = allMatches r s caps) → ∀ n s caps,
      starRuns g (fun s0 c0 => allMatches r s0 c0) n s caps = starAll (fun s0 c0 => allMatches r s0 c0) n s caps :=
    fun r hn ih => starRuns_eq_starAll g _ fun h s caps x hx => (runs_sound g r s caps x (ih s caps ▸ hx)).consumes (hn h)
  induction r with
  | seq a b iha ihb | alt a b iha ihb =>
    intro hf s caps
    simp only [inFragment, Bool.and_eq_true] at hf
    simp only [runs, allMatches, iha fun h => (hf h).1, ihb fun h => (hf h).2]
  | star r ih | plus r ih =>
    intro hf s caps
    simp only [inFragment, Bool.and_eq_true, Bool.not_eq_true'] at hf
    have ih := ih fun h => (hf h).2
    simp only [runs, allMatches, star r (fun h => (hf h).1) ih, ih]
  | opt r ih | group i r ih => intro hf s caps; simp only [runs, allMatches, ih hf]
  | _ => intro _ s caps; rfl

/-! ## every match of the language is a run -/

theorem self_mem_starRuns (g : Bool) (body : List Char → Caps → List MRes) (n : Nat) (s : List Char) (caps : Caps) :
    (s, caps) ∈ starRuns g body n s caps := by
  cases n with
  | zero => exact List.mem_singleton.mpr rfl
  | succ n => exact List.mem_append_right _ (List.mem_singleton.mpr rfl)

theorem runs_complete {r : Re} {s s' : List Char} (h : Match r s s') : ∀ caps, ∃ caps', (s', caps') ∈ runs true r s caps := by
  induction h with
  | empty s | chr c s => intro caps; exact ⟨caps, by simp [runs, allMatches]⟩
  | any c s hc | cls neg items c s hc => intro caps; exact ⟨caps, by simp [runs, allMatches, hc]⟩
  | seq _ _ ih1 ih2 | plus _ _ ih1 ih2 =>
    intro caps
    obtain ⟨c1, h1⟩ := ih1 caps
    obtain ⟨c2, h2⟩ := ih2 c1
    exact ⟨c2, List.mem_flatMap.mpr ⟨_, h1, h2⟩⟩
  | altL _ ih | optS _ ih => intro caps; obtain ⟨c1, h1⟩ := ih caps; exact ⟨c1, List.mem_append_left _ h1⟩
  | altR _ ih => intro caps; obtain ⟨c1, h1⟩ := ih caps; exact ⟨c1, List.mem_append_right _ h1⟩
  | star0 r s => intro caps; exact ⟨caps, self_mem_starRuns ..⟩
  | @starS r s s1 s2 hm1 hm2 ih1 ih2 =>
    intro caps
    by_cases hl : s1.length < s.length
    · obtain ⟨c1, h1⟩ := ih1 caps
      obtain ⟨c2, h2⟩ := ih2 c1
      refine ⟨c2, ?_⟩
      simp only [runs] at h2 ⊢
      obtain ⟨n, hn⟩ : ∃ n, s.length = n + 1 := ⟨s.length - 1, by omega⟩
      -- one unrolling with fuel |s| - 1, which still covers the shorter rest
      simp only [hn, starRuns, List.mem_append, List.mem_flatMap]
      exact Or.inl ⟨_, h1, by rw [if_neg (by simpa [hn] using hl)]; exact starRuns_fuel _ s1.length n s1 c1 (Nat.le_refl _) (by omega) ▸ h2⟩
    · -- an iteration that consumes nothing can be left out
      obtain rfl := hm1.eq_of_length hl
      exact ih2 caps
  | opt0 r s => intro caps; exact ⟨caps, by simp [runs]⟩
  | group _ ih => intro caps; obtain ⟨c1, h1⟩ := ih caps; exact ⟨_, List.mem_map.mpr ⟨_, h1, rfl⟩⟩
  | eol s hs => intro caps; exact ⟨caps, by simp [runs, allMatches, (eolTest_iff s).mpr hs]⟩

/-! ## the matcher against the language and against the priority list -/

theorem matchRe_sound {R : Type} (r : Re) (s : List Char) (caps : Caps) (k : Cont R) (x : R)
    (h : matchRe r s caps k = some x) : ∃ s' caps', Match r s s' ∧ k s' caps' = some x := by
  rw [matchRe_eq_runs] at h
  obtain ⟨y, hy, hk⟩ := List.exists_of_findSome?_eq_some h
  exact ⟨y.1, y.2, runs_sound true r s caps y hy, hk⟩

/-- completeness in continuation form: when the language has a match `s ↦ s'` and the continuation accepts `s'`
    (whatever the groups), the matcher succeeds -/
theorem matchRe_complete {r : Re} {s s' : List Char} (h : Match r s s') {R : Type} (caps : Caps) (k : Cont R)
    (hk : ∀ caps', (k s' caps').isSome = true) : (matchRe r s caps k).isSome = true := by
  obtain ⟨c', hc⟩ := runs_complete h caps
  rw [matchRe_eq_runs, List.findSome?_isSome_iff]
  exact ⟨_, hc, hk c'⟩

theorem matchRe_eq_first {R : Type} (r : Re) (hf : inFragment r = true) (s : List Char) (caps : Caps) (k : Cont R) :
    matchRe r s caps k = (allMatches r s caps).findSome? (fun x => k x.1 x.2) := by
  rw [matchRe_eq_runs, runs_eq_allMatches true r fun _ => hf]

theorem allMatches_sound (r : Re) (s : List Char) (caps : Caps) (x : MRes) (h : x ∈ allMatches r s caps) : Match r s x.1 :=
  runs_sound false r s caps x (runs_eq_allMatches false r nofun s caps ▸ h)

theorem starLoop_eq_first {R : Type} (r : Re) (hn : nullable r = false)
    (ih : ∀ (s : List Char) (caps : Caps) (k : Cont R), matchRe r s caps k = (allMatches r s caps).findSome? (fun x => k x.1 x.2))
    (k : Cont R) (n : Nat) (s : List Char) (caps : Caps) :
    starLoop (fun s0 c0 k0 => matchRe r s0 c0 k0) n s caps k =
      (starAll (fun s0 c0 => allMatches r s0 c0) n s caps).findSome? (fun x => k x.1 x.2) := by
  rw [starLoop_eq_runs _ _ ih, starRuns_eq_starAll true _ fun _ s caps x hx => (allMatches_sound r s caps x hx).consumes hn]

theorem allMatches_complete {r : Re} {s s' : List Char} (h : Match r s s') (hf : inFragment r = true) (caps : Caps) :
    ∃ caps', (s', caps') ∈ allMatches r s caps :=
  runs_eq_allMatches true r (fun _ => hf) s caps ▸ runs_complete h caps

/-! ## one match attempt -/

theorem matchAt_eq_find (r : Re) (adv : Bool) (s : List Char) : matchAt r adv s = (runs true r s []).find? (acceptable adv s) := by
  simp only [matchAt, matchRe_eq_runs, List.find?_eq_findSome?_guard]
  congr 1
  funext x
  simp only [fin, acceptable, Option.guard]
  split <;> simp [*]

theorem matchAt_sound (r : Re) (adv : Bool) (s s' : List Char) (caps : Caps) (h : matchAt r adv s = some (s', caps)) :
    Match r s s' ∧ (adv = true → s'.length ≠ s.length) := by
  rw [matchAt_eq_find] at h
  have ha := List.find?_some h
  exact ⟨runs_sound true r s [] _ (List.mem_of_find?_eq_some h), fun hadv hl => by simp [acceptable, hadv, hl] at ha⟩

theorem matchAt_complete (r : Re) (adv : Bool) (s s' : List Char) (h : Match r s s')
    (hadv : adv = true → s'.length ≠ s.length) : (matchAt r adv s).isSome = true := by
  apply matchRe_complete h
  intro caps'
  cases adv with
  | false => rfl
  | true => simp [fin, hadv rfl]

/-- "the language has a match at this position that a match attempt with `adv` may report" -/
def Reportable (r : Re) (adv : Bool) (s : List Char) : Prop := ∃ s', Match r s s' ∧ (adv = true → s'.length ≠ s.length)

theorem matchAt_isSome_iff (r : Re) (adv : Bool) (s : List Char) : (matchAt r adv s).isSome = true ↔ Reportable r adv s := by
  constructor
  · intro h
    obtain ⟨y, hm⟩ := Option.isSome_iff_exists.mp h
    exact ⟨y.1, matchAt_sound r adv s y.1 y.2 hm⟩
  · rintro ⟨s', hm, ha⟩; exact matchAt_complete r adv s s' hm ha

theorem matchAt_eq_none_iff (r : Re) (adv : Bool) (s : List Char) : matchAt r adv s = none ↔ ¬ Reportable r adv s := by
  rw [← matchAt_isSome_iff, Bool.not_eq_true, Option.isSome_eq_false_iff, Option.isNone_iff_eq_none]

theorem matchAt_eq_firstMatch (r : Re) (hf : inFragment r = true) (adv : Bool) (s : List Char) :
    matchAt r adv s = firstMatch r adv s := by
  rw [matchAt_eq_find, runs_eq_allMatches true r fun _ => hf]
  rfl

end CbiVerif.Regex
