import CbiVerif.Lemmas.CLexBuf
/-! # C05: lists of survivors of the reference scanner

Characters and their classes; survivors rendered as buffer actions; the counted lines of a list of survivors;
its logical lines (`segments`) with their first non-white character and their `##` test. -/
namespace CbiVerif.CLexSim
open CbiVerif.CClean CbiVerif.CLexRef CbiVerif.CText

/-- on plain characters Python's `str.isspace` is the white space of C: `plainChar` excludes exactly
    the code points on which the two differ -/
theorem pyIsSpace_of_plain (c : Char) (h : plainChar c = true) : pyIsSpace c = cWhite c := by
  have e : (decide (28 ≤ c.toNat) && decide (c.toNat ≤ 32)) =
      (c.toNat == 32 || (decide (28 ≤ c.toNat) && decide (c.toNat ≤ 31))) := by
    rw [Bool.eq_iff_iff]
    simp only [Bool.or_eq_true, Bool.and_eq_true, decide_eq_true_eq, beq_iff_eq]
    omega
  simp only [plainChar, pyIsSpace, cWhite, e, Bool.or_assoc] at h ⊢
  clear e
  -- what is left is a Boolean identity in four atoms
  generalize (c.toNat == 133 || _) = T at h ⊢
  generalize (c.toNat == 32) = S at h ⊢
  generalize (decide (9 ≤ c.toNat) && decide (c.toNat ≤ 13)) = W at h ⊢
  generalize (decide (28 ≤ c.toNat) && decide (c.toNat ≤ 31)) = B at h ⊢
  revert h
  cases S <;> cases W <;> cases B <;> cases T <;> decide

/-- the characters `classify` and `kind` test for -/
def tested : List Char := ['/', '*', '"', '\'', '\\', '#', ' ']

theorem classify_untested (c : Char) (h : c ∉ tested) :
    classify c = (if pyIsSpace c then Cls.ws else Cls.other) ∧ kind c = (if cWhite c then Kind.white else Kind.other) := by
  simp only [tested, List.mem_cons, List.not_mem_nil, or_false, not_or] at h
  simp only [classify, kind, beq_iff_eq, h, if_false, and_self]

theorem kind_classify (c : Char) (h : plainChar c = true) : kind c = (classify c).kind := by
  by_cases hm : c ∈ tested
  · exact (by decide : ∀ c ∈ tested, kind c = (classify c).kind) c hm
  · rw [(classify_untested c hm).1, (classify_untested c hm).2, pyIsSpace_of_plain c h]
    cases cWhite c <;> rfl

theorem isWhite_classify (c : Char) (h : plainChar c = true) : (classify c).isWhite = cWhite c := by
  by_cases hm : c ∈ tested
  · exact (by decide : ∀ c ∈ tested, (classify c).isWhite = cWhite c) c hm
  · rw [(classify_untested c hm).1, ← pyIsSpace_of_plain c h]
    cases pyIsSpace c <;> rfl

theorem classify_hash (c : Char) : (classify c == Cls.hash) = (c == '#') := by
  by_cases hm : c ∈ tested
  · exact (by decide : ∀ c ∈ tested, (classify c == Cls.hash) = (c == '#')) c hm
  · have : (c == '#') = false := beq_false_of_ne fun e => hm (e ▸ by decide)
    rw [(classify_untested c hm).1, this]
    cases pyIsSpace c <;> rfl

theorem classify_hash_ch (c : Char) : (c == '#') = true → classify c = Cls.hash := by
  intro h; have := classify_hash c; rw [h] at this; simpa using this

theorem cWhite_not_hash (c : Char) (h : cWhite c = true) : (c == '#') = false :=
  beq_false_of_ne fun e => by rw [e] at h; cases h

def _root_.CbiVerif.CLexRef.Surv.render : Surv → List REmit
  | .ch c _ lit => [if cWhite c && !lit then .sp else .ns (classify c)]
  | .nl _ => []

def renderAll (out : List Surv) : List REmit := out.flatMap Surv.render

def _root_.CbiVerif.CLexRef.Surv.onLine (n : Nat) : Surv → Bool
  | .ch _ m _ => m == n
  | .nl m => m == n

def _root_.CbiVerif.CLexRef.Surv.isNl : Surv → Bool
  | .ch _ _ _ => false
  | .nl _ => true

def _root_.CbiVerif.CLexRef.Surv.plain : Surv → Bool
  | .ch c _ _ => plainChar c
  | .nl _ => true

def _root_.CbiVerif.CLexRef.Surv.litWhite : Surv → Bool
  | .ch c _ lit => lit && cWhite c
  | .nl _ => false

def _root_.CbiVerif.CLexRef.Surv.lineNo : Surv → Nat
  | .ch _ m _ => m
  | .nl m => m

theorem renderAll_append (a b : List Surv) : renderAll (a ++ b) = renderAll a ++ renderAll b := by
  simp [renderAll]

theorem renderAll_ch (c : Char) (n : Nat) (lit : Bool) (xs : List Surv) :
    renderAll (.ch c n lit :: xs) = (if cWhite c && !lit then .sp else .ns (classify c)) :: renderAll xs := rfl

theorem renderAll_opt (b : Bool) (x : Surv) : renderAll (if b then [x] else []) = if b then x.render else [] := by
  cases b <;> simp [renderAll]

theorem render_slash (p : Nat) : Surv.render (.ch '/' p false) = [.ns .slash] := by
  simp [Surv.render, cWhite, classify]

theorem render_space (n : Nat) : Surv.render (.ch ' ' n false) = [.sp] := by
  simp [Surv.render, cWhite]

theorem render_nl (n : Nat) : Surv.render (.nl n) = [] := rfl

theorem renderAll_nl (body : List Surv) (ends : Bool) (n : Nat) :
    renderAll (body ++ if ends then [Surv.nl n] else []) = renderAll body := by
  cases ends <;> simp [renderAll, render_nl]

theorem render_visible (x : Surv) (hp : x.plain = true) : anyVisible x.render = !x.isWhite := by
  cases x with
  | nl n => rfl
  | ch c n lit =>
    simp only [Surv.plain] at hp
    simp only [Surv.render, anyVisible, List.any_cons, List.any_nil, Bool.or_false, Surv.isWhite]
    cases hw : cWhite c <;> cases lit <;> simp [REmit.visible, isWhite_classify c hp, hw]

theorem render_litWs (x : Surv) (hp : x.plain = true) : anyLitWs x.render = x.litWhite := by
  cases x with
  | nl n => rfl
  | ch c n lit =>
    simp only [Surv.plain] at hp
    simp only [Surv.render, anyLitWs, List.any_cons, List.any_nil, Bool.or_false, Surv.litWhite]
    cases hw : cWhite c <;> cases lit <;> simp [REmit.litWs, isWhite_classify c hp, hw]

theorem any_flatMap_of {α β : Type} (f : α → List β) (p : β → Bool) (q : α → Bool) (xs : List α)
    (h : ∀ x ∈ xs, (f x).any p = q x) : (xs.flatMap f).any p = xs.any q := by
  induction xs with
  | nil => rfl
  | cons x xs ih =>
    rw [List.flatMap_cons, List.any_append, List.any_cons, h x (by simp), ih fun y hy => h y (by simp [hy])]

theorem anyVisible_renderAll (xs : List Surv) (hp : ∀ x ∈ xs, x.plain = true) :
    anyVisible (renderAll xs) = xs.any (fun x => !x.isWhite) :=
  any_flatMap_of _ _ _ xs fun x hx => render_visible x (hp x hx)

theorem anyLitWs_renderAll (xs : List Surv) (hp : ∀ x ∈ xs, x.plain = true) :
    anyLitWs (renderAll xs) = xs.any Surv.litWhite :=
  any_flatMap_of _ _ _ xs fun x hx => render_litWs x (hp x hx)

theorem lead_renderAll (xs : List Surv) (hp : ∀ x ∈ xs, x.plain = true) :
    lead (renderAll xs) = (firstNonWhite xs).map classify := by
  induction xs with
  | nil => rfl
  | cons x xs ih =>
    obtain ⟨hpx, hp'⟩ := List.forall_mem_cons.mp hp
    cases x with
    | nl n => exact ih hp'
    | ch c n lit =>
      have hf : firstNonWhite (.ch c n lit :: xs) = if cWhite c then firstNonWhite xs else some c := by
        cases hw : cWhite c <;> simp [firstNonWhite, Surv.isWhite, hw]
      rw [renderAll_ch, hf]
      cases hw : cWhite c <;> cases lit <;> simp [lead_ns, lead_sp, isWhite_classify c hpx, hw, ih hp']

theorem onLine_iff (x : Surv) (n : Nat) : x.onLine n = true ↔ x.lineNo = n := by
  cases x <;> simp [Surv.onLine, Surv.lineNo]

theorem nonWhiteOn_eq (x : Surv) (n : Nat) : x.nonWhiteOn n = (x.lineNo == n && !x.isWhite) := by
  cases x <;> simp [Surv.nonWhiteOn, Surv.lineNo, Surv.isWhite]

theorem litWhiteOn_eq (x : Surv) (n : Nat) : x.litWhiteOn n = (x.lineNo == n && x.litWhite) := by
  cases x <;> simp [Surv.litWhiteOn, Surv.lineNo, Surv.litWhite, Bool.and_assoc]

theorem any_nonWhiteOn_ne (xs : List Surv) (k : Nat) (h : ∀ x ∈ xs, x.lineNo ≠ k) :
    xs.any (Surv.nonWhiteOn k) = false := by
  rw [List.any_eq_false]
  intro x hx
  simp [nonWhiteOn_eq, h x hx]

theorem any_congr_mem {α : Type} {p q : α → Bool} {l : List α} (h : ∀ x ∈ l, p x = q x) : l.any p = l.any q := by
  induction l with
  | nil => rfl
  | cons x xs ih =>
    obtain ⟨hx, hxs⟩ := List.forall_mem_cons.mp h
    rw [List.any_cons, List.any_cons, hx, ih hxs]

theorem any_nonWhiteOn_same (xs : List Surv) (m : Nat) (h : ∀ x ∈ xs, x.lineNo = m) :
    xs.any (Surv.nonWhiteOn m) = xs.any (fun x => !x.isWhite) :=
  any_congr_mem fun x hx => by rw [nonWhiteOn_eq, h x hx, beq_self_eq_true, Bool.true_and]

theorem any_litWhiteOn_same (xs : List Surv) (m : Nat) (h : ∀ x ∈ xs, x.lineNo = m) :
    xs.any (Surv.litWhiteOn m) = xs.any Surv.litWhite :=
  any_congr_mem fun x hx => by rw [litWhiteOn_eq, h x hx, beq_self_eq_true, Bool.true_and]
theorem filter_or_split (p q : Nat → Bool) (m : Nat) : ∀ l : List Nat, l.Pairwise (· < ·) →
    (∀ k ∈ l, m < k → p k = false) → (∀ k ∈ l, k ≤ m → q k = false) →
    l.filter (fun k => p k || q k) = l.filter p ++ l.filter q := by
  intro l
  induction l with
  | nil => intro _ _ _; rfl
  | cons x xs ih =>
    intro hs hp hq
    rw [List.pairwise_cons] at hs
    have ih' := ih hs.2 (fun k hk => hp k (List.mem_cons_of_mem _ hk)) (fun k hk => hq k (List.mem_cons_of_mem _ hk))
    by_cases hx : x ≤ m
    · simp only [List.filter_cons, hq x (List.mem_cons_self ..) hx, Bool.or_false, ih']
      split <;> rfl
    · have hnil : xs.filter p = [] := by
        rw [List.filter_eq_nil_iff]
        intro k hk
        have := hs.1 k hk
        simp [hp k (List.mem_cons_of_mem _ hk) (by omega)]
      simp only [List.filter_cons, hp x (List.mem_cons_self ..) (by omega), Bool.false_or, ih', hnil,
        Bool.false_eq_true, if_false, List.nil_append]

theorem linesOf_append (cnt m : Nat) (a b : List Surv) (ha : ∀ x ∈ a, x.lineNo ≤ m) (hb : ∀ x ∈ b, m < x.lineNo) :
    linesOf cnt (a ++ b) = linesOf cnt a ++ linesOf cnt b := by
  unfold linesOf
  simp only [List.any_append]
  exact filter_or_split _ _ m _ List.pairwise_lt_range'
    (fun k _ hk => any_nonWhiteOn_ne a k fun x hx => by have := ha x hx; omega)
    (fun k _ hk => any_nonWhiteOn_ne b k fun x hx => by have := hb x hx; omega)

theorem linesOf_line (cnt m : Nat) (b : List Surv) (hb : ∀ x ∈ b, x.lineNo = m) (h1 : 1 ≤ m) (h2 : m ≤ cnt) :
    linesOf cnt b = if b.any (fun x => !x.isWhite) then [m] else [] := by
  unfold linesOf
  have hc : ∀ k ∈ List.range' 1 cnt, b.any (Surv.nonWhiteOn k) = (k == m && b.any fun x => !x.isWhite) := by
    intro k _
    by_cases hk : k = m
    · subst hk; simp [any_nonWhiteOn_same b k hb]
    · rw [any_nonWhiteOn_ne b k fun x hx => by rw [hb x hx]; exact fun e => hk e.symm]; simp [hk]
  rw [List.filter_congr hc]
  cases b.any fun x => !x.isWhite
  · simp
  · have hm : m ∈ List.range' 1 cnt := by rw [List.mem_range'_1]; omega
    simp only [Bool.and_true, if_true]
    rw [List.filter_beq, List.Nodup.count List.nodup_range', if_pos hm]
    rfl

theorem linesOf_nil (cnt : Nat) : linesOf cnt [] = [] := by
  simp [linesOf]

theorem linesOf_nl (cnt k : Nat) (xs : List Surv) : linesOf cnt (xs ++ [Surv.nl k]) = linesOf cnt xs := by
  simp [linesOf, Surv.nonWhiteOn]

theorem filter_isEmpty_not {α : Type} (p : α → Bool) (l : List α) : (!(l.filter p).isEmpty) = l.any p := by
  induction l with
  | nil => rfl
  | cons a as ih =>
    simp only [List.filter_cons, List.any_cons]
    cases p a
    · simpa using ih
    · simp

theorem linesOf_nonempty (cnt : Nat) (seg : List Surv) (h : ∀ x ∈ seg, 1 ≤ x.lineNo ∧ x.lineNo ≤ cnt) :
    (!(linesOf cnt seg).isEmpty) = seg.any (fun x => !x.isWhite) := by
  unfold linesOf
  rw [filter_isEmpty_not]
  rw [Bool.eq_iff_iff]
  simp only [List.any_eq_true, List.mem_range'_1, Bool.not_eq_true']
  constructor
  · rintro ⟨n, _, x, hx, hnw⟩
    rw [nonWhiteOn_eq] at hnw
    simp only [Bool.and_eq_true, Bool.not_eq_true'] at hnw
    exact ⟨x, hx, hnw.2⟩
  · rintro ⟨x, hx, hnw⟩
    have := h x hx
    refine ⟨x.lineNo, by omega, x, hx, ?_⟩
    rw [nonWhiteOn_eq]
    simp [hnw]

theorem segments_nl (n : Nat) (rest cur : List Surv) :
    segments (.nl n :: rest) cur = cur.reverse :: segments rest [] := rfl

theorem segments_body (body : List Surv) : ∀ (rest cur : List Surv), (∀ x ∈ body, x.isNl = false) →
    segments (body ++ rest) cur = segments rest (body.reverse ++ cur) := by
  induction body with
  | nil => intro rest cur _; rfl
  | cons x body ih =>
    intro rest cur h
    cases x with
    | nl n => cases h (.nl n) (by simp)
    | ch c n lit =>
      show segments (body ++ rest) (.ch c n lit :: cur) = _
      rw [ih rest _ (fun y hy => h y (by simp [hy]))]
      simp

/-- like `segments`, but the last segment is listed even when it is empty (as `c_file_source` flushes at the end of
    the file whatever the buffer holds) -/
def segmentsAll : List Surv → List Surv → List (List Surv)
  | [], cur => [cur.reverse]
  | .nl _ :: rest, cur => cur.reverse :: segmentsAll rest []
  | .ch c n l :: rest, cur => segmentsAll rest (.ch c n l :: cur)

theorem segmentsAll_nil (cur : List Surv) : segmentsAll [] cur = [cur.reverse] := rfl
theorem segmentsAll_nl (n : Nat) (rest cur : List Surv) :
    segmentsAll (.nl n :: rest) cur = cur.reverse :: segmentsAll rest [] := rfl

theorem segmentsAll_spec (xs : List Surv) : ∀ cur, ∃ tl, segmentsAll xs cur = segments xs cur ++ tl ∧ (tl = [] ∨ tl = [[]]) := by
  induction xs with
  | nil =>
    intro cur
    cases cur with
    | nil => exact ⟨[[]], rfl, Or.inr rfl⟩
    | cons x xs => exact ⟨[], by rw [List.append_nil]; rfl, Or.inl rfl⟩
  | cons y ys ih =>
    intro cur
    cases y with
    | nl n =>
      obtain ⟨tl, h1, h2⟩ := ih []
      exact ⟨tl, by rw [segmentsAll_nl, segments_nl, h1]; rfl, h2⟩
    | ch c n l =>
      obtain ⟨tl, h1, h2⟩ := ih (.ch c n l :: cur)
      exact ⟨tl, h1, h2⟩

theorem segmentsAll_eq (k : Nat) (xs : List Surv) : ∀ cur, segmentsAll xs cur = segments (xs ++ [.nl k]) cur := by
  induction xs with
  | nil => intro cur; rfl
  | cons y ys ih =>
    intro cur
    cases y with
    | nl n => exact congrArg (cur.reverse :: ·) (ih [])
    | ch c n l => exact ih _

theorem segmentsAll_body (body rest cur : List Surv) (h : ∀ x ∈ body, x.isNl = false) :
    segmentsAll (body ++ rest) cur = segmentsAll rest (body.reverse ++ cur) := by
  rw [segmentsAll_eq 0, segmentsAll_eq 0, List.append_assoc, segments_body body _ cur h]

theorem firstNonWhite_isSome (xs : List Surv) : (firstNonWhite xs).isSome = xs.any (fun x => !x.isWhite) := by
  induction xs with
  | nil => rfl
  | cons x xs ih =>
    cases x with
    | nl n => simpa [firstNonWhite, List.find?_cons, Surv.isWhite] using ih
    | ch c n lit =>
      cases hw : cWhite c
      · simp [firstNonWhite, Surv.isWhite, hw]
      · simpa [firstNonWhite, List.find?_cons, Surv.isWhite, hw] using ih

theorem find_nonWhite_ch (xs : List Surv) (x : Surv) (h : xs.find? (fun s => !s.isWhite) = some x) :
    ∃ c n lit, x = .ch c n lit := by
  have := List.find?_some h
  cases x with
  | nl n => cases this
  | ch c n lit => exact ⟨c, n, lit, rfl⟩

theorem firstNonWhite_append (a b : List Surv) : firstNonWhite (a ++ b) = (firstNonWhite a).or (firstNonWhite b) := by
  unfold firstNonWhite
  rw [List.find?_append]
  cases ha : a.find? (fun s => !s.isWhite) with
  | none => simp
  | some x => obtain ⟨c, n, lit, rfl⟩ := find_nonWhite_ch a x ha; simp

/-- the category test of the joined buffer is the specification's directive test -/
theorem catV_directive (seg : List Surv) : (catV ((firstNonWhite seg).map classify) == Cat.cppDirective) = startsHash seg := by
  unfold startsHash
  cases h : firstNonWhite seg with
  | none => simp [catV]
  | some c =>
    simp only [Option.map_some, catV, classify_hash c]
    by_cases he : c = '#'
    · subst he; decide
    · have h2 : (c == '#') = false := by simpa using he
      have h3 : (some c == some '#') = false := by simpa using he
      rw [h2, h3]; decide

theorem startsHashHash_white (x : Surv) (xs : List Surv) (h : x.isWhite = true) :
    CLexRef.startsHashHash (x :: xs) = CLexRef.startsHashHash xs := by
  simp [CLexRef.startsHashHash, List.dropWhile, h]

def isHashCh : Surv → Bool
  | .ch c _ _ => c == '#'
  | .nl _ => false

theorem startsHashHash_nonwhite (x : Surv) (xs : List Surv) (h : x.isWhite = false) :
    CLexRef.startsHashHash (x :: xs) = (isHashCh x && (match xs with | y :: _ => isHashCh y | [] => false)) := by
  cases x with
  | nl n => simp [Surv.isWhite] at h
  | ch c n lit =>
    simp only [CLexRef.startsHashHash, List.dropWhile, h, isHashCh]
    by_cases hc : c = '#'
    · subst hc
      cases xs with
      | nil => simp
      | cons y ys =>
        cases y with
        | nl m => simp
        | ch c2 m l2 =>
          by_cases hc2 : c2 = '#'
          · subst hc2; simp
          · simp [hc2]
    · have : (c == '#') = false := by simpa using hc
      simp only [this, Bool.false_and]
      split <;> simp_all

theorem render_head_hash (y : Surv) (hn : y.isNl = false) (rest : List REmit) :
    (match y.render ++ rest with | .ns k2 :: _ => k2 == Cls.hash | _ => false) = isHashCh y := by
  cases y with
  | nl m => cases hn
  | ch c m l =>
    simp only [Surv.render, isHashCh, List.singleton_append]
    cases hq : (cWhite c && !l)
    · exact classify_hash c
    · exact (cWhite_not_hash c (by simp only [Bool.and_eq_true] at hq; exact hq.1)).symm

theorem hhE_renderAll (seg : List Surv) : (∀ x ∈ seg, x.plain = true) → (∀ x ∈ seg, x.isNl = false) →
    leadOK (renderAll seg) = true → hhE (renderAll seg) = CLexRef.startsHashHash seg := by
  induction seg with
  | nil => intro _ _ _; rfl
  | cons x xs ih =>
    intro hp hn hok
    obtain ⟨hpx, hp'⟩ := List.forall_mem_cons.mp hp
    obtain ⟨hnx, hn'⟩ := List.forall_mem_cons.mp hn
    cases x with
    | nl n => cases hnx
    | ch c n lit =>
      rw [renderAll_ch] at hok ⊢
      cases hw : cWhite c with
      | true =>
        rw [startsHashHash_white (.ch c n lit) xs hw]
        cases lit with
        | false => rw [hw] at hok; exact ih hp' hn' hok
        | true => simp [hw, leadOK_ns, isWhite_classify c hpx] at hok
      | false =>
        rw [startsHashHash_nonwhite (.ch c n lit) xs hw]
        simp only [Bool.false_and, Bool.false_eq_true, if_false, hhE_ns, classify_hash c, isHashCh]
        congr 1
        cases xs with
        | nil => rfl
        | cons y ys => exact render_head_hash y (hn' y (by simp)) _
/-- what the text-level theorems know of a logical line of the reference (`lead`: no white space of a literal
    before the first visible survivor) -/
structure SegOK (cnt : Nat) (seg : List Surv) : Prop where
  plain : ∀ x ∈ seg, x.plain = true
  noNl : ∀ x ∈ seg, x.isNl = false
  range : ∀ x ∈ seg, 1 ≤ x.lineNo ∧ x.lineNo ≤ cnt
  lead : leadOK (renderAll seg) = true

theorem SegOK.nil (cnt : Nat) : SegOK cnt [] := ⟨nofun, nofun, nofun, rfl⟩

theorem SegOK.mono {n cnt : Nat} {seg : List Surv} (h : SegOK n seg) (hn : n ≤ cnt) : SegOK cnt seg :=
  ⟨h.plain, h.noNl, fun x hx => ⟨(h.range x hx).1, Nat.le_trans (h.range x hx).2 hn⟩, h.lead⟩

theorem SegOK.cat {cnt : Nat} {seg : List Surv} (h : SegOK cnt seg) :
    catOf (({} : CBuf).addAll (renderAll seg)).parts = catV ((firstNonWhite seg).map classify) := by
  rw [addAll_empty, (cat_app _ h.lead).1, lead_renderAll seg h.plain]

theorem SegOK.hashHash {cnt : Nat} {seg : List Surv} (h : SegOK cnt seg) :
    hashHash (({} : CBuf).addAll (renderAll seg)).parts = CLexRef.startsHashHash seg := by
  rw [addAll_empty, (hh_app _ h.lead).1, hhE_renderAll seg h.plain h.noNl h.lead]

theorem SegOK.counted {cnt : Nat} {seg : List Surv} (h : SegOK cnt seg) :
    (!(linesOf cnt seg).isEmpty) = (firstNonWhite seg).isSome := by
  rw [linesOf_nonempty cnt seg h.range, firstNonWhite_isSome]

end CbiVerif.CLexSim
