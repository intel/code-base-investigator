import CbiVerif.Lemmas.LexChars
import CbiVerif.Model.MacroExpand
/-! # C03: command-line definitions vs `#define` lines (token level), `expandText` on character lists (for samples given as
    string literals) -/
namespace CbiVerif.MX
open CbiVerif.PP

def hashTok : Tok := ⟨.op, "#", false, true⟩
def defineTok : Tok := ⟨.ident, "define", false, true⟩
def eqTok : Tok := ⟨.op, "=", false, true⟩
def lparenTok : Tok := ⟨.punct, "(", false, true⟩
def rparenTok : Tok := ⟨.punct, ")", false, true⟩

/-- `Macro.__init__` resets `prev_white` of the first replacement token, so it does not matter -/
theorem makeMacro_pw (n : String) (args : Option (List String)) (b : Tok) (bs : List Tok) (w : Bool) :
    makeMacro n args ({ b with pw := w } :: bs) = makeMacro n args (b :: bs) := by
  simp only [makeMacro, List.tail_cons]
  have h : (({ b with pw := w } : Tok) :: bs).getLast?.map (·.text) = (b :: bs).getLast?.map (·.text) := by
    cases bs with
    | nil => simp
    | cons c cs => simp [List.getLast?_cons_cons]
  rw [h]
  cases args <;> rfl

theorem defineFromToks_eq (rest : List Tok) :
    defineFromToks (hashTok :: defineTok :: rest) =
      match macroDefinition rest with
      | some (n, args, body) => makeMacro n args body
      | none => .error (.parse "Invalid define") := by
  simp only [defineFromToks, hashTok, defineTok]
  simp
  rfl

/-- object-like head: an identifier that is not directly followed by `(` -/
theorem macroDefinition_obj (nm nx : Tok) (r : List Tok) (hn : nm.kind = .ident)
    (hnx : (nx.kind == .punct && nx.text == "(" && !nx.pw) = false) :
    macroDefinition (nm :: nx :: r) = some (nm.text, none, nx :: r) := by
  simp [macroDefinition, hn, hnx]

theorem macroDefinition_single (nm : Tok) (hn : nm.kind = .ident) : macroDefinition [nm] = some (nm.text, none, []) := by
  simp [macroDefinition, hn]

/-- function-like head `NAME(` params `)`; `A` are the tokens between the parentheses -/
theorem macroDefinition_fun (nm : Tok) (A : List Tok) (args : List String) (r : List Tok) (hn : nm.kind = .ident)
    (hA : parseArgList (A ++ rparenTok :: r) = (args, rparenTok :: r)) :
    macroDefinition (nm :: lparenTok :: (A ++ rparenTok :: r)) = some (nm.text, some args, r) := by
  have hA' : parseArgList (A ++ ({ kind := TKind.punct, text := ")", pw := false } : Tok) :: r)
      = (args, ({ kind := TKind.punct, text := ")", pw := false } : Tok) :: r) := hA
  simp [macroDefinition, hn, lparenTok, rparenTok, hA']

/-- `macro_from_definition_string` on what `macroDefinition` made of the head: a bare name … -/
theorem macroFromDefinitionToks_flag {ts : List Tok} {n : String} {args : Option (List String)}
    (h : macroDefinition ts = some (n, args, [])) : macroFromDefinitionToks ts = makeMacro n args [oneTok] := by
  rw [macroFromDefinitionToks, h]

/-- … and `NAME=body` -/
theorem macroFromDefinitionToks_value {ts body : List Tok} {n : String} {args : Option (List String)}
    (h : macroDefinition ts = some (n, args, eqTok :: body)) : macroFromDefinitionToks ts = makeMacro n args body := by
  rw [macroFromDefinitionToks, h]; rfl

/-! ## samples given as string literals

`tokenize_ofList` (`Lemmas/LexChars.lean`, which says why the kernel is handed the characters of a literal) lifted to the entry
points.  A sample is proved as `(expandText_ofChars [] [_] _).trans (by decide +kernel)`: unifying with the literals supplies the
characters.  The lemmas speak of whole applications because a rewrite below a `match` on a closed term makes the kernel evaluate
that term, to compare the two sides. -/
theorem expandText_ofChars (cmd : List String) (defs : List (List Char)) (text : List Char) :
    expandText cmd (defs.map String.ofList) (String.ofList text) =
      match buildTable.go (cmd.map defineCmdline ++ defs.map fun d =>
        defineFromToks (tokenizeL (d.length + 9) ('#' :: 'd' :: 'e' :: 'f' :: 'i' :: 'n' :: 'e' :: ' ' :: d) false [])) [] with
      | .error e => .error e
      | .ok tbl =>
        match cbiExpand tbl (tokenizeL (text.length + 1) text false []) with
        | .ok r => .ok (r.map spellTok)
        | .error e => .error e
        | .fuel => .fuel := by
  have hd (d : List Char) : "#define " ++ String.ofList d = String.ofList ('#' :: 'd' :: 'e' :: 'f' :: 'i' :: 'n' :: 'e' :: ' ' :: d) :=
    (String.ofList_append (l₁ := ['#', 'd', 'e', 'f', 'i', 'n', 'e', ' '])).symm
  simp only [expandText, buildTable, defineLine, List.map_map, Function.comp_def, hd, tokenize_ofList]
  rfl

end CbiVerif.MX
