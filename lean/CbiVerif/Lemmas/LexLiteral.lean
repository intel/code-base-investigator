import CbiVerif.Model.MacroExpand
import CbiVerif.Lemmas.LexChars
/-! # `lex_decide`: samples of C03 whose definitions and text are string literals

`Lemmas/LexChars.lean` says why the kernel must be handed the characters of a literal and how; this is its second way (the calls
stand below a `match`) for a goal with one `MX.buildTable` and one `tokenize`. -/
namespace CbiVerif.PP

/-- Kernel evaluation of a closed goal that holds one `MX.buildTable cmd defs` and one `tokenize text` on string literals.  Table
    and token list are generalised and rewritten in their defining equations: a rewrite below a `match` on a closed term would
    make the kernel evaluate that term, literals and all, to compare the two sides. -/
macro "lex_decide" : tactic => `(tactic| (
  generalize hb : CbiVerif.MX.buildTable _ _ = bt
  generalize ht : tokenize _ = ts
  simp only [CbiVerif.MX.buildTable, List.map_cons, List.map_nil, List.nil_append, List.cons_append, CbiVerif.MX.defineLine,
    CbiVerif.MX.defineCmdline] at hb
  repeat rw [tokenize_append_ofList] at hb
  repeat rw [tokenize_ofList] at hb
  rw [tokenize_ofList] at ht
  subst hb ht
  decide +kernel))

end CbiVerif.PP
