import CbiVerif.Spec.Dups
import CbiVerif.Lemmas.ClassPartition
/-! Helper lemmas for C16.  First `dedupBy`, `pop`, `confirm`, `findDups` for any types of files, keys, contents and digests:
one iteration of the loop (`confirm_unfold`), completeness and independence of the fuel for any list of files, and the
identification with the loop of C14 (`confirm_eq`, `findDups_eq`: `set.pop()` by an index is one way of listing the remaining
set), which makes the report of a duplicate-free list a class partition (`findDups_partition`).  Then the file level:
`candidates`, whose class partition the report is, reports without a repeated path, and the specification read the other way
(`ExactReport.partition`: an exact report is a class partition of the regular files). -/
namespace CbiVerif.Dups

section Generic
set_option linter.unusedSectionVars false
variable {F K C H : Type} [DecidableEq K] [DecidableEq C] [DecidableEq H]

theorem pairwise_mem {R : F → F → Prop} {l : List F} (h : l.Pairwise R) {a b : F}
    (ha : a ∈ l) (hb : b ∈ l) : a = b ∨ R a b ∨ R b a :=
  List.Pairwise.forall_of_forall_of_flip (R := fun a b => a = b ∨ R a b ∨ R b a) (fun _ _ => .inl rfl)
    (h.imp fun r => .inr (.inl r)) (h.imp fun r => .inr (.inr r)) ha hb

theorem dedupBy_cons (key : F → K) (seen : List K) (f : F) (fs : List F) :
    dedupBy key seen (f :: fs) =
      if key f ∈ seen then dedupBy key seen fs else f :: dedupBy key (key f :: seen) fs := rfl

theorem mem_dedupBy {key : F → K} {seen : List K} {l : List F} {g : F}
    (h : g ∈ dedupBy key seen l) : g ∈ l ∧ key g ∉ seen := by
  induction l generalizing seen with
  | nil => exact nomatch h
  | cons f fs ih =>
    rw [dedupBy_cons] at h
    by_cases hs : key f ∈ seen
    · rw [if_pos hs] at h
      exact ⟨List.mem_cons_of_mem _ (ih h).1, (ih h).2⟩
    · rw [if_neg hs] at h
      rcases List.mem_cons.mp h with rfl | h'
      · exact ⟨List.mem_cons_self, hs⟩
      · exact ⟨List.mem_cons_of_mem _ (ih h').1, fun hc => (ih h').2 (List.mem_cons_of_mem _ hc)⟩

theorem dedupBy_pairwise {key : F → K} {seen : List K} {l : List F} :
    (dedupBy key seen l).Pairwise (fun a b => key a ≠ key b) := by
  induction l generalizing seen with
  | nil => exact .nil
  | cons f fs ih =>
    rw [dedupBy_cons]
    by_cases hs : key f ∈ seen
    · rw [if_pos hs]; exact ih
    · rw [if_neg hs]
      exact List.pairwise_cons.mpr ⟨fun b hb heq => (mem_dedupBy hb).2 (heq ▸ List.mem_cons_self), ih⟩

theorem key_mem_dedupBy {key : F → K} {seen : List K} {l : List F} {g : F}
    (hg : g ∈ l) (hk : key g ∉ seen) : ∃ g' ∈ dedupBy key seen l, key g' = key g := by
  induction l generalizing seen with
  | nil => exact nomatch hg
  | cons f fs ih =>
    rw [dedupBy_cons]
    by_cases hs : key f ∈ seen
    · rw [if_pos hs]
      exact ih ((List.mem_cons.mp hg).resolve_left fun e => hk (e ▸ hs)) hk
    · rw [if_neg hs]
      by_cases hgf : key g = key f
      · exact ⟨f, List.mem_cons_self, hgf.symm⟩
      · obtain ⟨g', hg'', he⟩ := ih ((List.mem_cons.mp hg).resolve_left fun e => hgf (e ▸ rfl))
          fun hc => (List.mem_cons.mp hc).elim hgf hk
        exact ⟨g', List.mem_cons_of_mem _ hg'', he⟩

theorem mem_dedupBy_of_functional {key : F → K} {seen : List K} {l : List F}
    (hf : ∀ a ∈ l, ∀ b ∈ l, key a = key b → a = b) {g : F} (hg : g ∈ l) (hk : key g ∉ seen) :
    g ∈ dedupBy key seen l := by
  obtain ⟨g', hg', he⟩ := key_mem_dedupBy hg hk
  exact hf g' (mem_dedupBy hg').1 g hg he ▸ hg'

theorem pop_perm {choose : List F → Nat} {l : List F} {x : F} {rest : List F}
    (h : pop choose l = some (x, rest)) : l.Perm (x :: rest) := by
  unfold pop at h
  split at h
  · cases h
  · rename_i y tl hd
    have hp := @List.perm_middle _ y (l.take (choose l % l.length)) tl
    rw [← hd, List.take_append_drop] at hp
    simp only [Option.some.injEq, Prod.mk.injEq] at h
    rw [← h.1, ← h.2]
    exact hp

theorem pop_isSome {choose : List F → Nat} {l : List F} (h : l ≠ []) :
    ∃ x rest, pop choose l = some (x, rest) := by
  unfold pop
  split
  · rename_i hd
    exact absurd (Nat.mod_lt (choose l) (List.length_pos_iff.mpr h)) (Nat.not_lt.mpr (List.drop_eq_nil_iff.mp hd))
  · exact ⟨_, _, rfl⟩

theorem confirm_succ (content : F → C) (choose : List F → Nat) (n : Nat) (l : List F) :
    confirm content choose (n+1) l =
      if l.length ≤ 1 then [] else
      match pop choose l with
      | none => []
      | some (first, rest) =>
        if (first :: rest.filter (fun p => content p == content first)).length > 1 then
          (first :: rest.filter (fun p => content p == content first)) ::
            confirm content choose n (rest.filter (fun p => !(content p == content first)))
        else confirm content choose n (rest.filter (fun p => !(content p == content first))) := rfl

theorem confirm_unfold (content : F → C) (choose : List F → Nat) (n : Nat) (l : List F) :
    (l.length ≤ 1 ∧ confirm content choose (n+1) l = []) ∨
    ∃ first rest, pop choose l = some (first, rest) ∧ l.Perm (first :: rest) ∧
      confirm content choose (n+1) l =
        (if 1 < (first :: rest.filter (fun p => content p == content first)).length
          then [first :: rest.filter (fun p => content p == content first)] else []) ++
        confirm content choose n (rest.filter (fun p => !(content p == content first))) := by
  rw [confirm_succ]
  by_cases hl : l.length ≤ 1
  · exact Or.inl ⟨hl, if_pos hl⟩
  · obtain ⟨x, rest, hp⟩ := pop_isSome (choose := choose) fun (h : l = []) => hl (by rw [h]; exact Nat.zero_le 1)
    refine Or.inr ⟨x, rest, hp, pop_perm hp, ?_⟩
    rw [if_neg hl, hp]
    dsimp only
    by_cases hm : 1 < (x :: rest.filter (fun p => content p == content x)).length
    · rw [if_pos hm, if_pos hm]; rfl
    · rw [if_neg hm, if_neg hm]; rfl

theorem confirm_size (content : F → C) (choose : List F → Nat) (n : Nat) (l : List F) :
    ∀ g ∈ confirm content choose n l, 2 ≤ g.length := by
  induction n generalizing l with
  | zero => exact fun g hg => nomatch hg
  | succ n ih =>
    intro g hg
    rcases confirm_unfold content choose n l with ⟨_, h0⟩ | ⟨first, rest, _, _, he⟩
    · exact nomatch h0 ▸ hg
    · rcases List.mem_append.mp (he ▸ hg) with hg' | hg'
      · obtain ⟨hm, hg'⟩ := List.mem_ite_nil_right.mp hg'
        exact List.mem_singleton.mp hg' ▸ hm
      · exact ih _ g hg'

/-- completeness: two different files with equal content end up together in some group -/
theorem confirm_complete (content : F → C) (choose : List F → Nat) (n : Nat) (l : List F)
    (hn : l.length ≤ n) (a b : F) (ha : a ∈ l) (hb : b ∈ l) (hab : a ≠ b)
    (hc : content a = content b) :
    ∃ g ∈ confirm content choose n l, a ∈ g ∧ b ∈ g := by
  induction n generalizing l with
  | zero => exact nomatch List.eq_nil_of_length_eq_zero (Nat.le_zero.mp hn) ▸ ha
  | succ n ih =>
    rcases confirm_unfold content choose n l with ⟨hl1, _⟩ | ⟨first, rest, _, hp, he⟩
    · exact absurd (CbiVerif.Order.two_le_length_of_two_mem ha hb hab) (Nat.not_lt.mpr hl1)
    · rw [he]
      have ha' := hp.mem_iff.mp ha
      have hb' := hp.mem_iff.mp hb
      by_cases hfa : content a = content first
      · -- both are in the group of `first`, which therefore has two files
        have hma := CbiVerif.Order.mem_matches.mpr ⟨ha', hfa⟩
        have hmb := CbiVerif.Order.mem_matches.mpr ⟨hb', hc ▸ hfa⟩
        rw [if_pos (show 1 < _ from CbiVerif.Order.two_le_length_of_two_mem hma hmb hab)]
        exact ⟨_, List.mem_append_left _ List.mem_cons_self, hma, hmb⟩
      · have hlen' : (rest.filter (fun p => !(content p == content first))).length ≤ n :=
          Nat.le_trans (List.length_filter_le _ rest) (Nat.le_of_succ_le_succ (by rw [hp.length_eq] at hn; exact hn))
        obtain ⟨g, hg, hag, hbg⟩ := ih _ hlen' (CbiVerif.Order.mem_remaining.mpr ⟨ha', hfa⟩)
          (CbiVerif.Order.mem_remaining.mpr ⟨hb', fun h => hfa (hc.trans h)⟩)
        exact ⟨g, List.mem_append_right _ hg, hag, hbg⟩

/-- the fuel is not a restriction: any fuel of at least the bucket size gives the same result
    (the loop ends by itself because `remaining` shrinks in every iteration) -/
theorem confirm_fuel (content : F → C) (choose : List F → Nat) (n m : Nat) (l : List F)
    (hn : l.length ≤ n) (hm : l.length ≤ m) :
    confirm content choose n l = confirm content choose m l := by
  induction n generalizing m l with
  | zero =>
    rw [List.eq_nil_of_length_eq_zero (Nat.le_zero.mp hn)]
    cases m <;> rfl
  | succ n ih =>
    cases m with
    | zero => rw [List.eq_nil_of_length_eq_zero (Nat.le_zero.mp hm)]; rfl
    | succ m =>
      rcases confirm_unfold content choose n l with ⟨hl1, e⟩ | ⟨first, rest, hpop, hp, he⟩
      · rw [e, confirm_succ, if_pos hl1]
      rcases confirm_unfold content choose m l with ⟨hl1, e'⟩ | ⟨first', rest', hpop', _, he'⟩
      · rw [e', confirm_succ, if_pos hl1]
      obtain ⟨rfl, rfl⟩ := Prod.mk.inj (Option.some.inj (hpop.symm.trans hpop'))
      have hlen : (rest.filter (fun p => !(content p == content first))).length ≤ rest.length :=
        List.length_filter_le _ rest
      rw [hp.length_eq, List.length_cons] at hn hm
      rw [he, he', ih m _ (Nat.le_trans hlen (Nat.le_of_succ_le_succ hn)) (Nat.le_trans hlen (Nat.le_of_succ_le_succ hm))]

theorem mem_digests {content : F → C} {hash : C → H} {files : List F} {h : H} :
    h ∈ digests content hash files ↔ ∃ f ∈ files, hash (content f) = h := by
  constructor
  · exact fun hh => List.mem_map.mp (mem_dedupBy hh).1
  · rintro ⟨f, hf, rfl⟩
    obtain ⟨g', hg', hk⟩ := key_mem_dedupBy (key := id) (seen := [])
      (List.mem_map_of_mem (f := fun f => hash (content f)) hf) List.not_mem_nil
    exact (show g' = hash (content f) from hk) ▸ hg'

theorem mem_findDups {content : F → C} {hash : C → H} {choose : List F → Nat} {files : List F} {g : List F} :
    g ∈ findDups content hash choose files ↔
      ∃ h ∈ digests content hash files, 1 < (files.filter (fun f => hash (content f) == h)).length ∧
        g ∈ confirm content choose (files.filter (fun f => hash (content f) == h)).length
          (files.filter (fun f => hash (content f) == h)) := by
  unfold findDups
  rw [List.mem_flatMap]
  exact exists_congr fun h => and_congr_right fun _ => List.mem_ite_nil_right

theorem findDups_complete (content : F → C) (hash : C → H) (choose : List F → Nat) (files : List F)
    (a b : F) (ha : a ∈ files) (hb : b ∈ files) (hab : a ≠ b) (hc : content a = content b) :
    ∃ g ∈ findDups content hash choose files, a ∈ g ∧ b ∈ g := by
  have hA : a ∈ files.filter (fun f => hash (content f) == hash (content a)) :=
    List.mem_filter.mpr ⟨ha, beq_self_eq_true _⟩
  have hB : b ∈ files.filter (fun f => hash (content f) == hash (content a)) :=
    List.mem_filter.mpr ⟨hb, beq_iff_eq.mpr (hc ▸ rfl)⟩
  obtain ⟨g, hg, hag, hbg⟩ := confirm_complete content choose _ _ (Nat.le_refl _) a b hA hB hab hc
  exact ⟨g, mem_findDups.mpr ⟨_, mem_digests.mpr ⟨a, ha, rfl⟩,
    CbiVerif.Order.two_le_length_of_two_mem hA hB hab, hg⟩, hag, hbg⟩

/-! ### the loop of C14 -/

open CbiVerif.Order (IsClassPartition firstOcc)

/-- `remaining` listed with the element `set.pop()` takes in front -/
def pickOf (choose : List F → Nat) (l : List F) : List F :=
  match pop choose l with
  | some (x, rest) => x :: rest
  | none => []

theorem pickOf_perm (choose : List F → Nat) (l : List F) : (pickOf choose l).Perm l := by
  unfold pickOf
  cases h : pop choose l with
  | some xr => exact (pop_perm h).symm
  | none =>
    cases l with
    | nil => exact .nil
    | cons a l => obtain ⟨x, r, e⟩ := pop_isSome (choose := choose) (List.cons_ne_nil a l); rw [e] at h; cases h

theorem confirm_eq (content : F → C) (choose : List F → Nat) (n : Nat) (l : List F) :
    confirm content choose n l = CbiVerif.Order.confirm (pickOf choose) content n l := by
  induction n generalizing l with
  | zero => rfl
  | succ n ih =>
    have hp := pickOf_perm choose l
    rw [confirm_succ]
    unfold CbiVerif.Order.confirm
    cases h : pop choose l with
    | none =>
      rw [show pickOf choose l = [] by unfold pickOf; rw [h]]
      exact ite_self _
    | some xr =>
      obtain ⟨x, rest⟩ := xr
      rw [show pickOf choose l = x :: rest by unfold pickOf; rw [h]] at hp ⊢
      -- `l` has as many files as `x :: rest`: the loop goes on iff `rest` is not empty
      cases rest with
      | nil => exact if_pos (hp.length_eq ▸ Nat.le_refl 1)
      | cons y r =>
        rw [if_neg fun hl => Nat.not_succ_le_self 1
          (Nat.le_trans (Nat.le_add_left 2 r.length) (Nat.le_trans (Nat.le_of_eq hp.length_eq) hl))]
        simp only [ih]

/-- the distinct digests in first-occurrence order, as C14 lists them -/
theorem dedupBy_id (seen l : List H) : dedupBy id seen l = (firstOcc l).filter (fun x => decide (x ∉ seen)) := by
  induction l generalizing seen with
  | nil => rfl
  | cons a l ih =>
    rw [dedupBy_cons, CbiVerif.Order.firstOcc_cons, List.filter_cons, ih, ih, List.filter_filter, id]
    by_cases ha : a ∈ seen
    · rw [if_pos ha, if_neg (by simpa using ha)]
      exact List.filter_congr fun x _ => by by_cases hx : x = a <;> simp [hx, ha]
    · rw [if_neg ha, if_pos (by simpa using ha)]
      exact congrArg _ (List.filter_congr fun x _ => by by_cases hx : x = a <;> simp [hx])

theorem findDups_eq (content : F → C) (hash : C → H) (choose : List F → Nat) (files : List F) :
    findDups content hash choose files = CbiVerif.Order.findDuplicates (pickOf choose) content hash files := by
  unfold findDups CbiVerif.Order.findDuplicates digests
  rw [dedupBy_id, List.filter_eq_self.mpr (by simp)]
  simp only [confirm_eq]

theorem findDups_partition (content : F → C) (hash : C → H) (choose : List F → Nat) {files : List F} (hnd : files.Nodup) :
    IsClassPartition content files (findDups content hash choose files) :=
  findDups_eq content hash choose files ▸
    CbiVerif.Order.findDuplicates_spec (pickOf choose) (pickOf_perm choose) content hash files hnd

end Generic

/-! ### file level -/
section Files
variable {C : Type}

theorem eligible_iff_regular {a : File C} : a.eligible = true ↔ Regular a := by
  unfold File.eligible Regular
  cases a.isMember <;> cases a.isSymlink <;> simp

theorem mem_candidates {files : List (File C)} {a : File C} (h : a ∈ candidates files) :
    a ∈ files ∧ Regular a := by
  have h1 := (mem_dedupBy h).1
  have h2 := List.mem_filter.mp h1
  exact ⟨h2.1, eligible_iff_regular.mp h2.2⟩

theorem candidates_pairwise (files : List (File C)) :
    (candidates files).Pairwise (fun a b => a.path ≠ b.path) :=
  dedupBy_pairwise

theorem mem_candidates_of_functional {files : List (File C)} (hf : Functional files) {a : File C}
    (ha : a ∈ files) (hr : Regular a) : a ∈ candidates files := by
  apply mem_dedupBy_of_functional
  · intro x hx y hy hxy
    exact hf x (List.mem_filter.mp hx).1 y (List.mem_filter.mp hy).1 hxy
  · exact List.mem_filter.mpr ⟨ha, eligible_iff_regular.mpr hr⟩
  · simp

theorem flatten_pairwise_of_no_repeat {R : List (List (File C))}
    (h : (R.flatten.map File.path).Nodup) : R.flatten.Pairwise (fun a b => a.path ≠ b.path) :=
  List.pairwise_map.mp h

theorem no_repeat_of_flatten_pairwise {R : List (List (File C))}
    (h : R.flatten.Pairwise (fun a b => a.path ≠ b.path)) : (R.flatten.map File.path).Nodup :=
  List.pairwise_map.mpr h

theorem group_paths_of_no_repeat {R : List (List (File C))} (h : (R.flatten.map File.path).Nodup)
    {g : List (File C)} (hg : g ∈ R) : g.Pairwise (fun a b => a.path ≠ b.path) :=
  (List.pairwise_flatten.mp (flatten_pairwise_of_no_repeat h)).1 g hg

theorem groups_disjoint_of_no_repeat {R : List (List (File C))} (h : (R.flatten.map File.path).Nodup) :
    R.Pairwise (fun g₁ g₂ => ∀ a ∈ g₁, ∀ b ∈ g₂, a.path ≠ b.path) :=
  (List.pairwise_flatten.mp (flatten_pairwise_of_no_repeat h)).2

theorem same_group_of_no_repeat {R : List (List (File C))} (h : (R.flatten.map File.path).Nodup)
    {g₁ g₂ : List (File C)} (h₁ : g₁ ∈ R) (h₂ : g₂ ∈ R) {a : File C} (ha₁ : a ∈ g₁) (ha₂ : a ∈ g₂) :
    g₁ = g₂ := by
  rcases pairwise_mem (groups_disjoint_of_no_repeat h) h₁ h₂ with h3 | h3 | h3
  · exact h3
  · exact absurd rfl (h3 a ha₁ a ha₂)
  · exact absurd rfl (h3 a ha₂ a ha₁)

theorem nodup_of_paths {g : List (File C)} (h : g.Pairwise (fun a b => a.path ≠ b.path)) : g.Nodup :=
  List.Pairwise.imp (R := fun a b => a.path ≠ b.path) (S := fun a b => a ≠ b)
    (fun {a b} (hne : a.path ≠ b.path) (he : a = b) => hne (congrArg File.path he)) h

/-! ### the report is the class partition of the candidates -/

open CbiVerif.Order (IsClassPartition)

theorem candidates_partition {H : Type} [DecidableEq C] [DecidableEq H] (hash : C → H) (choose : List (File C) → Nat) (files : List (File C)) :
    IsClassPartition File.content (candidates files) (findDuplicates hash choose files) :=
  findDups_partition File.content hash choose (nodup_of_paths (candidates_pairwise files))

section partition
variable {files : List (File C)} {R : List (List (File C))} (p : IsClassPartition File.content (candidates files) R)
include p

theorem no_repeat_of_partition : (R.flatten.map File.path).Nodup := by
  have hcand := candidates_pairwise files
  refine no_repeat_of_flatten_pairwise (List.pairwise_flatten.mpr
    ⟨fun g hg => ?_, p.disjoint.imp_of_mem fun {g g'} hg hg' hd a ha b hb hab => ?_⟩)
  · exact (p.nodup g hg).imp_of_mem fun {a b} ha hb hne hab =>
      (pairwise_mem hcand (p.sub hg ha) (p.sub hg hb)).elim hne fun h => h.elim (· hab) (· hab.symm)
  · rcases pairwise_mem hcand (p.sub hg ha) (p.sub hg' hb) with e | h | h
    · exact hd a ha (e ▸ hb)
    · exact h hab
    · exact h hab.symm

end partition

/-- the specification of C16 read the other way: when a path denotes one file it says what that of C14 says, and the
    uniqueness of the report is that of the partition -/
theorem ExactReport.partition {files : List (File C)} {R : List (List (File C))} (hf : Functional files)
    (hR : ExactReport files R) : IsClassPartition File.content (files.filter (·.eligible)) R := by
  have hreg : ∀ {x}, x ∈ files.filter (·.eligible) ↔ x ∈ files ∧ Regular x :=
    List.mem_filter.trans (and_congr_right fun _ => eligible_iff_regular)
  refine ⟨fun g hg => ?_, fun g hg => nodup_of_paths (group_paths_of_no_repeat hR.no_repeat hg), hR.two_or_more,
    fun a ha b hb hab hc => ?_, (groups_disjoint_of_no_repeat hR.no_repeat).imp fun h x hx hx' => h x hx x hx' rfl⟩
  · obtain ⟨a, ha⟩ := List.exists_mem_of_length_pos (Nat.lt_of_succ_lt (hR.two_or_more g hg))
    have har := hR.listed_regular g hg a ha
    refine ⟨a, ha, fun x => ⟨fun hx => ⟨hreg.mpr (hR.listed_regular g hg x hx), hR.within_identical g hg x hx a ha⟩,
      fun ⟨hx, hxc⟩ => ?_⟩⟩
    -- a regular file with the content of `a` is `a` or a twin of `a`, listed in the one group that holds `a`
    obtain ⟨hx, hxr⟩ := hreg.mp hx
    by_cases hp : x.path = a.path
    · exact hf x hx a har.1 hp ▸ ha
    · obtain ⟨g', hg', hag', hxg'⟩ := hR.twins_listed a har.1 har.2 x ⟨hx, hxr, hp, hxc⟩
      exact same_group_of_no_repeat hR.no_repeat hg hg' ha hag' ▸ hxg'
  · obtain ⟨ha, har⟩ := hreg.mp ha
    obtain ⟨hb, hbr⟩ := hreg.mp hb
    obtain ⟨g, hg, hag, _⟩ := hR.twins_listed a ha har b ⟨hb, hbr, fun hp => hab (hf b hb a ha hp).symm, hc.symm⟩
    exact ⟨g, hg, hag⟩

end Files

end CbiVerif.Dups
