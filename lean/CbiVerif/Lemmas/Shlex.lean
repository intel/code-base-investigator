import CbiVerif.Model.Shlex
import CbiVerif.Spec.ShellQuote
/-! C11 helper lemmas: `shlex.split` undoes `shlex.join`, by induction on characters. -/
namespace CbiVerif.ShlexLemmas
open CbiVerif.Shlex CbiVerif.ShellQuote

theorem safe_plain (c : Char) (h : isSafe c = true) : isWs c = false ∧ c ≠ '\'' ∧ c ≠ '"' ∧ c ≠ '\\' := by
  -- a safe character differs from every character that is not safe
  have ne : ∀ x, isSafe x = false → c ≠ x := fun x hx e => by rw [e, hx] at h; cases h
  refine ⟨?_, ne _ (by decide), ne _ (by decide), ne _ (by decide)⟩
  simp [isWs, ne ' ' (by decide), ne '\t' (by decide), ne '\r' (by decide), ne '\n' (by decide)]

theorem go_word_safe (c : Char) (h : isSafe c = true) (tok : List Char) (acc : List (List Char)) (cs : List Char) :
    go .word tok acc (c :: cs) = go .word (tok ++ [c]) acc cs := by
  obtain ⟨hw, n5, n6, n7⟩ := safe_plain c h
  rw [go, hw, if_neg Bool.false_ne_true, if_neg n5, if_neg n6, if_neg n7]

theorem go_ws_safe (c : Char) (h : isSafe c = true) (acc : List (List Char)) (cs : List Char) :
    go .ws [] acc (c :: cs) = go .word [c] acc cs := by
  obtain ⟨hw, n5, n6, n7⟩ := safe_plain c h
  rw [go, hw, if_neg Bool.false_ne_true, if_neg n7, if_neg n5, if_neg n6]

theorem go_ws_quote (acc : List (List Char)) (cs : List Char) : go .ws [] acc ('\'' :: cs) = go .sq [] acc cs := rfl

theorem go_word_blank (tok : List Char) (acc : List (List Char)) (cs : List Char) :
    go .word tok acc (' ' :: cs) = go .ws [] (acc ++ [tok]) cs := rfl

/-- inside single quotes, the five characters `'"'"'` that stand for one single quote -/
theorem go_sq_quote (tok : List Char) (acc : List (List Char)) (xs : List Char) :
    go .sq tok acc ('\'' :: '"' :: '\'' :: '"' :: '\'' :: xs) = go .sq (tok ++ ['\'']) acc xs := rfl

theorem go_safe_word : ∀ (w tok : List Char) (acc : List (List Char)) (rest : List Char),
    w.all isSafe = true → go .word tok acc (w ++ rest) = go .word (tok ++ w) acc rest
  | [], tok, acc, rest, _ => by rw [List.nil_append, List.append_nil]
  | c :: cs, tok, acc, rest, h => by
    rw [List.all_cons, Bool.and_eq_true] at h
    rw [List.cons_append, go_word_safe c h.1, go_safe_word cs (tok ++ [c]) acc rest h.2, List.append_assoc]; rfl

theorem go_quoteBody : ∀ (s tok : List Char) (acc : List (List Char)) (rest : List Char),
    go .sq tok acc (quoteBody s ++ '\'' :: rest) = go .word (tok ++ s) acc rest
  | [], tok, acc, rest => by rw [List.append_nil]; rfl
  | c :: cs, tok, acc, rest => by
    by_cases hc : c = '\''
    · subst hc
      rw [quoteBody, if_pos rfl]
      simp only [List.cons_append]
      rw [go_sq_quote, go_quoteBody cs, List.append_assoc]; rfl
    · rw [quoteBody, if_neg hc, List.cons_append, go, if_neg hc, go_quoteBody cs, List.append_assoc]; rfl

theorem go_quote (a : List Char) (acc : List (List Char)) (rest : List Char) :
    go .ws [] acc (shellQuote a ++ rest) = go .word a acc rest := by
  unfold shellQuote
  cases a with
  | nil => exact go_quoteBody [] [] acc rest
  | cons c cs =>
    rw [List.isEmpty_cons, if_neg Bool.false_ne_true]
    by_cases hs : (c :: cs).all isSafe = true
    · rw [if_pos hs]
      rw [List.all_cons, Bool.and_eq_true] at hs
      rw [List.cons_append, go_ws_safe c hs.1, go_safe_word cs [c] acc rest hs.2]; rfl
    · rw [if_neg hs, List.cons_append, go_ws_quote, List.append_assoc]
      exact go_quoteBody (c :: cs) [] acc rest

theorem go_join : ∀ (argv acc : List (List Char)), go .ws [] acc (shellJoin argv) = .ok (acc ++ argv)
  | [], acc => by rw [List.append_nil]; rfl
  | [a], acc => by
    have := go_quote a acc []
    rw [List.append_nil] at this
    rw [shellJoin, this]; rfl
  | a :: b :: rest, acc => by
    rw [shellJoin, go_quote a acc _, go_word_blank, go_join (b :: rest) (acc ++ [a]), List.append_assoc]
    · rfl
    · exact List.cons_ne_nil _ _

theorem split_ok : splitOK = true := by decide

end CbiVerif.ShlexLemmas
