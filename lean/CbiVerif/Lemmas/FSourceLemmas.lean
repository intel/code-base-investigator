import CbiVerif.Model.FSource
import CbiVerif.Lemmas.FCleanLift
import CbiVerif.Lemmas.FLoopRun
/-!
Book-keeping of the Fortran line source, reference apart: which physical lines `fLoop` (`fortran_file_source`), `dLoop`
(`c_file_source(directives_only=True)`) and `group` (`FileParser.parse_file`) put into `lines`.  `fLoop` is read as the
iteration of `fStep` (`Model/FLoopCells.lean`), so that what it yields is an invariant of one iteration (`fStep_counted`).  In
front: the equations of the model's loops, and the facts about `one_space_line` buffers (`WF`, `Ext`, blank / non-blank under
`join`) and `category` that the whole Fortran source pipeline uses.
-/
namespace CbiVerif.Fortran

/-! ## equations of the model's recursive definitions

Stated once: unfolding a recursive definition by its name (`rw [f]`, `simp [f]`) derives its equations anew in every proof
that does so. -/

theorem select_cons (b : Bool) (bs : List Bool) (cl : CL) (cls : List CL) :
    select (b :: bs) (cl :: cls) = (if b then cl.lines else []) ++ select bs cls := rfl

theorem flagsFrom_cons (s : FSt) (t : List Char) (ts : List (List Char)) :
    flagsFrom s (t :: ts) =
      (if isDirText t then true else !(procLine s t).2.blank) ::
        flagsFrom (if isDirText t then s else (procLine s t).1) ts := by
  change (if isDirText t then _ else _) = _
  split <;> simp [*]

theorem finalState_cons (s : FSt) (t : List Char) (ts : List (List Char)) :
    finalState s (t :: ts) = finalState (if isDirText t then s else (procLine s t).1) ts := by
  change (if isDirText t then _ else _) = _
  split <;> simp [*]

theorem dLoop_nil (st : List DMode) (cur : OSL) (lines : List Nat) (n : Nat) :
    dLoop st cur lines n [] = if st == [.top] then .ok (emitCL cur lines) else .error .notTop := rfl
theorem dLoop_cons (st : List DMode) (cur : OSL) (lines : List Nat) (n : Nat) (content : List Char) (hasNl : Bool)
    (rest : List (List Char × Bool)) :
    dLoop st cur lines n ((content, hasNl) :: rest) =
      let continued := content.getLast? == some '\\'
      if !hasNl && continued then .error .eofBackslash
      else
        let body := if continued then content.dropLast else content
        match dProcess st {} body with
        | .error e => .error e
        | .ok (st1, ob1) =>
          match (if !continued && st1.head? != some .blockC then dNewline st1 ob1 else .ok (st1, ob1)) with
          | .error e => .error e
          | .ok (st2, ob2) =>
            let flush := !continued && st2.head? != some .blockC
            let lines2 := if ob2.blank then lines else lines ++ [n + 1]
            let cur2 := cur.join ob2
            if flush then (dLoop st2 {} [] (n + 1) rest).map (emitCL cur2 lines2 ++ ·)
            else dLoop st2 cur2 lines2 (n + 1) rest := rfl

theorem groupAux_nil (acc : List LL) : groupAux acc [] = if acc.isEmpty then [] else [mkCode acc] := rfl
theorem groupAux_cons (acc : List LL) (l : LL) (rest : List LL) :
    groupAux acc (l :: rest) =
      if l.isDirective then
        (if acc.isEmpty then [] else [mkCode acc]) ++ ⟨true, l.lines, l.lines.length, [l.text]⟩ :: groupAux [] rest
      else groupAux (acc ++ [l]) rest := rfl

theorem dropWs_cons (c : Char) (cs : List Char) : dropWs (c :: cs) = if cls c == .ws then dropWs cs else c :: cs := rfl

/-! ## `one_space_line`: blank buffers, `join` -/

/-- `trailing_space` implies a non-empty buffer -/
def OSL.WF (b : OSL) : Prop := b.trailing = true → b.parts ≠ []

theorem wf_empty : ({} : OSL).WF := by intro h; cases h

theorem wf_add (b : OSL) (e : Emit) (h : b.WF) : (b.add e).WF := by
  cases e with
  | sp => simp only [OSL.add]; split <;> simp_all [OSL.WF]
  | ns c => simp [OSL.add, OSL.WF]

theorem wf_addAll (b : OSL) (es : List Emit) (h : b.WF) : (b.addAll es).WF := by
  induction es generalizing b with
  | nil => simpa [OSL.addAll] using h
  | cons e es ih => simp only [OSL.addAll, List.foldl_cons]; exact ih _ (wf_add b e h)

theorem wf_procChars (l : List Char) : ∀ (s : FSt) (b : OSL), b.WF → (procChars s b l).2.WF := by
  induction l with
  | nil => intro s b h; simpa [procChars] using h
  | cons c cs ih => intro s b h; simp only [procChars]; exact ih _ _ (wf_addAll b _ h)

theorem wf_procLine (s : FSt) (l : List Char) : (procLine s l).2.WF := wf_procChars l s {} wf_empty

/-- nothing is ever taken out of a buffer -/
def Ext (a b : OSL) : Prop := ∃ q, b.parts = a.parts ++ q

theorem ext_refl (a : OSL) : Ext a a := ⟨[], by simp⟩

theorem ext_trans {a b c : OSL} (h1 : Ext a b) (h2 : Ext b c) : Ext a c := by
  obtain ⟨q1, e1⟩ := h1; obtain ⟨q2, e2⟩ := h2
  exact ⟨q1 ++ q2, by rw [e2, e1, List.append_assoc]⟩

theorem ext_add (a : OSL) (e : Emit) : Ext a (a.add e) := by
  cases e with
  | sp => simp only [OSL.add]; split; exact ext_refl a; exact ⟨[' '], rfl⟩
  | ns c => exact ⟨[c], rfl⟩

theorem ext_join (a b : OSL) : Ext a (a.join b) := by
  unfold OSL.join
  split
  · exact ext_refl a
  · split <;> exact ⟨_, rfl⟩

theorem nonblank_of_ext {a b : OSL} (h : Ext a b) (ha : a.blank = false) : b.blank = false := by
  obtain ⟨q, hq⟩ := h
  rw [Bool.eq_false_iff, ne_eq, blank_iff] at ha ⊢
  rw [hq, List.append_eq_nil_iff, List.append_eq_singleton_iff]
  rintro (⟨h, _⟩ | ⟨h, _⟩ | ⟨h, _⟩) <;> simp [h] at ha

theorem wf_join (a b : OSL) (ha : a.WF) : (a.join b).WF := by
  unfold OSL.join
  rcases hp : b.parts with _ | ⟨p, ps⟩
  · simpa using ha
  · simp only
    split
    · rename_i hc
      intro _
      simp only [Bool.and_eq_true] at hc
      have := ha hc.2
      simp [this]
    · intro _; simp

/-- joining a non-blank physical line makes the logical line non-blank -/
theorem join_nonblank_right (a b : OSL) (ha : a.WF) (hb : b.blank = false) : (a.join b).blank = false := by
  rw [Bool.eq_false_iff, ne_eq, blank_iff] at hb ⊢
  unfold OSL.join
  rcases hp : b.parts with _ | ⟨p, ps⟩
  · simp [hp] at hb
  · simp only
    split
    · -- the leading blank of `b` is dropped after a trailing blank of `a`, and then `a` is not empty
      rename_i hc
      simp only [Bool.and_eq_true, beq_iff_eq] at hc
      have hne := ha hc.2
      rw [hp, hc.1] at hb
      simp only [List.append_eq_nil_iff, List.append_eq_singleton_iff]
      rintro (⟨h, _⟩ | ⟨h, _⟩ | ⟨_, h⟩)
      · exact hne h
      · exact hne h
      · simp [h] at hb
    · simp only [List.append_eq_nil_iff, List.append_eq_singleton_iff, hp.symm]
      rintro (⟨_, h⟩ | ⟨_, h⟩ | ⟨_, h⟩) <;> simp [h] at hb

/-! ## `category`: which cleaned texts are directives -/

theorem isDirText_cons (a : Char) (t : List Char) :
    isDirText (a :: t) = true ↔ a = '#' ∨ (a = ' ' ∧ t.head? = some '#') := by
  unfold isDirText category
  cases t with
  | nil => by_cases h1 : a = ' ' <;> by_cases h2 : a = '#' <;> simp_all
  | cons b r => by_cases h1 : a = ' ' <;> by_cases h2 : a = '#' <;> by_cases h3 : b = '#' <;> simp_all

theorem nonblank_of_isDirText (b : OSL) (h : isDirText b.parts = true) : b.blank = false := by
  unfold isDirText at h
  simp only [beq_iff_eq] at h
  simp [OSL.blank, h]

theorem not_dir_of_bang (t : List Char) (c : Char) (cs : List Char) (h : dropWs t = c :: cs) (hc : cls c = .bang) :
    isDirText t = false := by
  have h1 : cls '#' = .other := by decide
  have h2 : cls ' ' = .ws := by decide
  have hne : c ≠ '#' := fun e => by rw [e, h1] at hc; cases hc
  cases t with
  | nil => rfl
  | cons a t' =>
    rw [Bool.eq_false_iff, ne_eq, isDirText_cons]
    rintro (rfl | ⟨rfl, ht⟩)
    · simp [dropWs_cons, h1] at h; exact hne h.1.symm
    · cases t' with
      | nil => cases ht
      | cons b r =>
        simp only [List.head?_cons, Option.some.injEq] at ht; subst ht
        simp [dropWs_cons, h1, h2] at h; exact hne h.1.symm

theorem isCommentLine_iff (l : List Char) :
    isCommentLine l = true ↔ ∃ c cs, dropWs l = c :: cs ∧ cls c = .bang ∧ sentinelTail cs = false := by
  unfold isCommentLine
  cases dropWs l <;> simp [and_assoc]

theorem isSentinelLine_iff (l : List Char) :
    isSentinelLine l = true ↔ ∃ c cs, dropWs l = c :: cs ∧ cls c = .bang ∧ sentinelTail cs = true := by
  unfold isSentinelLine
  cases dropWs l <;> simp [and_assoc]

theorem not_dir_of_comment (t : List Char) (h : isCommentLine t = true) : isDirText t = false :=
  have ⟨c, cs, hd, hc, _⟩ := (isCommentLine_iff t).mp h
  not_dir_of_bang t c cs hd hc

theorem not_dir_of_sentinel (t : List Char) (h : isSentinelLine t = true) : isDirText t = false :=
  have ⟨c, cs, hd, hc, _⟩ := (isSentinelLine_iff t).mp h
  not_dir_of_bang t c cs hd hc

/-! ## `fortran_file_source` as the iteration of `fStep`

`fLoop` is `fRun` followed by the flush of the open logical line (`fLoop_eq_run`, `fLoop_eq_ok`, `Lemmas/FLoopRun.lean`); what
the loop yields and when it raises is read off one iteration. -/

/-- the configuration after one more statement line has been joined to the open logical line -/
def LCfg.push (k : LCfg) (t : List Char) (ls : List Nat) : LCfg :=
  ⟨(procLine k.s t).1, k.cur.join (procLine k.s t).2, if (procLine k.s t).2.blank then k.lines else k.lines ++ ls⟩

theorem LCfg.push_lines (k : LCfg) (t : List Char) (ls : List Nat) :
    (k.push t ls).lines = k.lines ++ if !(procLine k.s t).2.blank then ls else [] := by
  rw [LCfg.push]; cases (procLine k.s t).2.blank <;> simp

theorem fStep_dir (k : LCfg) (cl : CL) (hd : isDirText cl.text = true) :
    fStep k cl = (⟨k.s, {}, []⟩, fEndOut k ++ [⟨cl.lines, cl.text, true⟩]) := by
  rw [fStep, if_pos hd]; rfl

theorem fStep_cont (k : LCfg) (cl : CL) (hd : isDirText cl.text = false)
    (hc : (procLine k.s cl.text).1.stack.head? = some .cfs) :
    fStep k cl = (k.push cl.text cl.lines, []) := by
  rw [fStep, if_neg (Bool.eq_false_iff.mp hd)]
  simp only [hc, beq_self_eq_true, if_true]; rfl

theorem fStep_end (k : LCfg) (cl : CL) (hd : isDirText cl.text = false)
    (hc : (procLine k.s cl.text).1.stack.head? ≠ some .cfs) :
    fStep k cl = (⟨(procLine k.s cl.text).1, {}, []⟩, fEndOut (k.push cl.text cl.lines)) := by
  have hc' : ((procLine k.s cl.text).1.stack.head? == some Mode.cfs) = false := by simpa using hc
  rw [fStep, if_neg (Bool.eq_false_iff.mp hd)]
  simp only [hc', Bool.false_eq_true, if_false]; rfl

theorem countedOf_append (a b : List LL) : countedOf (a ++ b) = countedOf a ++ countedOf b := by
  simp [countedOf]

theorem emitLL_eq (cur : OSL) (lines : List Nat) :
    emitLL cur lines = if cur.blank then [] else [⟨lines, cur.parts, false⟩] := rfl

/-- the open logical line is non-blank as soon as a physical line is counted for it -/
structure LCfg.OK (k : LCfg) : Prop where
  wf : k.cur.WF
  nb : k.lines ≠ [] → k.cur.blank = false

theorem ok_fresh (s : FSt) : (⟨s, {}, []⟩ : LCfg).OK := ⟨wf_empty, fun h => absurd rfl h⟩

theorem LCfg.OK.push {k : LCfg} (h : k.OK) (t : List Char) (ls : List Nat) : (k.push t ls).OK := by
  refine ⟨wf_join _ _ h.wf, fun hne => ?_⟩
  cases hb : (procLine k.s t).2.blank with
  | true =>
    simp only [LCfg.push, hb, if_true] at hne
    exact nonblank_of_ext (ext_join _ _) (h.nb hne)
  | false => exact join_nonblank_right _ _ h.wf hb

/-- … so its flush yields exactly the physical lines counted for it -/
theorem LCfg.OK.counted {k : LCfg} (h : k.OK) : countedOf (fEndOut k) = k.lines := by
  rw [fEndOut, emitLL_eq]
  split
  · rename_i hb
    by_cases hl : k.lines = []
    · simp [hl, countedOf]
    · rw [h.nb hl] at hb; cases hb
  · simp [countedOf]

/-- one iteration: the cleaner moves on as `finalState` says, and the physical lines yielded or still open are those that
    were open and, if the line is flagged (`flagsFrom`), its own -/
theorem fStep_counted (k : LCfg) (cl : CL) (h : k.OK) :
    (fStep k cl).1.OK ∧ (fStep k cl).1.s = (if isDirText cl.text then k.s else (procLine k.s cl.text).1) ∧
    countedOf (fStep k cl).2 ++ (fStep k cl).1.lines =
      k.lines ++ if (if isDirText cl.text then true else !(procLine k.s cl.text).2.blank) then cl.lines else [] := by
  by_cases hd : isDirText cl.text = true
  · rw [fStep_dir k cl hd, if_pos hd, if_pos hd]
    exact ⟨ok_fresh _, rfl, by rw [countedOf_append, h.counted]; simp [countedOf]⟩
  · have hd : isDirText cl.text = false := by simpa using hd
    rw [hd, if_neg Bool.false_ne_true, if_neg Bool.false_ne_true]
    by_cases hc : (procLine k.s cl.text).1.stack.head? = some .cfs
    · rw [fStep_cont k cl hd hc]
      exact ⟨h.push _ _, rfl, k.push_lines _ _⟩
    · rw [fStep_end k cl hd hc]
      exact ⟨ok_fresh _, rfl, by rw [(h.push _ _).counted, List.append_nil, k.push_lines]⟩

theorem fRun_counted (cls : List CL) : ∀ k : LCfg, k.OK →
    (fRun k cls).1.OK ∧ (fRun k cls).1.s = finalState k.s (cls.map (·.text)) ∧
    countedOf (fRun k cls).2 ++ (fRun k cls).1.lines = k.lines ++ select (flagsFrom k.s (cls.map (·.text))) cls := by
  induction cls with
  | nil => intro k h; exact ⟨h, rfl, by simp [fRun, countedOf, select]⟩
  | cons cl rest ih =>
    intro k h
    obtain ⟨s0, s1, s2⟩ := fStep_counted k cl h
    obtain ⟨i0, i1, i2⟩ := ih _ s0
    rw [fRun_cons, List.map_cons, flagsFrom_cons, finalState_cons, select_cons, ← s1]
    exact ⟨i0, i1, by rw [countedOf_append, List.append_assoc, i2, ← List.append_assoc, s2, List.append_assoc]⟩

/-- when `fortran_file_source` does not raise, the counted lines are exactly the lines of the directive lines and of the
    lines with a non-blank cleaner buffer; and it raises iff the cleaner does not end at top level -/
theorem fLoop_counted (cls : List CL) (k : LCfg) (h : k.OK) :
    (∀ lls, fLoop k.s k.cur k.lines cls = .ok lls →
      countedOf lls = k.lines ++ select (flagsFrom k.s (cls.map (·.text))) cls) ∧
    ((∃ lls, fLoop k.s k.cur k.lines cls = .ok lls) ↔ (finalState k.s (cls.map (·.text))).stack = [.top]) := by
  obtain ⟨i0, i1, i2⟩ := fRun_counted cls k h
  simp only [fLoop_eq_ok, i1]
  exact ⟨fun lls hl => by rw [hl.2, countedOf_append, i0.counted, i2], fun ⟨_, hl⟩ => hl.1, fun hs => ⟨_, hs, rfl⟩⟩

/-! ## `select` and `flagsFrom` by position -/

theorem select_sublist : ∀ (bs : List Bool) (cls : List CL), (select bs cls).Sublist (cls.flatMap (·.lines))
  | [], _ => List.nil_sublist _
  | _ :: _, [] => List.nil_sublist _
  | b :: bs, cl :: cls => by
    simp only [select_cons, List.flatMap_cons]
    apply List.Sublist.append _ (select_sublist bs cls)
    cases b <;> simp

theorem flagsFrom_length (ts : List (List Char)) : ∀ s, (flagsFrom s ts).length = ts.length := by
  induction ts with
  | nil => intro s; rfl
  | cons t ts ih => intro s; rw [flagsFrom_cons]; split <;> simp [ih]

theorem flagsFrom_get (ts : List (List Char)) : ∀ (s : FSt) (i : Nat) (h : i < ts.length),
    (flagsFrom s ts)[i]? =
      some (if isDirText ts[i] then true else !(procLine (stateAt s ts i) ts[i]).2.blank) := by
  induction ts with
  | nil => intro s i h; simp at h
  | cons t ts ih =>
    intro s i h
    by_cases hd : isDirText t = true
    · cases i with
      | zero => simp [flagsFrom_cons, hd]
      | succ i => simpa [flagsFrom_cons, stateAt, hd] using ih s i (by simpa using h)
    · cases i with
      | zero => simp [flagsFrom_cons, stateAt, hd]
      | succ i => simpa [flagsFrom_cons, stateAt, hd] using ih _ i (by simpa using h)

theorem mem_select {x : Nat} : ∀ (bs : List Bool) (cls : List CL),
    x ∈ select bs cls ↔ ∃ i : Nat, bs[i]? = some true ∧ ∃ cl : CL, cls[i]? = some cl ∧ x ∈ cl.lines
  | [], _ => ⟨nofun, fun ⟨_, h, _⟩ => nomatch h⟩
  | _ :: _, [] => ⟨nofun, fun ⟨_, _, _, h, _⟩ => nomatch h⟩
  | b :: bs, cl :: cls => by
    rw [select_cons, List.mem_append, mem_select bs cls]
    constructor
    · rintro (h | ⟨i, h⟩)
      · cases b
        · cases h
        · exact ⟨0, rfl, cl, rfl, h⟩
      · exact ⟨i + 1, h⟩
    · rintro ⟨i, h⟩
      cases i with
      | zero => obtain ⟨hb, c, hc, hx⟩ := h; cases hb; cases hc; exact .inl hx
      | succ i => exact .inr ⟨i, h⟩

theorem select_mem (bs : List Bool) (cls : List CL) (i : Nat) (h : i < cls.length) (x : Nat)
    (hb : bs[i]? = some true) (hx : x ∈ cls[i].lines) : x ∈ select bs cls :=
  (mem_select bs cls).mpr ⟨i, hb, _, List.getElem?_eq_getElem h, hx⟩

theorem select_not_mem (bs : List Bool) (cls : List CL) (i : Nat) (h : i < cls.length) (x : Nat)
    (hn : (cls.flatMap (·.lines)).Nodup) (hb : bs[i]? = some false) (hx : x ∈ cls[i].lines) : x ∉ select bs cls := by
  intro hs
  obtain ⟨j, hj, cl, hc, hx'⟩ := (mem_select bs cls).mp hs
  obtain ⟨hjl, rfl⟩ := List.getElem?_eq_some_iff.mp hc
  -- no physical line belongs to two entries
  have hp := List.pairwise_iff_getElem.mp (List.pairwise_flatMap.mp hn).2
  rcases Nat.lt_trichotomy i j with hij | rfl | hij
  · exact hp i j h hjl hij x hx x hx' rfl
  · rw [hb] at hj; cases hj
  · exact hp j i hjl h hij x hx' x hx rfl

/-! ## the C pass: which physical lines it can attribute -/

theorem map_eq_ok {ε α β : Type} {x : Except ε α} {f : α → β} {b : β} (h : x.map f = .ok b) :
    ∃ a, x = .ok a ∧ b = f a := by
  cases x with
  | error e => cases h
  | ok a => exact ⟨a, rfl, (Except.ok.inj h).symm⟩

theorem emitCL_eq (cur : OSL) (lines : List Nat) :
    emitCL cur lines = if cur.blank then [] else [⟨lines, cur.parts⟩] := rfl

theorem flat_emitCL_sublist (cur : OSL) (lines : List Nat) :
    ((emitCL cur lines).flatMap (·.lines)).Sublist lines := by
  rw [emitCL_eq]; split <;> simp

theorem dLoop_sublist (phys : List (List Char × Bool)) : ∀ (st : List DMode) (cur : OSL) (lines : List Nat)
    (n : Nat) (out : List CL), dLoop st cur lines n phys = .ok out →
    (out.flatMap (·.lines)).Sublist (lines ++ List.range' (n + 1) phys.length) := by
  intro st cur lines n
  -- a physical line adds at most its own number to the open `lines`
  have hl2 (b : Bool) (lines : List Nat) (k : Nat) : (if b then lines else lines ++ [k]).Sublist (lines ++ [k]) := by
    cases b <;> simp
  -- along the branches of `dLoop`; in four of them it raises
  fun_induction dLoop st cur lines n phys with
  | case1 st cur lines => intro out h; cases h; simpa using flat_emitCL_sublist cur lines
  | case2 | case3 | case4 | case5 => exact nofun
  | case6 =>
    -- the logical line ends here: what is yielded for it is among its `lines`, and the rest starts with none
    rename_i ih
    intro out h
    obtain ⟨out', ho, rfl⟩ := map_eq_ok h
    simpa [List.range'_succ] using ((flat_emitCL_sublist _ _).trans (hl2 ..)).append (ih out' ho)
  | case7 =>
    rename_i ih
    intro out h
    simpa [List.range'_succ] using (ih out h).trans ((hl2 ..).append (.refl _))

/-! ## FileParser grouping -/

/-- the nodes partition the lines of the logical lines, the open code group first, and `num_lines = |lines|` in each -/
theorem groupAux_nodes (lls : List LL) : ∀ acc : List LL,
    nodesLines (groupAux acc lls) = countedOf acc ++ countedOf lls ∧
    ∀ n ∈ groupAux acc lls, n.numLines = n.lines.length := by
  have flush : ∀ acc : List LL, nodesLines (if acc.isEmpty then [] else [mkCode acc]) = countedOf acc ∧
      ∀ n ∈ (if acc.isEmpty then [] else [mkCode acc]), n.numLines = n.lines.length := by
    intro acc
    cases acc with
    | nil => exact ⟨rfl, nofun⟩
    | cons a as =>
      exact ⟨by simp [nodesLines, countedOf, mkCode], fun n hn => by
        rw [List.mem_singleton.mp hn]; simp only [mkCode, List.length_flatMap]⟩
  induction lls with
  | nil => intro acc; rw [groupAux_nil]; simpa [countedOf] using flush acc
  | cons l rest ih =>
    intro acc
    rw [groupAux_cons]
    split
    · obtain ⟨f1, f2⟩ := flush acc
      obtain ⟨i1, i2⟩ := ih []
      refine ⟨?_, fun n hn => ?_⟩
      · rw [nodesLines, List.flatMap_append, List.flatMap_cons, ← nodesLines, ← nodesLines, f1, i1]
        simp [countedOf]
      · rcases List.mem_append.mp hn with hn | hn
        · exact f2 n hn
        · rcases List.mem_cons.mp hn with rfl | hn
          · rfl
          · exact i2 n hn
    · obtain ⟨i1, i2⟩ := ih (acc ++ [l])
      exact ⟨by rw [i1]; simp [countedOf], i2⟩

end CbiVerif.Fortran
