import CbiVerif.Spec.GitIgnore
import CbiVerif.Lemmas.ListFacts
/-! Helper lemmas about the gitignore reference (`Spec/GitIgnore.lean`) for `Props/C09GitIgnore.lean`: a text without
glob syntax tokenises to literals and matches only itself; `*` and `**` as splittings of the text; lines that need no
line-level treatment (`Clean`) and what they parse to; the last match as a `find?`; the walk `ignoredFrom` in terms of
`excludedAt` on the prefixes of the path (`ignoredFrom_iff`: the one induction over the walk). -/
namespace CbiVerif.GitIgnore

/-! ## matcher -/

theorem tokAux_lits (s : Chars) : ∀ (n : Nat) (bound : Bool), (∀ c ∈ s, isSpecial c = false) → s.length < n →
    tokAux n bound s = some (s.map Tok.lit) := by
  induction s with
  | nil => intro n b _ hn; cases n with
    | zero => simp at hn
    | succ n => rfl
  | cons c r ih =>
    intro n b hs hn
    cases n with
    | zero => simp at hn
    | succ n =>
      have hc : isSpecial c = false := hs c (by simp)
      simp only [isSpecial, Bool.or_eq_false_iff] at hc
      unfold tokAux
      simp only [hc, Bool.false_eq_true, if_false,
        ih n (c == '/') (fun d hd => hs d (List.mem_cons_of_mem _ hd)) (Nat.lt_of_succ_lt_succ hn)]
      rfl

theorem tokenize_lits (s : Chars) (hs : ∀ c ∈ s, isSpecial c = false) : tokenize s = some (s.map Tok.lit) :=
  tokAux_lits s _ true hs (by omega)

theorem wm_lits_append (s : Chars) (ts : List Tok) : ∀ t, wm (s.map Tok.lit ++ ts) t = true ↔ ∃ r, t = s ++ r ∧ wm ts r = true := by
  induction s with
  | nil => simp
  | cons c s ih =>
    intro t
    cases t with
    | nil => simp [wm]
    | cons d t =>
      simp only [List.map_cons, List.cons_append, wm, Bool.and_eq_true, beq_iff_eq, ih, List.cons.injEq]
      exact ⟨fun ⟨h, r, e, hr⟩ => ⟨r, ⟨h.symm, e⟩, hr⟩, fun ⟨r, ⟨h, e⟩, hr⟩ => ⟨h.symm, r, e, hr⟩⟩

theorem wm_lits (s t : Chars) : wm (s.map Tok.lit) t = true ↔ t = s := by
  simpa [wm] using wm_lits_append s [] t

/-- `*` and `**` are one loop: `f` holds here, or after skipping a character that satisfies `ok` -/
theorem skipLoop_iff (ok : Char → Bool) (loop f : Chars → Bool) (h0 : loop [] = f [])
    (hc : ∀ c t, loop (c :: t) = (f (c :: t) || (ok c && loop t))) :
    ∀ t, loop t = true ↔ ∃ a b, t = a ++ b ∧ (∀ c ∈ a, ok c = true) ∧ f b = true
  | [] => by
    simp only [h0, List.nil_eq_append_iff]
    exact ⟨fun h => ⟨[], [], ⟨rfl, rfl⟩, by simp, h⟩, fun ⟨_, _, ⟨_, hb⟩, _, h⟩ => hb ▸ h⟩
  | c :: t => by
    simp only [hc, Bool.or_eq_true, Bool.and_eq_true, skipLoop_iff ok loop f h0 hc t, List.cons_eq_append_iff]
    constructor
    · rintro (h | ⟨hok, a, b, rfl, ha, hf⟩)
      · exact ⟨[], _, .inl ⟨rfl, rfl⟩, by simp, h⟩
      · exact ⟨c :: a, b, .inr ⟨a, rfl, rfl⟩, by simpa [hok] using ha, hf⟩
    · rintro ⟨a, b, (⟨rfl, rfl⟩ | ⟨a', rfl, rfl⟩), ha, hf⟩
      · exact .inl hf
      · simp only [List.mem_cons, forall_eq_or_imp] at ha
        exact .inr ⟨ha.1, a', b, rfl, ha.2, hf⟩

theorem starLoop_iff (f : Chars → Bool) (t : Chars) :
    starLoop f t = true ↔ ∃ a b, t = a ++ b ∧ '/' ∉ a ∧ f b = true := by
  have : ∀ a : Chars, (∀ c ∈ a, (c != '/') = true) ↔ '/' ∉ a := fun a =>
    ⟨fun h hm => by simpa using h _ hm, fun h c hc => by rw [bne_iff_ne]; rintro rfl; exact h hc⟩
  simp only [skipLoop_iff (· != '/') (starLoop f) f rfl (fun _ _ => rfl), this]

theorem anyLoop_iff (f : Chars → Bool) (t : Chars) : anyLoop f t = true ↔ ∃ a b, t = a ++ b ∧ f b = true := by
  rw [skipLoop_iff (fun _ => true) (anyLoop f) f rfl (fun _ _ => by simp [anyLoop])]
  simp

/-! ## lines -/

theorem trimAux_snoc (s : Chars) (x : Char) (hs : ∀ c ∈ s, c ≠ '\\') (hx : x ≠ ' ' ∧ x ≠ '\\') : ∀ done sp,
    trimAux done sp (s ++ [x]) = done.reverse ++ sp.reverse ++ s ++ [x] := by
  induction s with
  | nil => intro done sp; simp [trimAux, hx]
  | cons c s ih =>
    intro done sp
    have hc : c ≠ '\\' := hs c (by simp)
    have ih := ih (fun d hd => hs d (by simp [hd]))
    rw [List.cons_append, trimAux.eq_def]
    by_cases h : c = ' ' <;> simp [h, hc, ih]

/-- a pattern body that needs no line-level treatment: no backslash, not empty, does not end in a blank -/
structure Clean (s : Chars) : Prop where
  noBackslash : ∀ c ∈ s, c ≠ '\\'
  nonempty : s ≠ []
  noTrailingBlank : s.getLast? ≠ some ' '

theorem clean_cons {c : Char} {b : Chars} (hc : c ≠ '\\') (h : Clean b) : Clean (c :: b) :=
  ⟨fun x hx => by
      rcases List.mem_cons.mp hx with rfl | hx
      · exact hc
      · exact h.noBackslash x hx,
    by simp, by
      obtain ⟨d, r, rfl⟩ := List.exists_cons_of_ne_nil h.nonempty
      simpa [List.getLast?_cons_cons] using h.noTrailingBlank⟩

theorem trimTrailing_clean (s : Chars) (h : Clean s) : trimTrailing s = s := by
  obtain ⟨s', x, rfl⟩ := (ListFacts.eq_nil_or_snoc s).resolve_left h.nonempty
  have := trimAux_snoc s' x (fun c hc => h.noBackslash c (by simp [hc]))
    ⟨by simpa using h.noTrailingBlank, h.noBackslash x (by simp)⟩ [] []
  simpa [trimTrailing] using this

/-- what a line without escapes, comment mark and trailing blanks parses to -/
def cleanPat (neg : Bool) (b : Chars) : Pat :=
  let db := stripDir b
  let anchored := db.2.contains '/'
  { neg := neg, dirOnly := db.1, anchored := anchored, toks := tokenize (if anchored then stripLead db.2 else db.2) }

theorem parseLine_of_clean (l : Chars) (h : Clean l) (h1 : l.head? ≠ some '#') :
    parseLine l = some (cleanPat (stripNeg l).1 (stripNeg l).2) := by
  have hE : l.isEmpty = false := by simpa using h.nonempty
  have hH : (l.head? == some '#') = false := by simpa using h1
  simp only [parseLine, hE, hH, Bool.or_self, Bool.false_eq_true, if_false, trimTrailing_clean l h, cleanPat]

theorem parseLine_clean (b : Chars) (h : Clean b) (h1 : b.head? ≠ some '#') (h2 : b.head? ≠ some '!') :
    parseLine b = some (cleanPat false b) := by
  rw [parseLine_of_clean b h h1, stripNeg, if_neg h2]

theorem parseLine_neg_clean (b : Chars) (h : Clean b) :
    parseLine ('!' :: b) = some (cleanPat true b) :=
  parseLine_of_clean _ (clean_cons (by decide) h) (by simp)

/-! ## deciding -/

theorem lastMatch_eq_find (ps : List Pat) (x : Comps) (d : Bool) :
    lastMatch ps x d = (ps.reverse.find? fun p => matchPat p x d).map fun p => !p.neg := by
  rw [lastMatch, List.foldl_eq_foldr_reverse]
  induction ps.reverse with
  | nil => rfl
  | cons p l ih => by_cases h : matchPat p x d = true <;> simp [h, ih]

theorem lastMatch_append_single (ps : List Pat) (p : Pat) (comps : Comps) (d : Bool) :
    lastMatch (ps ++ [p]) comps d = if matchPat p comps d then some (!p.neg) else lastMatch ps comps d := by
  simp [lastMatch, List.foldl_append]

theorem lastMatch_remove (ps qs : List Pat) (p : Pat) (x : Comps) (d : Bool) (h : matchPat p x d = false) :
    lastMatch (ps ++ p :: qs) x d = lastMatch (ps ++ qs) x d := by
  simp [lastMatch_eq_find, List.find?_append, h]

theorem excludedAt_single (p : Pat) (x : Comps) (d : Bool) : excludedAt [p] x d = (matchPat p x d && !p.neg) := by
  cases h : matchPat p x d <;> simp [excludedAt, lastMatch, h]

theorem ignoredFrom_cons (ps : List Pat) (pre : Comps) (c : Chars) (rest : Comps) (d : Bool) :
    ignoredFrom ps pre (c :: rest) d =
      (excludedAt ps (pre ++ [c]) (decide (0 < rest.length) || d) || ignoredFrom ps (pre ++ [c]) rest d) := by
  cases rest <;> simp [ignoredFrom]

/-- a path is ignored iff one of its non-empty prefixes is excluded, a proper prefix as a directory -/
theorem ignoredFrom_iff (ps : List Pat) (comps : Comps) : ∀ (pre : Comps) (d : Bool),
    ignoredFrom ps pre comps d = true ↔
      ∃ k, 0 < k ∧ k ≤ comps.length ∧ excludedAt ps (pre ++ comps.take k) (decide (k < comps.length) || d) = true := by
  induction comps with
  | nil => intro pre d; simp [ignoredFrom]; omega
  | cons c rest ih =>
    intro pre d
    have e : ∀ l : Comps, (pre ++ [c]) ++ l = pre ++ c :: l := fun l => by simp
    rw [ignoredFrom_cons, Bool.or_eq_true, ih]
    simp only [e, List.length_cons]
    constructor
    · rintro (h | ⟨k, h1, h2, h3⟩)
      · exact ⟨1, Nat.one_pos, by omega, by simpa using h⟩
      · exact ⟨k + 1, by omega, by omega, by simpa using h3⟩
    · rintro ⟨k, h1, h2, h3⟩
      match k, h1 with
      | 1, _ => exact .inl (by simpa using h3)
      | k + 2, _ =>
        have : k + 2 < rest.length + 1 ↔ k + 1 < rest.length := by omega
        exact .inr ⟨k + 1, by omega, by omega, by simpa [this] using h3⟩

theorem ignoredFrom_congr (ps qs : List Pat) (comps pre : Comps) (d : Bool)
    (h : ∀ k, 0 < k → k ≤ comps.length → ∀ d', excludedAt ps (pre ++ comps.take k) d' = excludedAt qs (pre ++ comps.take k) d') :
    ignoredFrom ps pre comps d = ignoredFrom qs pre comps d := by
  rw [Bool.eq_iff_iff, ignoredFrom_iff, ignoredFrom_iff]
  exact exists_congr fun k => and_congr_right fun h1 => and_congr_right fun h2 => by rw [h k h1 h2]

/-! ## paths as text -/

theorem joinPath_cons_cons (c c2 : Chars) (r : Comps) : joinPath (c :: c2 :: r) = c ++ '/' :: joinPath (c2 :: r) := rfl

theorem slash_mem_joinPath (c c2 : Chars) (r : Comps) : '/' ∈ joinPath (c :: c2 :: r) := by simp [joinPath]

theorem joinPath_eq_name (x : Comps) (s : Chars) (hs : '/' ∉ s) (hne : s ≠ []) : joinPath x = s ↔ x = [s] := by
  constructor
  · intro h
    match x, h with
    | [], h => exact absurd h.symm hne
    | [c], h => rw [← h]; rfl
    | c :: c2 :: r, h => exact absurd (h ▸ slash_mem_joinPath c c2 r) hs
  · rintro rfl; rfl

/-! ## lists -/

theorem any_dropLast_or_last {α : Type} (f : α → Bool) (l : List α) :
    (l.dropLast.any f || match l.getLast? with
      | some c => f c
      | none => false) = l.any f := by
  induction l with
  | nil => rfl
  | cons a r ih =>
    cases r with
    | nil => simp
    | cons b r' =>
      simp only [List.dropLast_cons_cons, List.getLast?_cons_cons, List.any_cons, Bool.or_assoc] at ih ⊢
      rw [ih]

theorem mem_dropLast_or_last {α : Type} (s : α) (l : List α) : s ∈ l ↔ s ∈ l.dropLast ∨ l.getLast? = some s := by
  rcases ListFacts.eq_nil_or_snoc l with rfl | ⟨l', b, rfl⟩
  · simp
  · simp [eq_comm]

/-- the last components of the non-empty prefixes of a list are its members: those of the proper prefixes, and its last -/
theorem exists_prefix_last {α : Type} (x : α) (P : Bool → α → Prop) (l : List α) :
    (∃ k, 0 < k ∧ k ≤ l.length ∧ P (decide (k < l.length)) ((l.take k).getLast?.getD x)) ↔
      (∃ c ∈ l.dropLast, P true c) ∨ ∃ c, l.getLast? = some c ∧ P false c := by
  rcases ListFacts.eq_nil_or_snoc l with rfl | ⟨l, b, rfl⟩
  · simp; omega
  simp only [List.dropLast_concat, List.length_append, List.length_singleton, List.getLast?_concat, Option.some.injEq,
    exists_eq_left']
  constructor
  · rintro ⟨k, h1, h2, h3⟩
    by_cases hk : k ≤ l.length
    · rw [List.take_append_of_le_length hk, decide_eq_true (by omega)] at h3
      obtain ⟨c, hc⟩ : ∃ c, (l.take k).getLast? = some c := Option.isSome_iff_exists.mp (by
        rw [List.getLast?_isSome]; intro e; have := congrArg List.length e; rw [List.length_take, List.length_nil] at this; omega)
      exact .inl ⟨c, List.mem_of_mem_take (List.mem_of_getLast? hc), by simpa [hc] using h3⟩
    · obtain rfl : k = l.length + 1 := by omega
      exact .inr (by simpa [List.take_of_length_le] using h3)
  · rintro (⟨c, hc, h⟩ | h)
    · obtain ⟨l1, l2, rfl⟩ := List.append_of_mem hc
      refine ⟨l1.length + 1, by omega, by simp, ?_⟩
      rw [show (l1 ++ c :: l2) ++ [b] = (l1 ++ [c]) ++ (l2 ++ [b]) by simp, List.take_left' (by simp)]
      simpa using h
    · exact ⟨l.length + 1, by omega, Nat.le_refl _, by simpa [List.take_of_length_le] using h⟩

end CbiVerif.GitIgnore
