import CbiVerif.Model.FindInst
/-! Helper lemmas about the up-front parse phase of `FindInst.findI` (core Lean only). -/
namespace CbiVerif.FindInst
open CbiVerif.PP CbiVerif.FindFold

theorem prepare_ok_iff (fs : FSMap) (l : List String) :
    prepare fs l = .ok () ↔ ∀ f ∈ l, parseOne fs f = .ok () := by
  induction l with
  | nil => simp [prepare]
  | cons f l ih =>
    simp only [prepare, List.mem_cons, forall_eq_or_imp]
    cases h : parseOne fs f with
    | error e => simp
    | ok u => simp [ih]

theorem prepare_mono (fs : FSMap) (l l' : List String) (hsub : ∀ f ∈ l', f ∈ l)
    (h : prepare fs l = .ok ()) : prepare fs l' = .ok () := by
  rw [prepare_ok_iff] at h ⊢
  exact fun f hf => h f (hsub f hf)

theorem mem_filesOf (c : Config Entry) (f : String) : f ∈ filesOf c ↔ ∃ j ∈ jobs c, j.2.file = f := List.mem_map

theorem prepare_jobs_mono (fs : FSMap) (cb : List String) {c c' : Config Entry} (hsub : ∀ j ∈ jobs c', j ∈ jobs c)
    (h : prepare fs (cb ++ filesOf c) = .ok ()) : prepare fs (cb ++ filesOf c') = .ok () := by
  apply prepare_mono fs _ _ _ h
  intro f hf
  rw [List.mem_append, mem_filesOf] at hf ⊢
  exact hf.imp_right fun ⟨j, hj, hjf⟩ => ⟨j, hsub j hj, hjf⟩

end CbiVerif.FindInst
