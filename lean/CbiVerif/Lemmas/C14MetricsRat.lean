import CbiVerif.Lemmas.Metrics
import CbiVerif.Lemmas.FindFold
import Mathlib.Data.List.Dedup
import CbiVerif.Model.C14Metrics
import CbiVerif.Lemmas.Order
/-!
Helper lemmas for `Props/C14Metrics.lean` (exact values): every count the metrics of `Model/Metrics.lean` are made of is a
weighted sum `wsum sm w`, and the weighted sums of a dict are determined by its `get` (`wsum_of_get`: both are sums over the
classes of the keys, `FindFold.sum_fibres`); so a dict whose `get` counts the lines of an attribution `L` carrying that key has the
same weighted sums as `L` read line by line (`lineSetmap L`), hence — all rows positive — the same metrics.  Last, for
`Props/C14MetricsRat.lean`: `Order.pairs` against C07's recursions over the pairs of a list (`pairs_*`).
-/
namespace CbiVerif.C14C
open CbiVerif.SM CbiVerif.C06C CbiVerif.Metrics

theorem wsum_lineSetmap (w : Key → Bool) (L : List (Nat × Key)) : wsum (lineSetmap L) w = L.countP fun y => w y.2 := by
  induction L with
  | nil => rfl
  | cons y L ih =>
    unfold lineSetmap at ih ⊢
    rw [List.map_cons, wsum_cons, ih, List.countP_cons]
    exact Nat.add_comm _ _

/-- over any duplicate-free list that holds the keys a weighted sum reads the dict through `get` -/
theorem wsum_eq_sum_get {sm : SM.Setmap} {K : List Key} (hK : K.Nodup) (hall : ∀ e ∈ sm, e.1 ∈ K) (w : Key → Bool) :
    wsum sm w = (K.map fun k => if w k then SM.get sm k else 0).sum := by
  simp only [get_eq_sum]
  exact FindFold.sum_fibres sm (·.2) (·.1) (fun k => w k = true) K hK hall

theorem get_lineSetmap (L : List (Nat × Key)) (k : Key) : SM.get (lineSetmap L) k = L.countP fun y => y.2 = k := by
  rw [get_eq_sum, ← wsum_lineSetmap fun k' => decide (k' = k)]
  simp only [wsum, decide_eq_true_eq]

/-- the weighted sums of a dict are determined by its `get` (whether or not its keys are distinct) -/
theorem wsum_of_get {sm sm' : SM.Setmap} (h : ∀ k, SM.get sm k = SM.get sm' k) (w : Key → Bool) : wsum sm w = wsum sm' w := by
  have hK := List.nodup_dedup (keys sm ++ keys sm')
  rw [wsum_eq_sum_get hK (fun e he => List.mem_dedup.mpr (List.mem_append_left _ (List.mem_map_of_mem he))),
    wsum_eq_sum_get hK (fun e he => List.mem_dedup.mpr (List.mem_append_right _ (List.mem_map_of_mem he)))]
  simp only [h]

theorem wsum_eq_countP (w : Key → Bool) : ∀ (sm : SM.Setmap) (L : List (Nat × Key)), (keys sm).Nodup →
    (∀ k, SM.get sm k = L.countP fun y => y.2 = k) → wsum sm w = L.countP fun y => w y.2 :=
  fun _ L _ h => (wsum_of_get (fun k => (h k).trans (get_lineSetmap L k).symm) w).trans (wsum_lineSetmap w L)

/-! ## two setmaps with the same weighted sums have the same metrics -/

def WEq (sm sm' : SM.Setmap) : Prop := ∀ w : Key → Bool, wsum sm w = wsum sm' w

section weq
variable {sm sm' : SM.Setmap} (hW : WEq sm sm')
include hW

theorem interCount_weq (p q : String) : interCount sm p q = interCount sm' p q := by
  rw [interCount_eq_wsum, interCount_eq_wsum, hW]

end weq

theorem metrics_weq {sm sm' : SM.Setmap} (hW : WEq sm sm') (hpos : ∀ e ∈ sm, 0 < e.2) (hpos' : ∀ e ∈ sm', 0 < e.2) :
    (∀ ps, Metrics.coverage sm ps = Metrics.coverage sm' ps) ∧
    (∀ ps, Metrics.averageCoverage sm ps = Metrics.averageCoverage sm' ps) ∧
    (∀ p q, Metrics.distance sm p q = Metrics.distance sm' p q) ∧
    Metrics.divergence sm = Metrics.divergence sm' := by
  have h := Sim.of_weq (fun w => (hW w).symm) hpos' hpos
  exact ⟨fun ps => by simpa only [List.map_id] using h.coverage ps,
    fun ps => by simpa only [List.map_id] using h.averageCoverage ps, h.distance, h.divergence⟩

/-! ## the rows of `get_setmap` are positive when every node holds a line -/

theorem getSetmap_rows_pos (fs : List FileRec) (hn : ∀ r ∈ fs, ∀ n ∈ r.nodes, 1 ≤ n.numLines) :
    ∀ e ∈ getSetmap fs, 0 < e.2 := by
  rw [getSetmap_eq_foldl]
  refine pos_foldl_add _ _ _ (fun n hn' => ?_) [] nofun
  obtain ⟨r, hr, hnr⟩ := List.mem_flatMap.mp hn'
  exact hn r (List.mem_filter.mp hr).1 n hnr

theorem lineSetmap_pos (L : List (Nat × Key)) : ∀ e ∈ lineSetmap L, 0 < e.2 := by
  intro e he
  unfold lineSetmap at he
  obtain ⟨y, _, rfl⟩ := List.mem_map.mp he
  exact Nat.one_pos

/-! ## `Order.pairs` lists the pairs over which `Model/Metrics.lean` recurses (`npairs`, `pairsDefined`, `pairSum`) -/

theorem pairs_cons (p : String) (ps : List String) :
    CbiVerif.Order.pairs (p :: ps) = (ps.map fun q => (p, q)) ++ CbiVerif.Order.pairs ps := rfl

theorem pairs_length (l : List String) : (CbiVerif.Order.pairs l).length = npairs l := by
  induction l with
  | nil => rfl
  | cons p ps ih => rw [pairs_cons, List.length_append, List.length_map, ih, npairs_cons]

theorem pairs_all (sm : SM.Setmap) (l : List String) :
    (CbiVerif.Order.pairs l).all (fun pq => unionCount sm pq.1 pq.2 != 0) = pairsDefined sm l := by
  induction l with
  | nil => rfl
  | cons p ps ih => rw [pairs_cons, List.all_append, List.all_map, ih, pairsDefined_cons]; rfl

theorem pairs_sum (d : String → String → Rat) (l : List String) :
    ((CbiVerif.Order.pairs l).map fun pq => d pq.1 pq.2).sum = pairSum d l := by
  induction l with
  | nil => rfl
  | cons p ps ih => rw [pairs_cons, List.map_append, List.sum_append, List.map_map, ih, pairSum_cons]; rfl

end CbiVerif.C14C
