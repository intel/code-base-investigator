import CbiVerif.Lemmas.AssocSet
import CbiVerif.Lemmas.FindEngines
import CbiVerif.Lemmas.FindInc
/-! Helper lemmas for `Props/C04Engines.lean`, part 1: attribution sets of association lists, the include
look-up of the two engines, the parse step of the two engines, the labels of a built tree (`build_lbls`). -/
namespace CbiVerif.Engines
open CbiVerif.PP CbiVerif.Exclude CbiVerif.Cond

/-! ## attribution sets -/

theorem mem_triples (a : AssocL) (f : String) (i : Nat) (p : String) : (f, i, p) ∈ triples a ↔ Has a f i p := by
  simp only [triples, List.mem_flatMap, List.mem_map, Has]
  constructor
  · rintro ⟨e, he, q, hq, h⟩
    simp only [Prod.mk.injEq] at h
    obtain ⟨h1, h2, rfl⟩ := h
    exact ⟨e, he, by rw [← h1, ← h2], hq⟩
  · rintro ⟨e, he, h1, h2⟩
    exact ⟨e, he, p, h2, by rw [h1]⟩

/-- the driver's comparison decides equality of the attribution sets -/
theorem sameSet_iff (a b : AssocL) :
    sameSet (triples a) (triples b) = true ↔ ∀ f i p, Has a f i p ↔ Has b f i p := by
  simp only [sameSet, Bool.and_eq_true, List.all_eq_true, List.contains_iff_mem]
  constructor
  · rintro ⟨h1, h2⟩ f i p
    rw [← mem_triples, ← mem_triples]
    exact ⟨h1 _, h2 _⟩
  · intro h
    constructor
    · rintro ⟨f, i, p⟩ hx; rw [mem_triples] at hx ⊢; exact (h f i p).mp hx
    · rintro ⟨f, i, p⟩ hx; rw [mem_triples] at hx ⊢; exact (h f i p).mpr hx

/-- the Boolean the driver prints for "both runs are fine" and "same triples", read off the statement about `Has` -/
theorem agreeOf_of_has {x i} (hb : bothOkOf x i = true)
    (h : x.err = none → i.err = none → ∀ f j p, Has x.assoc f j p ↔ Has i.assoc f j p) : agreeOf x i = true := by
  simp only [bothOkOf, Bool.and_eq_true, Option.isNone_iff_eq_none] at hb
  exact (sameSet_iff _ _).mpr (h hb.1 hb.2)

/-! ## platforms -/

/-- the `Platform` object of `Model/Exclude.lean` read as the one of `Model/FindInc.lean` (same five fields) -/
def cv (p : PP.Platform) : Inc.Platform := ⟨p.name, p.tbl, p.skip, p.incPaths, p.memo⟩

theorem isfile_eq (fs : Inc.FS) (h : fs.links = []) (p : String) : fs.isfile p = (fs.files.get p).isSome := by
  simp [Inc.FS.isfile, Inc.realpath_id fs h]

/-- `Platform.find_include_file`: the two engines' memoised look-ups are the same function -/
theorem findInclude_eq (fs : Inc.FS) (h : fs.links = []) (p : PP.Platform) (name dir : String) (sys : Bool) :
    Inc.lookupWith true fs.env p.incPaths p.memo ⟨name, dir, sys⟩ =
      ((p.findInclude fs.files name dir sys).1, (p.findInclude fs.files name dir sys).2.memo) ∧
    (p.findInclude fs.files name dir sys).2 = { p with memo := (p.findInclude fs.files name dir sys).2.memo } := by
  simp only [Inc.lookupWith, if_true, IncMemo.find, IncMemo.findBy, IncMemo.Memo.lookup, IncMemo.Query.key,
    Platform.findInclude]
  cases hm : List.find? (fun x => x.1 == (name, if sys = true then none else some dir)) p.memo with
  | some e => obtain ⟨k, r⟩ := e; simp
  | none =>
    simp only [Option.map_none]
    have : IncMemo.resolveM fs.env p.incPaths ⟨name, dir, sys⟩ =
        List.find? (fun c => (fs.files.get c).isSome)
          (List.map (fun d => normpath (joinPath d name)) ((if sys = true then [] else [dir]) ++ p.incPaths)) := by
      simp only [IncMemo.resolveM, IncludeSearch.resolveIn, IncludeSearch.candidates, Inc.FS.env,
        FindEngines.normpathK_eq, FindEngines.joinPathK_eq]
      congr 1
      funext c
      exact isfile_eq fs h c
    rw [this]
    simp

/-! ## parsing -/

theorem parseAll_get (fs : Inc.FS) (f : String) :
    (Inc.parseAll fs).get f = (fs.files.get f).map Inc.parseOne := by
  unfold Inc.parseAll Inc.ParsedFS.get FSMap.get
  induction fs.files with
  | nil => simp
  | cons x xs ih =>
    simp only [List.map_cons, List.find?_cons]
    cases hx : x.1 == f with
    | true => simp
    | false => simpa using ih

/-- the parse step of the two engines on one text: they fail alike, and on success hold the same node array, the
tree of the one being the conversion of the tree `Cond.build` gives for the label list of the other -/
theorem parse_rel (text : String) :
    (∃ e, parseFile text = .error e ∧ (∃ e1, Inc.parseOne text = .error e1) ∧ ∃ e2, parseText .c text = .error e2) ∨
    (∃ nodes, parseFile text = .ok nodes ∧ build (labels nodes) = none ∧
      (∃ e1, Inc.parseOne text = .error e1) ∧ ∃ e2, parseText .c text = .error e2) ∨
    (∃ nodes ts d, parseFile text = .ok nodes ∧ build (labels nodes) = some ts ∧
      Inc.parseOne text = .ok ⟨nodes.toArray, labels nodes, d⟩ ∧ parseText .c text = .ok (nodes.toArray, toPTrees ts)) := by
  cases hp : parseFile text with
  | error e =>
    left
    exact ⟨e, rfl, ⟨e, by simp [Inc.parseOne, hp, bind, Except.bind]⟩, ⟨e, by simp [parseText, hp, bind, Except.bind]⟩⟩
  | ok nodes =>
    right
    cases hb : build (labels nodes) with
    | none =>
      left
      refine ⟨nodes, rfl, hb, ⟨.type_, ?_⟩, ⟨.type_, ?_⟩⟩
      · simp [Inc.parseOne, hp, bind, Except.bind, buildTree, hb]
      · simp [parseText, hp, bind, Except.bind, buildTree, hb]
    | some ts =>
      right
      refine ⟨nodes, ts, Inc.directivesOfText text, rfl, hb, ?_, ?_⟩
      · simp only [Inc.parseOne, hp, bind, Except.bind, buildTree, hb, pure, Except.pure]
      · simp only [parseText, hp, bind, Except.bind, buildTree, hb, pure, Except.pure]

/-! ## labels of a tree -/
mutual
def lblsT : Tree → List Lbl
  | .node l kids => l :: lblsTs kids
def lblsTs : List Tree → List Lbl
  | [] => []
  | t :: ts => lblsT t ++ lblsTs ts
end

/-- the label is the one `PP.labels` gives to node `l.id` of the array -/
def LblOK (nodes : Array PNode) (l : Lbl) : Prop :=
  ∃ n, nodes[l.id]? = some n ∧ l.kind = kindOf n.kind ∧ l.pay = payOf (kindOf n.kind) l.id

theorem lblOK_of_mem (nodes : List PNode) (l : Lbl) (h : l ∈ labels nodes) : LblOK nodes.toArray l := by
  simp only [labels, List.mem_map] at h
  obtain ⟨⟨n, i⟩, hmem, rfl⟩ := h
  refine ⟨n, ?_, rfl, rfl⟩
  simp only [List.getElem?_toArray]
  have h2 := List.mem_zipIdx_iff_getElem?.mp hmem
  simpa using h2

/-- the labels of every built tree are labels of the node list it was built from -/
def TreesOK : Prop :=
  ∀ (nodes : List PNode) (ts : List Tree), build (labels nodes) = some ts → ∀ x ∈ lblsTs ts, x ∈ labels nodes

/-! ## the pre-order of a built tree (invariant of the zipper model of `SourceTree.insert`) -/

theorem lblsTs_append (a b : List Tree) : lblsTs (a ++ b) = lblsTs a ++ lblsTs b := by
  induction a with
  | nil => simp [lblsTs]
  | cons t a ih => simp [lblsTs, ih]

/-- the labels held by a zipper, in the order in which they were inserted: finished children of the root, then the open
frames from the outermost in -/
def pre (z : Zip) : List Lbl := lblsTs z.rootKids ++ z.spine.reverse.flatMap (fun f => f.lbl :: lblsTs f.kids)

theorem pre_up (z : Zip) : pre z.up = pre z := by
  unfold Zip.up
  split
  · rfl
  · rename_i f hs
    simp [pre, hs, lblsTs_append, lblsTs, lblsT, Frame.close]
  · rename_i f g rest hs
    simp [pre, hs, lblsTs_append, lblsTs, lblsT, Frame.close]

theorem pre_push (z : Zip) (l : Lbl) : pre (z.push l) = pre z ++ [l] := by
  simp [pre, Zip.push, lblsTs]

theorem pre_walk (n : Nat) (z : Zip) : pre (z.walk n) = pre z := by
  induction n generalizing z with
  | zero => rfl
  | succ n ih =>
    unfold Zip.walk
    split
    · rfl
    · split
      · rfl
      · rw [ih, pre_up]

theorem pre_insert (z : Zip) (l : Lbl) : (z.insert l).crashed = true ∨ pre (z.insert l) = pre z ++ [l] := by
  unfold Zip.insert
  split
  · exact .inl ‹_›
  · split
    · exact .inr (pre_push z l)
    · split
      · split
        · exact .inr (pre_push z l)
        · exact .inr (by rw [pre_push, pre_up])
      · split
        · dsimp only
          split
          · exact .inl rfl
          · exact .inr (by rw [pre_push, pre_up, pre_walk])
        · split
          · exact .inr (pre_push z l)
          · exact .inr (by rw [pre_push, pre_up])

theorem insertAll_crashed (ls : List Lbl) (z : Zip) (h : z.crashed = true) : insertAll z ls = z := by
  induction ls with
  | nil => rfl
  | cons l ls ih => rw [insertAll_cons, show z.insert l = z by simp [Zip.insert, h], ih]

theorem pre_insertAll (ls : List Lbl) (z : Zip) (h : (insertAll z ls).crashed = false) : pre (insertAll z ls) = pre z ++ ls := by
  induction ls generalizing z with
  | nil => simp [insertAll]
  | cons l ls ih =>
    rw [insertAll_cons] at h ⊢
    rcases pre_insert z l with hc | hp
    · rw [insertAll_crashed ls _ hc, hc] at h; cases h
    · rw [ih _ h, hp, List.append_assoc]; rfl

theorem up_length (z : Zip) : z.up.spine.length = z.spine.length - 1 := by
  unfold Zip.up
  split <;> simp_all

theorem pre_closeAll (n : Nat) (z : Zip) (h : z.spine.length ≤ n) : lblsTs (z.closeAll n) = pre z := by
  induction n generalizing z with
  | zero => simp [Zip.closeAll, pre, List.length_eq_zero_iff.mp (Nat.le_zero.mp h)]
  | succ n ih =>
    unfold Zip.closeAll
    split
    · rename_i hs; simp [pre, hs]
    · rw [ih _ (by rw [up_length]; omega), pre_up]

/-- the tree builder neither loses nor reorders nodes: read in pre-order, the trees it returns are the list it was given
(for every label list, well nested or not) -/
theorem build_preorder (ls : List Lbl) (ts : List Tree) (h : build ls = some ts) : lblsTs ts = ls := by
  unfold build at h
  dsimp only at h
  split at h
  · cases h
  · rename_i hc
    cases h
    rw [pre_closeAll _ _ (Nat.le_refl _), pre_insertAll ls _ (Bool.eq_false_iff.mpr hc)]
    rfl

theorem build_lbls (ls : List Lbl) (ts : List Tree) (h : build ls = some ts) : ∀ x ∈ lblsTs ts, x ∈ ls :=
  fun _ hx => build_preorder ls ts h ▸ hx

theorem treesOK : TreesOK := fun nodes ts h => build_lbls (labels nodes) ts h

end CbiVerif.Engines
