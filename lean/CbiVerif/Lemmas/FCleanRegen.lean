import CbiVerif.Model.FCleanCells
import CbiVerif.Generated.FCleanTable
import CbiVerif.Generated.CCleanTable
/-!
# The hand-written `fortran_cleaner` / directives-only `c_cleaner` models against the regenerated tables

Finite comparisons as `Bool` functions closed by kernel `decide`; `Props/C17Table.lean` holds the theorems.
-/
namespace CbiVerif.Fortran.Regen
open CbiVerif.Fortran

def lineRowOK (row : (List Nat × List Nat) × List (List Nat × Entry)) : Bool :=
  (startSt row.1).stack.map modeId == row.1.1 &&
  row.2.all fun p => p.2 == lineObs (startSt row.1) (chars p.1)

theorem lineRows_ok : Gen.FCleanTable.lines.all lineRowOK = true := by decide +kernel

/-- all lines of length ≤ 2 over the class representatives and the lines of length 3 that start with a
    silently consumed representative (`!`, `&`), for every start configuration; the first is the initial one -/
def linesOver (reps silent : List Nat) : List (List Nat) :=
  [[]] ++ reps.map (fun a => [a]) ++ reps.flatMap (fun a => reps.map fun b => [a, b]) ++
  silent.flatMap (fun a => reps.flatMap fun b => reps.map fun c => [a, b, c])

def shapeOK : Bool :=
  (Gen.FCleanTable.lines.head?.map (·.1)) == some ([0], []) &&
  Gen.FCleanTable.lines.all fun row => row.2.map (·.1) == linesOver Gen.FCleanTable.classReps Gen.FCleanTable.silentReps

theorem shape_ok : shapeOK = true := by decide +kernel

/-- the start configurations are closed: what `process` leaves behind is again a start configuration -/
def closedOK : Bool :=
  Gen.FCleanTable.lines.all fun row => row.2.all fun p =>
    p.2.1 || (Gen.FCleanTable.lines.map (·.1)).contains (p.2.2.1, p.2.2.2.1)

theorem closed_ok : closedOK = true := by decide +kernel

/-- the model covers ASCII, NEL and NBSP (`str.isalpha` of other letters is outside its `cls`) -/
def classOK (p : Nat × Nat) : Bool :=
  !(p.1 < 128 || p.1 == 133 || p.1 == 160) || clsIdx (cls (Char.ofNat p.1)) == p.2

theorem classes_ok : Gen.FCleanTable.charClass.all classOK = true := by decide +kernel

/-! ## the C pass: every ASCII character in every reachable cell -/

def classOfChar (n : Nat) : Option Nat := (Gen.CCleanTable.charClass[n]?).map (·.2)

def dRowOK (row : List Nat × List (List Gen.CCleanTable.Entry)) : Bool :=
  (row.1.map dModeOfId).map dModeId == row.1 &&
  [false, true].all fun b => (List.range 128).all fun n =>
    (classOfChar n).bind (fun i => (row.2[b.toNat]?).bind (·[i]?)) == some (dCell (row.1.map dModeOfId) b (Char.ofNat n))

theorem dRows_ok : Gen.CCleanTable.stepD.all dRowOK = true := by decide +kernel

def dNlRowOK (row : List Nat × Gen.CCleanTable.Entry) : Bool := row.2 == dNewlineCell (row.1.map dModeOfId)

theorem dNlRows_ok : Gen.CCleanTable.newlineD.all dNlRowOK = true := by decide +kernel

def dClosedOK : Bool :=
  let keys := Gen.CCleanTable.stepD.map (·.1)
  keys.contains [0] && Gen.CCleanTable.newlineD.map (·.1) == keys &&
  (Gen.CCleanTable.stepD.all fun row => row.2.all fun es => es.all fun e => e.1 || keys.contains e.2.1) &&
  (Gen.CCleanTable.newlineD.all fun row => row.2.1 || keys.contains row.2.2.1)

end CbiVerif.Fortran.Regen
