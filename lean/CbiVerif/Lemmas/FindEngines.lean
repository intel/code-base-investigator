import CbiVerif.Model.FindInst
import CbiVerif.Lemmas.FindInst
import CbiVerif.Lemmas.FindCacheMono
import CbiVerif.Model.FindInc
import CbiVerif.Lemmas.FindChars
/-!
Helper lemmas for `Props/C08Engines.lean`: the multi-file engines are ONE engine.

* Part A — congruence of the cache-free engine `Exclude.runEntryRef` in its semantics record: two records with
  the same node step, the same `-include` search and the same `Platform` construction, which agree on every file
  entered from an includer of class `cl0` (and on the files entered at top level), run alike: the case of
  `Exclude.Lift` (`Lemmas/Engine.lean`) in which both engines are cache-free and every state is clean.
* Part B — the up-front parse of `FindInst.findI` (`prepare`) is the up-front parse of the engine (`preparse`)
  under `FindInst.semPP`.
* Part C — the instance: `semPP fs` (every file through the C front end) against `Exclude.sem fs` (class by
  extension / by includer) on C-family inputs.
* Part D — the path functions of `Model/FindInc.lean` are those of `PP/Find.lean`.
-/
namespace CbiVerif.FindEngines
open CbiVerif.PP CbiVerif.FindFold CbiVerif.Exclude CbiVerif.FindCache CbiVerif.FindInst

/-! ## Part A — congruence of the reference engine -/

/-- the two records treat file `g`, entered with inherited class `inh`, alike, and use it under class `cl0` -/
def EnterAgree (S1 S2 : Sem) (cl0 : LClass) (g : String) (inh : Option LClass) : Prop :=
  (∀ l, S1.enterRef l g inh = S2.enterRef l g inh) ∧
  (∀ l cl t, (S1.enterRef l g inh).2 = some (cl, t) → cl = cl0)

/-- what the congruence needs of the two records; `P` is an invariant of the `Platform` object (for the instance:
every file the include memo remembers exists) -/
structure Congr (S1 S2 : Sem) (cl0 : LClass) (P : Platform → Prop) : Prop where
  step_eq : S1.step = S2.step
  find_eq : S1.findInc = S2.findInc
  plat_eq : S1.mkPlat = S2.mkPlat
  stepP : ∀ file idx nd l, P l.plat → P (S1.step file idx nd l).1.plat
  findP : ∀ p inc dir, P p → P (S1.findInc p inc dir).2
  mkP : ∀ pname e plat, S1.mkPlat pname e = .ok plat → P plat
  inh : ∀ g, EnterAgree S1 S2 cl0 g (some cl0)

theorem enterRef_plat (S : Sem) (l : Local) (g : String) (inh : Option LClass) :
    (S.enterRef l g inh).1.plat = l.plat := by
  fun_cases Sem.enterRef S l g inh <;> rfl

variable {S1 S2 : Sem} {cl0 : LClass} {P : Platform → Prop}

/-- two cache-free engines: every state is clean, `P` is kept of the `Platform` object, all files are of class `cl0` -/
def congrView (cl0 : LClass) (P : Platform → Prop) : View Local :=
  { J := fun _ => True, P := P, clean := fun _ => True, C := (· = cl0) }

theorem EnterAgree.enterOK {g : String} {inh : Option LClass} (hE : EnterAgree S1 S2 cl0 g inh) :
    EnterOK S1.plain S2 (congrView cl0 P) g inh :=
  fun l _ => ⟨trivial, fun hP => (enterRef_plat S1 l g inh).symm ▸ hP, hE.2 l, fun _ => ⟨trivial, hE.1 l⟩⟩

theorem Congr.lift (h : Congr S1 S2 cl0 P) : Lift S1.plain S2 (congrView cl0 P) where
  J_set _ _ _ := trivial
  clean_set _ _ _ := trivial
  step_eq := h.step_eq
  find_eq := h.find_eq
  plat_eq := h.plat_eq
  stepP := h.stepP
  findP := h.findP
  mkP := h.mkP
  inh g cl hC := by obtain rfl : cl = cl0 := hC; exact (h.inh g).enterOK

/-- the `-include` loop: every file it enters is treated alike at top level -/
def ForcedAgree (S1 S2 : Sem) (cl0 : LClass) (P : Platform → Prop) (incs : List String) : Prop :=
  incs = [] ∨ ∀ p inc dir f p2, P p → S1.findInc p inc dir = (some f, p2) → EnterAgree S1 S2 cl0 f none

theorem congr_entry (h : Congr S1 S2 cl0 P) (n : Nat) (pname : String) (e : Entry) (l : Local)
    (hF : ForcedAgree S1 S2 cl0 P e.includeFiles) (hE : EnterAgree S1 S2 cl0 e.file none) :
    runEntryRef S1 n pname e l = runEntryRef S2 n pname e l :=
  ((h.lift.entry n pname e l
    (fun inc hi p f p2 hP hf => (hF.resolve_left (List.ne_nil_of_mem hi) p inc _ f p2 hP hf).enterOK)
    hE.enterOK trivial).2 trivial).2

/-! ### the folds -/

theorem findG_congr {Entry Key Warn Err : Type} (A B : Entry → Except Err (Out Key Warn)) (c : Config Entry)
    (h : ∀ j ∈ jobs c, A j.2 = B j.2) : findG A c = findG B c := by
  unfold findG
  rw [foldlM_stepPlatform, foldlM_stepPlatform]
  generalize ({} : Acc Key Warn) = acc
  revert acc
  generalize jobs c = js at h
  induction js with
  | nil => intro acc; rfl
  | cons j js ih =>
    intro acc
    obtain ⟨p, e⟩ := j
    rw [foldJobs_cons, foldJobs_cons]
    simp only [stepEntry]
    rw [← h (p, e) (List.mem_cons_self ..)]
    cases A e with
    | error er => rfl
    | ok o => exact ih (fun j hj => h j (List.mem_cons_of_mem _ hj)) _

theorem preparse_congr (S1 S2 : Sem) : ∀ (fs : List String) (w : XW),
    (∀ f ∈ fs, ∀ w, S1.enter w f none = S2.enter w f none) → preparse S1 fs w = preparse S2 fs w := by
  intro fs
  induction fs with
  | nil => intro w _; rfl
  | cons f fs ih =>
    intro w h
    simp only [preparse]
    cases w.loc.err with
    | some e => rfl
    | none =>
      simp only []
      rw [← h f (List.mem_cons_self ..) w]
      exact ih _ (fun g hg => h g (List.mem_cons_of_mem _ hg))

/-! ## Part B — the up-front parse of `findI` is the engine's, under `semPP` -/

theorem prepare_eq_preparse (fs : FSMap) : ∀ (l : List String) (w : XW), w.loc.err = none → Inv (semPP fs) w.cache →
    (preparse (semPP fs) l w).loc.err = (match prepare fs l with | .ok _ => none | .error e => some e) := by
  intro l
  induction l with
  | nil => intro w h0 _; simpa [preparse, prepare] using h0
  | cons f l ih =>
    intro w h0 hI
    simp only [preparse, h0, prepare]
    rw [parseOne_eq]
    -- under `semPP` every class is parsed as C
    fun_cases Sem.enter (semPP fs) w f none with
    | case1 cl t hl =>
      rw [show parseAsFS fs .c f = .ok t from hI _ _ _ (look_mem hl)]
      exact ih _ h0 hI
    | case2 hl hc => cases hc
    | case3 hl cl hc e hp =>
      rw [show parseAsFS fs .c f = .error e from hp, preparse_of_err _ _ _ (e := e) (by simp [Local.fail])]
      simp [Local.fail]
    | case4 hl cl hc t hp =>
      rw [show parseAsFS fs .c f = .ok t from hp]
      exact ih _ h0 (hI.snoc hp)

theorem filesOf_eq_entryFiles (cfg : Config Entry) : filesOf cfg = entryFiles cfg := by
  unfold filesOf entryFiles jobs
  induction cfg with
  | nil => rfl
  | cons pe cfg ih => simp [List.flatMap_cons, List.map_append, ih, Function.comp_def]

theorem findIN_eq_findRefG (n : Nat) (fs : FSMap) (cb : List String) (cfg : Config Entry) :
    findIN n fs cb cfg = findRefG (semPP fs) n cb cfg := by
  unfold findIN findRefG prep
  have h := prepare_eq_preparse fs (cb ++ entryFiles cfg) {} rfl (Inv.nil _)
  rw [filesOf_eq_entryFiles, h]
  cases prepare fs (cb ++ entryFiles cfg) with
  | error e => rfl
  | ok u => rfl

/-- under `semPP` every file has extension class C: the one-class theorems of `FindCacheMono` apply -/
theorem oneClass_semPP (fs : FSMap) : OneClass (semPP fs) .c := fun _ => Or.inl rfl

/-! ## Part C — `semPP fs` against `Exclude.sem fs` on C-family inputs -/

-- `CFam`, `AllC`, `ClassOK` (the decidable side conditions) are defined in `Model/FindInst.lean`, so that the driver
-- evaluates the very definitions the theorems are about

theorem get_isSome {fs : FSMap} {g : String} (h : (fs.get g).isSome = true) : ∃ ft ∈ fs, ft.1 = g := by
  unfold FSMap.get at h
  cases hf : fs.find? (·.1 == g) with
  | none => simp [hf] at h
  | some ft => exact ⟨ft, List.mem_of_find?_eq_some hf, by simpa using List.find?_some hf⟩

theorem get_none_parse {fs : FSMap} {g : String} (h : fs.get g = none) (cl : LClass) :
    parseAsFS fs cl g = .error (.other "FileNotFoundError") := by
  simp [parseAsFS, h]

/-- every file the include memo remembers exists -/
def MemoOK (fs : FSMap) (p : Platform) : Prop := ∀ k r, (k, some r) ∈ p.memo → (fs.get r).isSome = true

theorem findInclude_spec (fs : FSMap) (p : Platform) (name dir : String) (sys : Bool) (h : MemoOK fs p) :
    MemoOK fs (p.findInclude fs name dir sys).2 ∧
    (∀ f, (p.findInclude fs name dir sys).1 = some f → (fs.get f).isSome = true) := by
  unfold Platform.findInclude
  simp only []
  cases hm : p.memo.find? (·.1 == (name, if sys then none else some dir)) with
  | some kr =>
    obtain ⟨k, r⟩ := kr
    simp only []
    refine ⟨h, fun f hf => ?_⟩
    subst hf
    exact h k f (List.mem_of_find?_eq_some hm)
  | none =>
    simp only []
    refine ⟨?_, fun f hf => ?_⟩
    · intro k r hkr
      rcases List.mem_append.mp hkr with hkr | hkr
      · exact h k r hkr
      · simp only [List.mem_singleton, Prod.mk.injEq] at hkr
        exact List.find?_some (p := fun c => (fs.get c).isSome) hkr.2.symm
    · exact List.find?_some (p := fun c => (fs.get c).isSome) hf

theorem evalCondL_plat (l : Local) (toks : List Tok) : (evalCondL l toks).2.plat = l.plat := by
  unfold evalCondL
  cases l.err with
  | some e => rfl
  | none => simp only []; cases condValue l.plat.tbl toks <;> rfl

/-- one node of `associate` keeps the memo invariant: only an `#include` touches the memo, through `findInclude` -/
theorem stepNode_memoOK (fs : FSMap) (file : String) (idx : Nat) (nd : PNode) (l : Local)
    (h : MemoOK fs l.plat) : MemoOK fs (stepNode fs file idx nd l).1.plat := by
  have hm : ∀ (p : Platform), p.memo = l.plat.memo → MemoOK fs p := fun p hp k r hkr => h k r (hp ▸ hkr)
  cases hk : nd.kind <;> simp only [stepNode, hk]
  case «include» =>
    split
    · exact h
    · rename_i path sys hres
      have hs := (findInclude_spec fs l.plat path (dirname file) sys h).1
      split
      · exact hs
      · split <;> exact hs
  case ifk => exact hm _ (by rw [evalCondL_plat])
  case elifk =>
    split
    · exact h
    · split
      · exact h
      · exact hm _ (by rw [evalCondL_plat])
  -- every other leaf is `l` with fields other than `plat.memo` replaced
  all_goals (repeat' split) <;> exact hm _ rfl

theorem findForced_spec (fs : FSMap) (p : Platform) (inc dir : String) (h : MemoOK fs p) :
    MemoOK fs (findForced fs p inc dir).2 ∧
    (∀ f, (findForced fs p inc dir).1 = some f → (fs.get f).isSome = true) := by
  obtain ⟨h1, h2⟩ := findInclude_spec fs p inc dir false h
  unfold findForced
  cases hr : p.findInclude fs inc dir false with
  | mk found p2 =>
    rw [hr] at h1 h2
    cases found with
    | none => exact ⟨h1, fun f hf => by cases hf⟩
    | some f0 =>
      simp only []
      split
      · exact ⟨h1, fun f hf => by cases hf⟩
      · exact ⟨h1, fun f hf => h2 f hf⟩

theorem defineAll_memo : ∀ (ds : List String) (p plat : Platform), defineAll ds p = .ok plat → plat.memo = p.memo := by
  intro ds
  induction ds with
  | nil => intro p plat h; simp only [defineAll, Except.ok.injEq] at h; rw [h]
  | cons d ds ih =>
    intro p plat h
    simp only [defineAll] at h
    cases hm : macroFromDefinitionString d with
    | error er => rw [hm] at h; cases h
    | ok m =>
      rw [hm] at h
      simp only [] at h
      have := ih _ plat h
      rw [this]
      split <;> rfl

theorem mkPlatform_memoOK (fs : FSMap) (pname : String) (e : Entry) (plat : Platform)
    (h : mkPlatform pname e = .ok plat) : MemoOK fs plat := by
  intro k r hkr
  rw [defineAll_memo _ _ _ h] at hkr
  cases hkr

theorem semPP_ext (fs : FSMap) (g : String) : (semPP fs).extClass g = some .c := by simp only [semPP]
theorem semPP_parse (fs : FSMap) (cl : LClass) (g : String) : (semPP fs).parseAs cl g = parseAsFS fs .c g := by
  simp only [semPP]
theorem sem_ext (fs : FSMap) (g : String) : (sem fs).extClass g = extClass g := by simp only [sem]
theorem sem_parse (fs : FSMap) (cl : LClass) (g : String) : (sem fs).parseAs cl g = parseAsFS fs cl g := by
  simp only [sem]

theorem refClass_cfam {fs : FSMap} (hfam : CFam fs = true) {g : String} (hg : (fs.get g).isSome = true) :
    (sem fs).refClass g (some .c) = some .c := by
  obtain ⟨ft, hft, rfl⟩ := get_isSome hg
  have hx := (List.all_eq_true.mp hfam) ft hft
  simp only [Bool.or_eq_true, beq_iff_eq] at hx
  simp only [Sem.refClass, sem_ext]
  rcases hx with hx | hx <;> rw [hx]

theorem enterRef_semPP (fs : FSMap) (l : Local) (g : String) (inh : Option LClass) :
    (semPP fs).enterRef l g inh =
      match parseAsFS fs .c g with | .error e => (l.fail e, none) | .ok t => (l, some (.c, t)) := by
  simp only [Sem.enterRef, Sem.refClass, semPP_ext, semPP_parse]
  rfl

theorem enterRef_sem_of_class (fs : FSMap) (l : Local) (g : String) (inh : Option LClass) (cl : LClass)
    (h : (sem fs).refClass g inh = some cl) :
    (sem fs).enterRef l g inh =
      match parseAsFS fs cl g with | .error e => (l.fail e, none) | .ok t => (l, some (cl, t)) := by
  simp only [Sem.enterRef, h, sem_parse]
  rfl

theorem enterRef_semPP_class (fs : FSMap) (l : Local) (g : String) (inh : Option LClass) (cl : LClass) (t : Parsed)
    (hr : ((semPP fs).enterRef l g inh).2 = some (cl, t)) : cl = .c := by
  rw [enterRef_semPP] at hr
  cases hp : parseAsFS fs .c g with
  | error e => rw [hp] at hr; cases hr
  | ok t2 => rw [hp] at hr; simp only [Option.some.injEq, Prod.mk.injEq] at hr; exact hr.1.symm

/-- a file entered from a C includer: C-family or no class by extension if it exists -/
theorem enterAgree_inh (fs : FSMap) (hfam : CFam fs = true) (g : String) :
    EnterAgree (semPP fs) (sem fs) .c g (some .c) := by
  refine ⟨fun l => ?_, fun l cl t hr => enterRef_semPP_class fs l g _ cl t hr⟩
  rw [enterRef_semPP]
  cases hg : fs.get g with
  | none =>
    -- a missing file fails alike under every class
    have hcl : ∃ cl, (sem fs).refClass g (some .c) = some cl := by
      simp only [Sem.refClass, sem_ext]
      cases extClass g with
      | none => exact ⟨_, rfl⟩
      | some e => exact ⟨_, rfl⟩
    obtain ⟨cl, hcl⟩ := hcl
    rw [enterRef_sem_of_class fs l g _ cl hcl, get_none_parse hg, get_none_parse hg]
  | some text => rw [enterRef_sem_of_class fs l g _ .c (refClass_cfam hfam (by rw [hg]; rfl))]

/-- a file entered at top level (compiled file, `-include` file): C-family by extension -/
theorem enterAgree_top (fs : FSMap) (g : String) (hx : extClass g = some .c) :
    EnterAgree (semPP fs) (sem fs) .c g none := by
  refine ⟨fun l => ?_, fun l cl t hr => enterRef_semPP_class fs l g _ cl t hr⟩
  have hcl : (sem fs).refClass g none = some .c := by
    simp only [Sem.refClass, sem_ext, hx]
  rw [enterRef_semPP, enterRef_sem_of_class fs l g _ .c hcl]

theorem congr_semPP (fs : FSMap) (hfam : CFam fs = true) : Congr (semPP fs) (sem fs) .c (MemoOK fs) where
  step_eq := rfl
  find_eq := rfl
  plat_eq := rfl
  stepP := fun file idx nd l h => stepNode_memoOK fs file idx nd l h
  findP := fun p inc dir h => (findForced_spec fs p inc dir h).1
  mkP := fun pname e plat h => mkPlatform_memoOK fs pname e plat h
  inh := enterAgree_inh fs hfam

theorem allC_ext {fs : FSMap} (h : AllC fs = true) {g : String} (hg : (fs.get g).isSome = true) :
    extClass g = some .c := by
  obtain ⟨ft, hft, hgt⟩ := get_isSome hg
  have := (List.all_eq_true.mp h) ft hft
  rw [hgt] at this
  simpa using this

theorem runEntryRef_semPP_eq_sem (fs : FSMap) (n : Nat) (pname : String) (e : Entry) (l : Local) (hfam : CFam fs = true)
    (hfile : extClass e.file = some .c) (hforced : e.includeFiles = [] ∨ AllC fs = true) :
    runEntryRef (semPP fs) n pname e l = runEntryRef (sem fs) n pname e l := by
  refine congr_entry (congr_semPP fs hfam) n pname e l (hforced.imp_right fun h p inc dir f p2 hP hf => ?_)
    (enterAgree_top fs e.file hfile)
  have hf' : (findForced fs p inc dir).1 = some f := congrArg Prod.fst hf
  exact enterAgree_top fs f (allC_ext h ((findForced_spec fs p inc dir hP).2 f hf'))

theorem analyse_semPP_eq_sem (fs : FSMap) (n : Nat) (e : Entry) (hfam : CFam fs = true)
    (hfile : extClass e.file = some .c) (hforced : e.includeFiles = [] ∨ AllC fs = true) :
    analyse (semPP fs) n e = analyse (sem fs) n e :=
  congrArg FindCache.outOf (runEntryRef_semPP_eq_sem fs n "" e {} hfam hfile hforced)

theorem enter_semPP_eq_sem (fs : FSMap) (f : String) (hx : extClass f = some .c) (w : XW) :
    (semPP fs).enter w f none = (sem fs).enter w f none := by
  simp only [Sem.enter, Sem.inhOrExt, Sem.mixOf, Sem.refClass, semPP_ext, sem_ext, semPP_parse, sem_parse, hx]

theorem findIN_eq_findRefG_sem (n : Nat) (fs : FSMap) (cb : List String) (cfg : Config Entry)
    (hok : ClassOK fs cb cfg = true) : findIN n fs cb cfg = findRefG (sem fs) n cb cfg := by
  rw [findIN_eq_findRefG]
  unfold ClassOK at hok
  simp only [Bool.and_eq_true, Bool.or_eq_true] at hok
  obtain ⟨⟨hfam, hfiles⟩, hforced⟩ := hok
  have hfiles' : ∀ f ∈ cb ++ entryFiles cfg, extClass f = some .c := by
    intro f hf
    simpa using (List.all_eq_true.mp hfiles) f hf
  unfold findRefG prep
  rw [preparse_congr (semPP fs) (sem fs) _ _ (fun f hf w => enter_semPP_eq_sem fs f (hfiles' f hf) w)]
  cases (preparse (sem fs) (cb ++ entryFiles cfg) {}).loc.err with
  | some er => rfl
  | none =>
    simp only []
    apply findG_congr
    intro j hj
    apply analyse_semPP_eq_sem fs n j.2 hfam
    · apply hfiles'
      apply List.mem_append_right
      exact (mem_entryFiles cfg _).mpr ⟨j, hj, rfl⟩
    · rcases hforced with h | h
      · left
        have := (List.all_eq_true.mp h) j hj
        simpa using this
      · exact Or.inr h

/-! ## Part D — the path layer of `Model/FindInc.lean` is the path layer of `PP/Find.lean` -/

theorem splitSlash_eq : ∀ (cs cur : List Char), Inc.splitSlash cs cur = slashSplit cs cur := by
  intro cs
  induction cs with
  | nil => intro cur; rfl
  | cons c cs ih =>
    intro cur
    simp only [Inc.splitSlash, slashSplit, ih]

theorem joinSlash_eq : ∀ (l : List String), Inc.joinSlash l = slashJoin l := by
  intro l
  induction l with
  | nil => rfl
  | cons a rest ih =>
    cases rest with
    | nil => rfl
    | cons b r => simp only [Inc.joinSlash, slashJoin, ih]

theorem normpathK_eq (p : String) : Inc.normpathK p = normpath p := by
  simp only [Inc.normpathK, normpath, components, splitSlash_eq, joinSlash_eq]

theorem joinPathK_eq (a b : String) : Inc.joinPathK a b = joinPath a b := rfl

theorem dirnameK_eq (p : String) : Inc.dirnameK p = dirname p := by
  simp only [Inc.dirnameK, dirname, components, splitSlash_eq]
  split <;> simp_all [joinSlash_eq]

end CbiVerif.FindEngines
