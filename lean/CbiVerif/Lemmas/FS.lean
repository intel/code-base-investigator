import CbiVerif.Lemmas.ListFacts
import CbiVerif.Model.FS
/-! Lemmas about the file-system model for C09 / C15: `allFrom` along a path; canonical paths (`canon_iff`); the
operating system's walk `namei` and the `realpath` walk (they agree wherever the OS walk does not give up, a canonical
path resolves to itself, `realpath` returns link-free paths and those are its fixed points); what `wf` gives for every
entry. -/
namespace CbiVerif.FS
open CbiVerif.Path

variable {fs : FS}

theorem allFrom_append (fs : FS) (ok : Option Entry → Bool) :
    ∀ (a pre b : Comps), allFrom fs ok pre (a ++ b) = (allFrom fs ok pre a && allFrom fs ok (pre ++ a) b) := by
  intro a
  induction a with
  | nil => intro pre b; simp [allFrom]
  | cons x xs ih =>
    intro pre b
    simp only [List.cons_append, allFrom, ih]
    rw [show pre ++ [x] ++ xs = pre ++ x :: xs by simp]
    simp [Bool.and_assoc]

theorem allFrom_snoc (fs : FS) (ok : Option Entry → Bool) (s pre : Comps) (nm : String) :
    allFrom fs ok pre (s ++ [nm]) = (allFrom fs ok pre s && (nm != ".." && ok (lstat fs (pre ++ s ++ [nm])))) := by
  rw [allFrom_append]; simp [allFrom]

theorem allFrom_dropLast {ok : Option Entry → Bool} {pre s : Comps} (h : allFrom fs ok pre s = true) :
    allFrom fs ok pre s.dropLast = true := by
  rcases ListFacts.eq_nil_or_snoc s with rfl | ⟨t, x, rfl⟩
  · exact h
  · rw [List.dropLast_concat]; rw [allFrom_snoc, Bool.and_eq_true] at h; exact h.1

theorem allFrom_last (fs : FS) (ok : Option Entry → Bool) (s : Comps) (nm : String)
    (h : allFrom fs ok [] (s ++ [nm]) = true) : nm ≠ ".." ∧ ok (lstat fs (s ++ [nm])) = true := by
  rw [allFrom_snoc] at h; simp at h; exact h.2

theorem allFrom_mono (fs : FS) {ok ok' : Option Entry → Bool} (himp : ∀ e, ok e = true → ok' e = true) :
    ∀ (s pre : Comps), allFrom fs ok pre s = true → allFrom fs ok' pre s = true := by
  intro s
  induction s with
  | nil => intro pre _; rfl
  | cons x xs ih =>
    intro pre h
    simp only [allFrom, Bool.and_eq_true] at h ⊢
    exact ⟨⟨h.1.1, himp _ h.1.2⟩, ih _ h.2⟩

theorem isDirE_iff (x : Option Entry) : isDirE x = true ↔ x = some .dir := by
  cases x with
  | none => simp [isDirE]
  | some e => cases e <;> simp [isDirE]

theorem isFileE_iff (x : Option Entry) : isFileE x = true ↔ x = some .file := by
  cases x with
  | none => simp [isFileE]
  | some e => cases e <;> simp [isFileE]

theorem notLinkE_iff (x : Option Entry) : notLinkE x = true ↔ ∀ t, x ≠ some (.link t) := by
  cases x with
  | none => simp [notLinkE]
  | some e => cases e <;> simp [notLinkE]

theorem lstat_nil (fs : FS) : lstat fs [] = some .dir := rfl

theorem dirPath_nil (fs : FS) : dirPath fs [] = true := rfl

theorem linkFree_nil (fs : FS) : linkFree fs [] = true := rfl

theorem canon_nil (fs : FS) : canon fs [] = true := rfl

theorem dirPath_snoc (fs : FS) (d : Comps) (nm : String) :
    dirPath fs (d ++ [nm]) = (dirPath fs d && (nm != ".." && isDirE (lstat fs (d ++ [nm])))) := by
  unfold dirPath; rw [allFrom_snoc]; rfl

theorem dirPath_isDir {c : Comps} (h : dirPath fs c = true) : isDirE (lstat fs c) = true := by
  rcases ListFacts.eq_nil_or_snoc c with rfl | ⟨d, nm, rfl⟩
  · rfl
  · rw [dirPath_snoc] at h; simp only [Bool.and_eq_true] at h; exact h.2.2

theorem linkFree_snoc (fs : FS) (d : Comps) (nm : String) :
    linkFree fs (d ++ [nm]) = (linkFree fs d && (nm != ".." && notLinkE (lstat fs (d ++ [nm])))) := by
  unfold linkFree; rw [allFrom_snoc]; rfl

theorem name_snoc (d : Comps) (nm : String) : name (d ++ [nm]) = nm := by
  simp [name]

theorem canon_snoc (fs : FS) (d : Comps) (nm : String) :
    canon fs (d ++ [nm]) =
      (dirPath fs d && (nm != ".." && (isDirE (lstat fs (d ++ [nm])) || isFileE (lstat fs (d ++ [nm]))))) := by
  have he : (d ++ [nm]).isEmpty = false := by cases d <;> rfl
  simp [canon, name_snoc, he]

theorem canon_iff (fs : FS) (c : Comps) :
    canon fs c = true ↔ c = [] ∨ ∃ d nm, c = d ++ [nm] ∧ dirPath fs d = true ∧ nm ≠ ".." ∧
      (lstat fs c = some .dir ∨ lstat fs c = some .file) := by
  rcases ListFacts.eq_nil_or_snoc c with rfl | ⟨d, nm, rfl⟩
  · simp [canon_nil]
  · simp only [canon_snoc, isDirE_iff, isFileE_iff, Bool.and_eq_true, Bool.or_eq_true, bne_iff_ne, ne_eq,
      List.append_eq_nil_iff, List.cons_ne_self, and_false, false_or]
    refine ⟨fun h => ⟨d, nm, rfl, h⟩, fun ⟨_, _, e, h⟩ => ?_⟩
    obtain ⟨rfl, e'⟩ := List.append_inj' e rfl
    cases e'; exact h

theorem canon_of_dirPath {c : Comps} (h : dirPath fs c = true) : canon fs c = true := by
  rcases ListFacts.eq_nil_or_snoc c with rfl | ⟨d, nm, rfl⟩
  · rfl
  · rw [dirPath_snoc] at h; simp only [Bool.and_eq_true] at h
    rw [canon_snoc]; simp [h.1, h.2.1, h.2.2]

theorem dirPath_linkFree {c : Comps} (h : dirPath fs c = true) : linkFree fs c = true := by
  refine allFrom_mono fs ?_ c [] h
  intro e he
  rw [(isDirE_iff _).mp he]; rfl

theorem canon_linkFree (fs : FS) (c : Comps) (h : canon fs c = true) : linkFree fs c = true := by
  rcases (canon_iff fs c).mp h with rfl | ⟨d, nm, rfl, hd, hnm, hk⟩
  · rfl
  · rw [linkFree_snoc, dirPath_linkFree hd, Bool.true_and, Bool.and_eq_true, bne_iff_ne]
    exact ⟨hnm, by rcases hk with hk | hk <;> rw [hk] <;> rfl⟩

theorem canon_cases {c : Comps} (h : canon fs c = true) :
    lstat fs c = some .dir ∨ lstat fs c = some .file := by
  rcases (canon_iff fs c).mp h with rfl | ⟨d, nm, rfl, _, _, hk⟩
  · exact Or.inl rfl
  · exact hk

theorem start_dirPath {cwd : Comps} (p : P) (h : dirPath fs cwd = true) : dirPath fs (start cwd p) = true := by
  unfold start; split
  · rfl
  · exact h

theorem start_linkFree {cwd : Comps} (p : P) (h : linkFree fs cwd = true) :
    linkFree fs (start cwd p) = true := by
  unfold start; split
  · rfl
  · exact h

/-! ## the OS walk and the `realpath` walk -/

/-- the two walks are the same recursion; they part only where the OS walk gives up on a missing component
or a non-directory -/
theorem realpath_of_namei {n : Nat} {cur rest : Comps} (h1 : namei fs n cur rest ≠ .enoent)
    (h2 : namei fs n cur rest ≠ .enotdir) :
    realpath fs n cur rest = namei fs n cur rest := by
  fun_induction namei fs n cur rest <;> simp_all [realpath]

theorem namei_realpath_ok {n : Nat} {cur rest c : Comps} (h : namei fs n cur rest = .ok c) :
    realpath fs n cur rest = .ok c := by
  rw [realpath_of_namei (by simp [h]) (by simp [h]), h]

theorem realpath_ok_or_loop (fs : FS) (n : Nat) (cur rest : Comps) :
    (∃ r, realpath fs n cur rest = .ok r) ∨ realpath fs n cur rest = .loop := by
  fun_induction realpath fs n cur rest <;> simp_all

theorem namei_nil {n : Nat} {cur c : Comps} (h : namei fs n cur [] = .ok c) : c = cur := by
  cases n <;> simp_all [namei]

theorem namei_canon {n : Nat} {cur rest c : Comps} (hd : dirPath fs cur = true)
    (h : namei fs n cur rest = .ok c) :
    canon fs c = true := by
  -- the cases follow the definition: no fuel, end of the path, `..`, nothing there, a file at the end, a file in the
  -- middle, a directory, a link
  fun_induction namei fs n cur rest with
  | case1 => cases h
  | case2 => cases h; exact canon_of_dirPath hd
  | case3 n cur rest ih => exact ih (allFrom_dropLast hd) h
  | case4 => cases h
  | case5 n cur nm hnm hl => rw [namei_nil h, canon_snoc]; simp [hd, hnm, hl, isFileE]
  | case6 => cases h
  | case7 n cur nm rest hnm hl ih => exact ih (by rw [dirPath_snoc]; simp [hd, hnm, hl, isDirE]) h
  | case8 n cur nm rest hnm t hl ih => exact ih (start_dirPath t hd) h

theorem namei_walk_dirs (fs : FS) : ∀ (a pre b : Comps) (n : Nat),
    allFrom fs isDirE pre a = true → namei fs (n + a.length) pre (a ++ b) = namei fs n (pre ++ a) b := by
  intro a
  induction a with
  | nil => intro pre b n _; simp
  | cons x xs ih =>
    intro pre b n h
    simp only [allFrom, Bool.and_eq_true, bne_iff_ne, ne_eq, isDirE_iff] at h
    rw [List.length_cons, ← Nat.add_assoc, List.cons_append, namei, if_neg h.1.1, h.1.2, ih _ _ _ h.2,
      List.append_assoc, List.singleton_append]

theorem namei_of_canon {c : Comps} {n : Nat} (hc : canon fs c = true) (hn : c.length + 2 ≤ n) :
    namei fs n [] c = .ok c := by
  rcases (canon_iff fs c).mp hc with rfl | ⟨d, nm, rfl, hd, hnm, hk⟩
  · obtain ⟨k, rfl⟩ : ∃ k, n = k + 1 := ⟨n - 1, by simp at hn; omega⟩
    rfl
  · obtain ⟨k, rfl⟩ : ∃ k, n = (k + 2) + d.length := ⟨n - d.length - 2, by simp at hn; omega⟩
    rw [namei_walk_dirs fs d [] [nm] (k + 2) hd, List.nil_append, namei, if_neg hnm]
    rcases hk with hk | hk <;> rw [hk] <;> rfl

/-- a walk that meets no link and no `..` ends where it is spelled, if there is a unit of fuel for every component and
one for the end -/
theorem realpath_eq_of_allFrom {n : Nat} {pre a : Comps} (hall : allFrom fs notLinkE pre a = true) :
    realpath fs n pre a = if a.length + 1 ≤ n then .ok (pre ++ a) else .loop := by
  fun_induction realpath fs n pre a with
  | case1 => simp
  | case2 => simp
  | case3 => simp [allFrom] at hall
  | case4 n cur nm rest hnm t hl ih => simp [allFrom, hl, notLinkE] at hall
  | case5 n cur nm rest hnm hl ih =>
    rw [allFrom, Bool.and_eq_true] at hall
    simpa using ih hall.2

theorem realpath_of_linkFree {r : Comps} {n : Nat} (hr : linkFree fs r = true) (hn : r.length + 1 ≤ n) :
    realpath fs n [] r = .ok r := by
  rw [realpath_eq_of_allFrom hr, if_pos hn]; rfl

theorem namei_linkFree_id {a pre c : Comps} {n : Nat} (hall : allFrom fs notLinkE pre a = true)
    (h : namei fs n pre a = .ok c) :
    c = pre ++ a := by
  have := namei_realpath_ok h
  rw [realpath_eq_of_allFrom hall] at this
  split at this
  · exact (Res.ok.inj this).symm
  · cases this

theorem realpath_linkFree {n : Nat} {cur rest r : Comps} (hd : linkFree fs cur = true)
    (h : realpath fs n cur rest = .ok r) :
    linkFree fs r = true := by
  -- no fuel, end of the path, `..`, a link, anything else
  fun_induction realpath fs n cur rest with
  | case1 => cases h
  | case2 => cases h; exact hd
  | case3 n cur rest ih => exact ih (allFrom_dropLast hd) h
  | case4 n cur nm rest hnm t hl ih => exact ih (start_linkFree t hd) h
  | case5 n cur nm rest hnm hl ih =>
    refine ih ?_ h
    rw [linkFree_snoc, hd, Bool.true_and, Bool.and_eq_true, bne_iff_ne]
    exact ⟨hnm, (notLinkE_iff _).mpr fun t ht => hl t ht⟩

/-- every component of the result costs a unit of fuel, and so does the end of the path -/
theorem realpath_length {n : Nat} {cur rest r : Comps} (h : realpath fs n cur rest = .ok r) :
    r.length + 1 ≤ cur.length + n := by
  fun_induction realpath fs n cur rest with
  | case1 => cases h
  | case2 => cases h; omega
  | case3 n cur rest ih => have := ih h; rw [List.length_dropLast] at this; omega
  | case4 n cur nm rest hnm t hl ih =>
    have := ih h
    have : (start cur t).length ≤ cur.length := by unfold start; split <;> simp
    omega
  | case5 n cur nm rest hnm hl ih => have := ih h; rw [List.length_append] at this; simp at this; omega

/-! ## well-formed file systems -/

theorem lookup_some_mem (fs : FS) (c : Comps) (e : Entry) (h : fs.lookup c = some e) : (c, e) ∈ fs := by
  obtain ⟨l₁, l₂, rfl, _⟩ := List.lookup_eq_some_iff.mp h
  simp

theorem lstat_mem (fs : FS) (c : Comps) (e : Entry) (hc : c ≠ []) (h : lstat fs c = some e) : (c, e) ∈ fs :=
  lookup_some_mem fs c e (by rwa [lstat, if_neg hc] at h)

theorem mem_keys_iff (fs : FS) {c : Comps} (hc : c ≠ []) : c ∈ keys fs ↔ ∃ e, lstat fs c = some e := by
  rw [lstat, if_neg hc, ← Option.isSome_iff_exists, List.lookup_isSome_iff, keys, List.mem_map]
  exact ⟨fun ⟨p, hp, e⟩ => ⟨p, hp, by simp [e]⟩, fun ⟨p, hp, e⟩ => ⟨p, hp, (eq_of_beq e).symm⟩⟩

theorem lstat_mem_keys {c : Comps} {e : Entry} (hc : c ≠ []) (h : lstat fs c = some e) : c ∈ keys fs :=
  (mem_keys_iff fs hc).mpr ⟨e, h⟩

theorem file_mem_keys {c : Comps} (h : lstat fs c = some .file) : c ∈ keys fs :=
  lstat_mem_keys (fun hE => by subst hE; cases h) h

theorem wf_key (hwf : wf fs = true) {c : Comps} (hc : c ∈ keys fs) :
    c ≠ [] ∧ ".." ∉ c ∧ lstat fs c.dropLast = some .dir := by
  obtain ⟨⟨k, e⟩, hm, rfl⟩ := List.mem_map.mp hc
  simp only [wf, Bool.and_eq_true, List.all_eq_true] at hwf
  simpa [isDirE_iff, and_assoc] using hwf.2 (k, e) hm

theorem wf_keys_nodup (hwf : wf fs = true) : (keys fs).Nodup := by
  simp only [wf, Bool.and_eq_true, decide_eq_true_eq] at hwf
  exact hwf.1

/-- in a well-formed file system a stored directory is reached through real directories -/
theorem wf_dirPath (hwf : wf fs = true) {c : Comps} (h : lstat fs c = some .dir) : dirPath fs c = true := by
  induction hk : c.length generalizing c with
  | zero => rw [List.eq_nil_of_length_eq_zero hk]; rfl
  | succ k ih =>
    obtain ⟨d, nm, rfl⟩ := (ListFacts.eq_nil_or_snoc c).resolve_left fun e => by simp [e] at hk
    obtain ⟨_, hdd, hpar⟩ := wf_key hwf (lstat_mem_keys (by simp) h)
    rw [List.dropLast_concat] at hpar
    rw [dirPath_snoc, ih hpar (by simpa using hk), h]
    simpa [isDirE] using fun hE : nm = ".." => hdd (by simp [hE])

theorem wf_parent_dirPath (hwf : wf fs = true) {c : Comps} (hc : c ∈ keys fs) :
    dirPath fs c.dropLast = true ∧ name c ≠ ".." := by
  obtain ⟨hne, hdd, hpar⟩ := wf_key hwf hc
  refine ⟨wf_dirPath hwf hpar, fun hE => hdd ?_⟩
  rw [← hE, name, List.getLast?_eq_some_getLast hne, Option.getD_some]
  exact List.getLast_mem hne

theorem wf_canon (hwf : wf fs = true) {c : Comps} (h : lstat fs c = some .dir ∨ lstat fs c = some .file) :
    canon fs c = true := by
  by_cases hc : c = []
  · subst hc; rfl
  · obtain ⟨e, he⟩ : ∃ e, lstat fs c = some e := by rcases h with h | h <;> exact ⟨_, h⟩
    obtain ⟨hp, hnm⟩ := wf_parent_dirPath hwf (lstat_mem_keys hc he)
    simpa [canon, hp, hc, hnm, isDirE_iff, isFileE_iff] using h

end CbiVerif.FS
