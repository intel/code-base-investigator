import CbiVerif.Model.LexLayout
import CbiVerif.Model.Climb
/-!
# The lexer reads every admissible layout of a token list back as that list (C02)

Any run of white-space characters before the first and after every token, and NO white space between two tokens that are
`separable`: `tokenize (layout w ts) = flagged w ts` for every list of tokens of the classes `lexOK` and every admissible `w`
(`tokenize_layout`); one blank around every token (`LexRT.tokenize_text`) is the layout `blanks`.  What comes after a token
enters every lemma as a condition on the first character of the rest of the text, if there is one (`∀ c ∈ rest.head?, …`):
for one token (`tokenizeOne_gen`; class by class, on character lists: `tokenizeOne_num` … `tokenizeOne_punct`) that this
character `follows` it.  The round trip is the induction along `gapsOK` over the two rounds of `tokenize` that a layout
meets (`go_end`, `go_token`).  The facts about the regenerated tables are closed by
evaluation.  Core Lean only.
-/
namespace CbiVerif.LexLayout
open CbiVerif.PP CbiVerif.LexRT CbiVerif.Climb

/-! ## facts about the regenerated tables -/

theorem ops_chars : (operators.all fun l => l.toList.all fun c =>
    !isWs c && !identChar c && c != '\'' && c != '(' && c != ')') = true := by decide +kernel
theorem puncts_no_ws : (punctuators.all fun l => l.toList.all fun c => !isWs c) = true := by decide +kernel
theorem puncts_short : (punctuators.all fun l => decide (l.toList.length ≤ 1)) = true := by decide +kernel

theorem not_mem_of_all {p : Char → Bool} {lits : List String} (hl : (lits.all fun l => l.toList.all p) = true)
    {c : Char} (h : p c = false) : ∀ l ∈ lits, c ∉ l.toList := fun l hm hc =>
  Bool.false_ne_true (h ▸ List.all_eq_true.mp (List.all_eq_true.mp hl l hm) c hc)

theorem find?_congr {α : Type} {p q : α → Bool} : ∀ {l : List α}, (∀ x ∈ l, p x = q x) → l.find? p = l.find? q
  | [], _ => rfl
  | a :: l, h => by
    rw [List.find?_cons, List.find?_cons, h a (List.mem_cons_self ..), find?_congr fun x hx => h x (List.mem_cons_of_mem _ hx)]

/-- `opOK` / `punctOK` say what `match_any` finds when a blank comes after the spelling `o`; it finds the same before
    every character with which no spelling of the list continues `o` -/
theorem matchAny_gen (lits : List String) (o rest : List Char)
    (hb : ∀ l ∈ lits, ' ' ∉ l.toList)
    (hr : ∀ c ∈ rest.head?, noExt lits o c = true) :
    matchAny (o ++ rest) lits = matchAny (o ++ [' ']) lits := by
  -- before a blank and before `rest`, a spelling `l` is found exactly when it is a prefix of `o`
  refine find?_congr fun l hl => ?_
  have hsp : (o ++ [' ']).isPrefixOf l.toList = false :=
    Bool.eq_false_iff.mpr fun hh => hb l hl (ListFacts.mem_of_snoc_isPrefixOf o _ ' ' hh)
  rw [startsWithL, startsWithL, ListFacts.isPrefixOf_append_cons _ _ _ [] hsp]
  cases rest with
  | nil => rw [List.append_nil]
  | cons c r =>
    have hc := List.all_eq_true.mp (hr c rfl) l hl
    exact ListFacts.isPrefixOf_append_cons _ _ _ _ (by simpa using hc)
/-! ## when no spelling of a list continues `o` with `c` -/

theorem noExt_of (lits : List String) (o : List Char) (c : Char)
    (h : ∀ l ∈ lits, ¬ (o ++ [c]).isPrefixOf l.toList = true) : noExt lits o c = true := by
  unfold noExt
  rw [List.all_eq_true]
  intro l hl
  rw [Bool.not_eq_eq_eq_not, Bool.not_true]
  exact Bool.eq_false_iff.mpr (h l hl)

theorem noExt_of_not_mem (lits : List String) (o : List Char) (c : Char)
    (h : ∀ l ∈ lits, c ∉ l.toList) : noExt lits o c = true :=
  noExt_of lits o c fun l hl hh => h l hl (ListFacts.mem_of_snoc_isPrefixOf o _ c hh)

/-- a spelling longer than every entry of the list is continued by none -/
theorem noExt_short (lits : List String) (h : (lits.all fun l => decide (l.toList.length ≤ 1)) = true)
    (a : Char) (s : List Char) (c : Char) : noExt lits (a :: s) c = true :=
  noExt_of lits _ c fun l hl hh => by
    have hlen := of_decide_eq_true ((List.all_eq_true.mp h) l hl)
    have := (List.isPrefixOf_iff_prefix.mp hh).length_le
    simp at this; omega

theorem noExt_of_head_not_mem (lits : List String) (a : Char) (s : List Char) (c : Char)
    (h : ∀ l ∈ lits, a ∉ l.toList) : noExt lits (a :: s) c = true :=
  noExt_of lits _ c fun l hl hh => h l hl ((List.isPrefixOf_iff_prefix.mp hh).subset (List.mem_cons_self ..))

/-- a one-character spelling that starts no longer entry of the list is continued by none -/
theorem noExt_single (lits : List String) (a : Char)
    (h : (lits.all fun l => match l.toList with | x :: _ :: _ => x != a | _ => true) = true) (c : Char) :
    noExt lits [a] c = true :=
  noExt_of lits [a] c fun l hl hh => by
    have := List.all_eq_true.mp h l hl
    obtain ⟨r, e⟩ := List.isPrefixOf_iff_prefix.mp hh
    rw [← e] at this; simp at this

/-! ## white space may follow every token -/

theorem ws_cases (c : Char) (h : isWs c = true) : c = ' ' ∨ c = '\t' ∨ c = '\n' ∨ c = '\r' := by
  simpa only [isWs, Bool.or_eq_true, beq_iff_eq, or_assoc] using h

theorem ws_facts (c : Char) (h : isWs c = true) :
    wordChar c = false ∧ identChar c = false ∧ c ≠ '.' ∧ ¬ (c = '+' ∨ c = '-') := by
  rcases ws_cases c h with rfl | rfl | rfl | rfl <;> decide

theorem exp_none (x c : Char) (h : ¬ (c = '+' ∨ c = '-')) : exponents.contains (String.ofList [x, c]) = false := by
  cases hh : exponents.contains (String.ofList [x, c])
  · rfl
  · exact absurd (exp_contains _ _ hh).2 h

/-- a character of no word, number, exponent or operator spelling may follow every token (after a punctuator: provided
    no punctuator spelling continues with it) -/
theorem follows_of (t : Tok) (c : Char) (ht : lexOK t = true)
    (hc : wordChar c = false ∧ identChar c = false ∧ c ≠ '.' ∧ ¬ (c = '+' ∨ c = '-')) (ho : ∀ l ∈ operators, c ∉ l.toList)
    (hp : ∀ a s, noExt punctuators (a :: s) c = true) : follows t c = true := by
  obtain ⟨h1, h2, h3, h4⟩ := hc
  rcases lexOK_cases t ht with ⟨hk, h⟩ | ⟨hk, h⟩ | ⟨hk, h⟩ | ⟨hk, h⟩ | ⟨hk, h⟩ <;> simp only [follows, hk]
  · rw [h1, exp_none _ c h4]; simp [h3]
  · simp [h2]
  · exact noExt_of_not_mem _ _ _ ho
  · obtain ⟨a, s, e, _⟩ := punctOK_inv h
    rw [Bool.and_eq_true, e]; exact ⟨noExt_of_not_mem _ _ _ ho, hp a s⟩

theorem follows_ws (t : Tok) (c : Char) (ht : lexOK t = true) (h : isWs c = true) : follows t c = true :=
  follows_of t c ht (ws_facts c h) (not_mem_of_all ops_chars (by simp [h]))
    fun a s => noExt_of_not_mem _ _ _ (not_mem_of_all puncts_no_ws (by simp [h]))

/-! ## the candidates of `tokenize_one`, before a rest of the text whose first character may follow the token -/

theorem number_go_gen (w rest : List Char) (hw : w.all wordChar = true)
    (hr : ∀ c ∈ rest.head?, wordChar c = false ∧ c ≠ '.')
    (hl : ∀ x ∈ w.getLast?, ∀ c ∈ rest.head?, exponents.contains (String.ofList [x, c]) = false) :
    ∀ (fuel : Nat) (acc : List Char), w.length + 1 ≤ fuel →
      lexNumber.go fuel acc (w ++ rest) = (acc ++ w, rest) := by
  induction w with
  | nil =>
    intro fuel acc hf
    match fuel, hf with
    | f + 1, _ => rw [List.nil_append, List.append_nil]; exact number_go_stop f acc rest hr
  | cons x w ih =>
    intro fuel acc hf
    simp only [List.all_cons, Bool.and_eq_true] at hw
    -- inside the number the next character is a word character, hence no sign; at its end `hl` speaks
    have hn : ∀ c ∈ (w ++ rest).head?, exponents.contains (String.ofList [x, c]) = false := by
      cases w with
      | nil => exact hl x rfl
      | cons d w' =>
        intro c hc; cases hc
        simp only [List.all_cons, Bool.and_eq_true] at hw
        exact exp_none x d (wordChar_not_sign d hw.2.1)
    match fuel, hf with
    | f + 1, hf =>
      rw [List.cons_append, number_go_word f acc x _ hw.1 hn,
        ih hw.2 (fun y hy => hl y (by rw [List.getLast?_cons, Option.mem_def.mp hy]; rfl)) f _ (Nat.le_of_succ_le_succ hf),
        List.append_assoc]; rfl

theorem lexNumber_num_gen (d : Char) (w rest : List Char) (hd : isDigit d = true) (hw : w.all wordChar = true)
    (hr : ∀ c ∈ rest.head?, wordChar c = false ∧ c ≠ '.')
    (hl : ∀ x ∈ w.getLast?, ∀ c ∈ rest.head?, exponents.contains (String.ofList [x, c]) = false) :
    lexNumber (d :: (w ++ rest)) = some (d :: w, rest) := by
  have hdot : d ≠ '.' := by intro e; subst e; exact absurd hd (by decide)
  rw [lexNumber_eq d _ hdot]
  simp only [hd, ↓reduceIte]
  rw [number_go_gen w rest hw hr hl _ _ (by simp; omega)]
  rfl

theorem lexIdent_word_gen (c : Char) (w rest : List Char) (hd : isDigit c = false)
    (hc : identChar c = true) (hw : w.all identChar = true)
    (hr : ∀ a ∈ rest.head?, identChar a = false) :
    lexIdent (c :: (w ++ rest)) = some (c :: w, rest) := by
  unfold lexIdent
  have htw : ((c :: w) ++ rest).takeWhile (fun c => isAlnum c || c == '_') = c :: w :=
    ListFacts.takeWhile_append_stop identChar (c :: w) rest (by simp [hc, hw]) hr
  simp only [List.cons_append] at htw
  simp only [hd, Bool.false_eq_true, ↓reduceIte, htw, List.isEmpty_cons, List.length_cons]
  congr 2
  simp

/-! ## `tokenize_one` reads a spelling of each class back, before a first character of the rest that the class admits -/

theorem tokenizeOne_num (s rest : List Char) (pw : Bool) (h : numOK s = true)
    (hr : ∀ c ∈ rest.head?, (wordChar c = false ∧ c ≠ '.') ∧ exponents.contains (String.ofList [s.getLast?.getD '0', c]) = false) :
    tokenizeOne (s ++ rest) pw = some (⟨.num, String.ofList s, pw, true⟩, rest) := by
  obtain ⟨d, w, rfl, hd, _, hw⟩ := numOK_inv h
  unfold tokenizeOne
  simp only [List.cons_append, lexNumber_num_gen d w rest hd hw (fun c hc => (hr c hc).1)
    (fun x hx c hc => by have := (hr c hc).2; rwa [List.getLast?_cons, Option.mem_def.mp hx] at this)]

theorem tokenizeOne_chr (s rest : List Char) (pw : Bool) (h : chrOK s = true) :
    tokenizeOne ('\'' :: (s ++ '\'' :: rest)) pw = some (⟨.chr, String.ofList s, pw, true⟩, rest) := by
  have hc : lexChar ('\'' :: (s ++ '\'' :: rest)) = some (s, rest) := by
    unfold chrOK at h
    split at h
    · simp only [Bool.and_eq_true, bne_iff_ne, ne_eq] at h
      exact lexChar_plain _ rest h.1.1 h.1.2
    · exact lexChar_backslash _ _ rest h
    · exact absurd h Bool.false_ne_true
  unfold tokenizeOne
  simp only [lexNumber_none '\'' _ (by decide) (by decide), hc]

theorem tokenizeOne_ident (s rest : List Char) (pw : Bool) (h : identOK s = true)
    (hr : ∀ c ∈ rest.head?, identChar c = false) :
    tokenizeOne (s ++ rest) pw = some (⟨.ident, String.ofList s, pw, true⟩, rest) := by
  obtain ⟨c, w, rfl, ⟨h1, h2, h3, h4⟩, _, h6, h7⟩ := identOK_inv h
  unfold tokenizeOne
  simp only [List.cons_append, lexNumber_none c _ h1 h2, lexChar_none c _ h3, lexString_none c _ h4,
    lexIdent_word_gen c w rest h1 h6 h7 hr]

theorem tokenizeOne_op (s rest : List Char) (txt : String) (pw : Bool) (h : opOK s txt = true)
    (hr : ∀ c ∈ rest.head?, noExt operators s c = true) :
    tokenizeOne (s ++ rest) pw = some (⟨.op, txt, pw, true⟩, (s ++ rest).drop txt.length) := by
  obtain ⟨c, w, rfl, hs, hm⟩ := opOK_inv h
  obtain ⟨f1, f2, f3, f4⟩ := symStart_fails c (w ++ rest) hs
  have hm' := (matchAny_gen operators _ rest (not_mem_of_all ops_chars rfl) hr).trans hm
  unfold tokenizeOne
  simp only [List.cons_append] at hm' ⊢
  simp only [f1, f2, f3, f4, hm']

theorem tokenizeOne_punct (s rest : List Char) (txt : String) (pw : Bool) (h : punctOK s txt = true)
    (hr : ∀ c ∈ rest.head?, noExt operators s c = true ∧ noExt punctuators s c = true) :
    tokenizeOne (s ++ rest) pw = some (⟨.punct, txt, pw, true⟩, (s ++ rest).drop txt.length) := by
  obtain ⟨c, w, rfl, hs, hm0, hm⟩ := punctOK_inv h
  obtain ⟨f1, f2, f3, f4⟩ := symStart_fails c (w ++ rest) hs
  have hm0' := (matchAny_gen operators _ rest (not_mem_of_all ops_chars rfl) fun a ha => (hr a ha).1).trans hm0
  have hm' := (matchAny_gen punctuators _ rest (not_mem_of_all puncts_no_ws rfl) fun a ha => (hr a ha).2).trans hm
  unfold tokenizeOne
  simp only [List.cons_append] at hm0' hm' ⊢
  simp only [f1, f2, f3, f4, hm0', hm']

theorem tokenizeOne_gen (t : Tok) (rest : List Char) (pw : Bool) (h : lexOK t = true)
    (hr : ∀ c ∈ rest.head?, follows t c = true) :
    tokenizeOne (spellChars t ++ rest) pw = some (⟨t.kind, t.text, pw, true⟩, rest) := by
  have hdrop : (t.text.toList ++ rest).drop t.text.length = rest := by
    rw [← String.length_toList, List.drop_left]
  rcases lexOK_cases t h with ⟨hk, h⟩ | ⟨hk, h⟩ | ⟨hk, h⟩ | ⟨hk, h⟩ | ⟨hk, h⟩ <;>
    simp only [spellChars, follows, hk, Bool.and_eq_true, Bool.not_eq_eq_eq_not, Bool.not_true, bne_iff_ne, ne_eq] at hr ⊢
  · rw [tokenizeOne_num _ rest pw h hr, String.ofList_toList]
  · simp only [List.cons_append, List.append_assoc, List.nil_append, tokenizeOne_chr _ rest pw h, String.ofList_toList]
  · rw [tokenizeOne_ident _ rest pw h hr, String.ofList_toList]
  · rw [tokenizeOne_op _ rest _ pw h hr, hdrop]
  · rw [tokenizeOne_punct _ rest _ pw h hr, hdrop]

/-- after a token comes white space, or at once the next token, which is then `separable` from it -/
theorem follows_body (t : Tok) (g : List Char) (gs : List (List Char)) (ts : List Tok) (ht : lexOK t = true)
    (hg : g.all isWs = true) (hs : (match ts with | t2 :: _ => !g.isEmpty || separable t t2 | [] => true) = true) :
    ∀ c ∈ (g ++ body gs ts).head?, follows t c = true := by
  cases g with
  | cons a g' =>
    simp only [List.all_cons, Bool.and_eq_true] at hg
    intro c hc; cases hc
    exact follows_ws t a ht hg.1
  | nil =>
    fun_cases body gs ts
    case case1 g2 gs' t2 ts' =>
      simp only [List.isEmpty_nil, Bool.not_true, Bool.false_or, separable] at hs
      rw [List.nil_append]
      cases hsp : spellChars t2 with
      | nil => rw [hsp] at hs; exact absurd hs (by simp)
      | cons c r => rw [hsp] at hs; intro c' hc'; cases hc'; exact hs
    case case2 => intro c hc; cases hc

theorem body_head (gs : List (List Char)) (ts : List Tok) (h : ∀ t ∈ ts, lexOK t = true) (hg : gapsOK gs ts = true) :
    (ts = [] ∧ body gs ts = []) ∨ ∃ c r, body gs ts = c :: r ∧ isWs c = false := by
  fun_induction gapsOK gs ts
  case case1 => exact Or.inl ⟨rfl, rfl⟩
  case case2 g gs' t ts' _ =>
    obtain ⟨c, r, e, hc⟩ := spell_head t (h t (by simp))
    exact Or.inr ⟨c, r ++ (g ++ body gs' ts'), by simp [body, e], hc⟩
  case case3 => cases hg

/-! ## a round of `tokenize`: white space to the end of the text; white space, then a token that `tokenize_one` reads -/

theorem go_end (f : Nat) (lead : List Char) (pw : Bool) (acc : List Tok) (hl : lead.all isWs = true) :
    tokenize.go (f + 1) lead pw acc = acc := by
  have htw := ListFacts.takeWhile_append_stop isWs lead [] hl (fun _ h => nomatch h)
  rw [List.append_nil] at htw
  simp [tokenize.go, htw]

theorem go_token (f : Nat) (lead : List Char) (c : Char) (r rest : List Char) (pw : Bool) (acc : List Tok) (tok : Tok)
    (hl : lead.all isWs = true) (hc : isWs c = false) (h1 : tokenizeOne (c :: r) (pw || !lead.isEmpty) = some (tok, rest)) :
    tokenize.go (f + 1) (lead ++ c :: r) pw acc = tokenize.go f rest false (acc ++ [tok]) := by
  have htw := ListFacts.takeWhile_append_stop isWs lead (c :: r) hl (fun _ h => Option.some.inj h ▸ hc)
  simp only [tokenize.go, htw, List.drop_left, h1]

theorem go_layout (ts : List Tok) (h : ∀ t ∈ ts, lexOK t = true) :
    ∀ (gs : List (List Char)), gapsOK gs ts = true →
    ∀ (fuel : Nat) (pw : Bool) (acc : List Tok) (lead : List Char), lead.all isWs = true → ts.length + 1 ≤ fuel →
      tokenize.go fuel (lead ++ body gs ts) pw acc = acc ++ flag (pw || !lead.isEmpty) gs ts := by
  intro gs hg
  fun_induction gapsOK gs ts
  case case1 =>
    intro fuel pw acc lead hl hf
    match fuel, hf with
    | f + 1, _ => simp only [body, flag, List.append_nil, go_end f lead pw acc hl]
  case case2 g gs t ts ih =>
    intro fuel pw acc lead hl hf
    simp only [Bool.and_eq_true] at hg
    obtain ⟨⟨hgw, hsep⟩, hgs⟩ := hg
    have ht := h t (by simp)
    obtain ⟨c, r, e, hc⟩ := spell_head t ht
    -- the run `g` after the token is the leading white space of the next round
    have h1 := tokenizeOne_gen t (g ++ body gs ts) (pw || !lead.isEmpty) ht (follows_body t g gs ts ht hgw hsep)
    rw [e, List.cons_append] at h1
    match fuel, hf with
    | f + 1, hf =>
      simp only [body, flag, e, List.cons_append, go_token f lead c _ _ pw acc _ hl hc h1,
        ih (fun t' m => h t' (by simp [m])) hgs f false _ g hgw (by simp at hf; omega), List.append_assoc]
      rfl
  case case3 => cases hg

theorem body_length (gs : List (List Char)) (ts : List Tok) (h : ∀ t ∈ ts, lexOK t = true) (hg : gapsOK gs ts = true) :
    ts.length ≤ (body gs ts).length := by
  fun_induction gapsOK gs ts
  case case1 => exact Nat.le_refl _
  case case2 g gs t ts ih =>
    simp only [Bool.and_eq_true] at hg
    obtain ⟨c, r, e, _⟩ := spell_head t (h t (by simp))
    have := ih (fun t' m => h t' (by simp [m])) hg.2
    simp only [body, e, List.length_append, List.length_cons]
    omega
  case case3 => cases hg

theorem tokenize_layout (w : Layout) (ts : List Tok) (h : ∀ t ∈ ts, lexOK t = true) (hw : admissible w ts = true) :
    tokenize (layout w ts) = flagged w ts := by
  simp only [admissible, Bool.and_eq_true] at hw
  unfold tokenize layout flagged
  simp only [String.toList_ofList, String.length_ofList]
  rw [go_layout ts h w.gaps hw.2 _ false [] w.lead hw.1
    (by have := body_length w.gaps ts h hw.2; simp only [List.length_append]; omega)]
  simp

/-! ## what the layout cannot change: kinds and texts, `expandable` -/

theorem flag_key (p : Bool) (gs : List (List Char)) (ts : List Tok) (h : gapsOK gs ts = true) :
    (flag p gs ts).map (fun t => (t.kind, t.text)) = ts.map (fun t => (t.kind, t.text)) := by
  fun_induction gapsOK gs ts generalizing p
  case case1 => rfl
  case case2 g gs t ts ih =>
    simp only [Bool.and_eq_true] at h
    simp [flag, ih _ h.2]
  case case3 => cases h

theorem flagged_key (w : Layout) (ts : List Tok) (hw : admissible w ts = true) :
    (flagged w ts).map (fun t => (t.kind, t.text)) = ts.map (fun t => (t.kind, t.text)) :=
  flag_key _ _ _ (Bool.and_eq_true_iff.mp hw).2

theorem flag_expandable (p : Bool) (gs : List (List Char)) (ts : List Tok) : ∀ t ∈ flag p gs ts, t.expandable = true := by
  fun_induction flag p gs ts
  case case1 p g gs x ts ih =>
    intro t ht
    rcases List.mem_cons.mp ht with rfl | ht
    · rfl
    · exact ih t ht
  case case2 => exact fun t ht => nomatch ht

/-! ## one blank around every token (`LexRT.text`) is the layout `blanks` -/

theorem body_blanks (ts : List Tok) : body (List.replicate ts.length [' ']) ts = spacedAfter ts := by
  induction ts with
  | nil => rfl
  | cons t ts ih => simp [body, spacedAfter, List.replicate_succ, ih]

theorem flag_blanks (ts : List Tok) : flag true (List.replicate ts.length [' ']) ts = ts.map norm := by
  induction ts with
  | nil => rfl
  | cons t ts ih => simp [flag, List.replicate_succ, norm, ih]

theorem gapsOK_blanks (ts : List Tok) : gapsOK (List.replicate ts.length [' ']) ts = true := by
  induction ts with
  | nil => rfl
  | cons t ts ih =>
    simp only [List.length_cons, List.replicate_succ, gapsOK, ih, Bool.and_true]
    have : isWs ' ' = true := by decide
    cases ts <;> simp [this]

theorem blanks_admissible (ts : List Tok) : admissible (blanks ts.length) ts = true := by
  simp only [admissible, blanks, gapsOK_blanks, Bool.and_true]; decide

/-! ## the tightest layout (a blank only between two tokens that are not separable) is admissible -/

theorem gapsOK_tight : ∀ (ts : List Tok), gapsOK (tightGaps ts) ts = true
  | [] => rfl
  | [_] => rfl
  | t :: t2 :: ts => by
    have ih := gapsOK_tight (t2 :: ts)
    simp only [tightGaps, gapsOK, ih, Bool.and_true]
    by_cases hs : separable t t2 = true
    · simp [hs]
    · simp only [hs, Bool.false_eq_true, ↓reduceIte, Bool.or_false]; decide

theorem tight_admissible (ts : List Tok) : admissible (tight ts) ts = true := by
  simp [admissible, tight, gapsOK_tight]

/-! ## pairs that are always separable: a parenthesis next to anything, an operator before a word -/

theorem follows_paren (t : Tok) (c : Char) (ht : lexOK t = true) (hc : c = '(' ∨ c = ')') : follows t c = true :=
  follows_of t c ht (by rcases hc with rfl | rfl <;> decide)
    (not_mem_of_all ops_chars (by rcases hc with rfl | rfl <;> rfl)) fun a s => noExt_short _ puncts_short a s c

theorem paren_follows (c : Char) : follows lpTok c = true ∧ follows rpTok c = true := by
  constructor
  · show (noExt operators ['('] c && noExt punctuators ['('] c) = true
    rw [noExt_of_head_not_mem _ _ _ _ (not_mem_of_all ops_chars rfl), noExt_short _ puncts_short]; rfl
  · show (noExt operators [')'] c && noExt punctuators [')'] c) = true
    rw [noExt_of_head_not_mem _ _ _ _ (not_mem_of_all ops_chars rfl), noExt_short _ puncts_short]; rfl

theorem separable_paren (t : Tok) (ht : lexOK t = true) :
    separable lpTok t = true ∧ separable rpTok t = true ∧ separable t lpTok = true ∧ separable t rpTok = true := by
  obtain ⟨c, r, e, _⟩ := spell_head t ht
  refine ⟨?_, ?_, ?_, ?_⟩
  · simp only [separable, e]; exact (paren_follows c).1
  · simp only [separable, e]; exact (paren_follows c).2
  · exact follows_paren t '(' ht (Or.inl rfl)
  · exact follows_paren t ')' ht (Or.inr rfl)

/-- an operator may be followed directly by an identifier, a number or a character constant: no spelling of the regenerated
    operator list contains a letter, a digit, `_` or a quote (`ops_chars`) -/
theorem separable_op_word (o t : Tok) (ho : o.kind = .op) (ht : lexOK t = true)
    (hk : t.kind = .num ∨ t.kind = .ident ∨ t.kind = .chr) : separable o t = true := by
  obtain ⟨c, r, e, _⟩ := spell_head t ht
  suffices hc : identChar c = true ∨ c = '\'' by
    simp only [separable, e, follows, ho]; exact noExt_of_not_mem _ _ _ (not_mem_of_all ops_chars (by rcases hc with h | rfl <;> simp [*]))
  rcases lexOK_cases t ht with ⟨hk', h⟩ | ⟨hk', h⟩ | ⟨hk', h⟩ | ⟨hk', h⟩ | ⟨hk', h⟩ <;> simp only [spellChars, hk'] at e
  · obtain ⟨d, w, e', hd, _⟩ := numOK_inv h
    rw [e'] at e; cases e
    exact Or.inl (by unfold identChar isAlnum; unfold isDigit at hd; simp [Char.isAlphanum, hd])
  · cases e; exact Or.inr rfl
  · obtain ⟨d, w, e', _, _, hd, _⟩ := identOK_inv h
    rw [e'] at e; cases e; exact Or.inl hd
  · rw [hk'] at hk; simp at hk
  · rw [hk'] at hk; simp at hk

end CbiVerif.LexLayout

namespace CbiVerif.LexRT
open CbiVerif.PP CbiVerif.LexLayout

theorem tokenizeOne_ok (t : Tok) (rest : List Char) (pw : Bool) (h : lexOK t = true) :
    tokenizeOne (spellChars t ++ ' ' :: rest) pw = some (⟨t.kind, t.text, pw, true⟩, ' ' :: rest) :=
  tokenizeOne_gen t _ pw h fun _ hc => Option.some.inj hc ▸ follows_ws t ' ' h (by decide)

theorem tokenize_text (ts : List Tok) (h : ∀ t ∈ ts, lexOK t = true) :
    tokenize (text ts) = ts.map norm := by
  have := tokenize_layout (blanks ts.length) ts h (blanks_admissible ts)
  simp only [layout, flagged, blanks, body_blanks] at this
  exact this.trans (flag_blanks ts)

end CbiVerif.LexRT
