import CbiVerif.Lemmas.EvalLit
/-! C02 lemmas: `_character_value` (model `PP.characterValue`) on the spelling of every character constant of the
    specification (`CExpr.CharLit`: plain, simple escape, `\ooo`, `\xh…`) is the C value `cChar`. -/
namespace CbiVerif.EvalChar
open CbiVerif.PP CbiVerif.Eval CbiVerif.CExpr CbiVerif.EvalBridge

/-- the code's table of simple escapes is the standard's (6.4.4.4) -/
theorem simple_eq (c : Char) : simpleEscapeCode c = simpleEscape c := rfl

theorem simple_lt (c : Char) (n : Nat) (h : simpleEscape c = some n) : n < 128 := by
  unfold simpleEscape at h
  split at h <;> simp at h <;> omega

def octChar (d : Fin 8) : Char := Char.ofNat (48 + d.val)

theorem oct_facts : ∀ d : Fin 8, isOctDigit (octChar d) = true ∧ escDigit (octChar d) = d.val ∧
    simpleEscapeCode (octChar d) = none ∧ (octChar d == 'x') = false := by decide +kernel
theorem hex_facts : ∀ (v : Fin 16) (up : Bool), isHexDigit (Digit.char ⟨v, up⟩) = true ∧
    escDigit (Digit.char ⟨v, up⟩) = v.val := by decide +kernel

theorem escNumber_go {α : Type} (f : α → Char) (val : α → Nat) (h : ∀ a, escDigit (f a) = val a) (b : Nat)
    (ds : List α) (acc : Nat) :
    (ds.map f).foldl (fun n c => n * b + escDigit c) acc = ds.foldl (fun n d => n * b + val d) acc := by
  induction ds generalizing acc with
  | nil => rfl
  | cons d r ih => simp only [List.map_cons, List.foldl_cons, h]; exact ih _

theorem escNumber_oct (ds : List (Fin 8)) :
    escNumber 8 (ds.map octChar) = ds.foldl (fun acc d => acc * 8 + d.val) 0 :=
  escNumber_go octChar (fun d => d.val) (fun d => (oct_facts d).2.1) 8 ds 0
theorem escNumber_hex (ds : List Digit) :
    escNumber 16 (ds.map Digit.char) = ds.foldl (fun acc d => acc * 16 + d.val.val) 0 :=
  escNumber_go Digit.char (fun d => d.val.val) (fun d => by obtain ⟨v, u⟩ := d; exact (hex_facts v u).2) 16 ds 0

theorem all_oct (ds : List (Fin 8)) : (ds.map octChar).all isOctDigit = true := by
  induction ds with
  | nil => rfl
  | cons d r ih => simp [(oct_facts d).1, ih]
theorem all_hex (ds : List Digit) : (ds.map Digit.char).all isHexDigit = true := by
  induction ds with
  | nil => rfl
  | cons d r ih => obtain ⟨v, u⟩ := d; simp [(hex_facts v u).1, ih]

theorem chars_octal (ds : List (Fin 8)) : (CharLit.octal ds).chars = '\\' :: ds.map octChar := rfl

def signedChar (n : Nat) : Int := if n ≥ 128 then (n : Int) - 256 else (n : Int)

theorem escapeCode_simple {ch : Char} {n : Nat} (h : simpleEscape ch = some n) : escapeCode ch [] = some n := by
  simp only [escapeCode, List.isEmpty_nil, simple_eq, h, Option.isSome_some, Bool.and_self, if_true]

theorem escapeCode_octal (d : Fin 8) (r : List (Fin 8)) (h : r.length ≤ 2) :
    escapeCode (octChar d) (r.map octChar) = some ((d :: r).foldl (fun acc d => acc * 8 + d.val) 0) := by
  have hl : (r.map octChar).length ≤ 2 := by rw [List.length_map]; exact h
  simp only [escapeCode, (oct_facts d).2.2.1, Option.isSome_none, Bool.and_false, Bool.false_eq_true, if_false,
    (oct_facts d).1, hl, decide_true, all_oct, Bool.and_self, if_true, ← escNumber_oct (d :: r)]; rfl

theorem escapeCode_hex (ds : List Digit) (h : ds ≠ []) :
    escapeCode 'x' (ds.map Digit.char) = some (ds.foldl (fun acc d => acc * 16 + d.val.val) 0) := by
  have hne : (ds.map Digit.char).isEmpty = false := by cases ds with | nil => exact absurd rfl h | cons _ _ => rfl
  have hx : isOctDigit 'x' = false := by decide
  simp only [escapeCode, hne, Bool.false_and, Bool.false_eq_true, if_false, hx, beq_self_eq_true, Bool.not_false,
    all_hex, Bool.and_self, if_true, escNumber_hex]

theorem characterValue_escape {x : Char} {r : List Char} {n : Nat} (h : escapeCode x r = some n) (hn : n ≤ 255) :
    characterValue ('\\' :: x :: r) = .ok (signedChar n) := by
  simp only [characterValue, h, Nat.not_lt.mpr hn, if_false, signedChar]

theorem characterValue_code (c : CharLit) (n : Nat) (h : c.code = some n) :
    characterValue c.chars = .ok (signedChar n) ∧ n ≤ 255 := by
  cases c <;> simp only [CharLit.code, Option.ite_none_right_eq_some, Option.some.injEq, Bool.and_eq_true,
    decide_eq_true_eq] at h
  case plain ch =>
    obtain ⟨⟨⟨⟨_, h127⟩, _⟩, _⟩, rfl⟩ := h
    exact ⟨by simp only [CharLit.chars, characterValue, signedChar, if_neg (show ¬ ch.toNat ≥ 128 by omega)], by omega⟩
  case simple ch =>
    have hlt := simple_lt ch n h
    exact ⟨characterValue_escape (escapeCode_simple h) (by omega), by omega⟩
  case octal ds =>
    obtain ⟨⟨⟨h1, h3⟩, h255⟩, rfl⟩ := h
    match ds, h1, h3, h255 with
    | d :: r, _, h3, h255 =>
      exact ⟨characterValue_escape (escapeCode_octal d r (Nat.le_of_succ_le_succ h3)) h255, h255⟩
  case hex ds =>
    obtain ⟨⟨h1, h255⟩, rfl⟩ := h
    exact ⟨characterValue_escape (escapeCode_hex ds (by rintro rfl; cases h1)) h255, h255⟩

theorem mval_signedChar (n : Nat) (h : n ≤ 255) :
    mval ⟨false, BitVec.ofInt 64 (signedChar n)⟩ = ⟨false, signedChar n⟩ := by
  refine congrArg (Eval.Val.mk false) ((BitVec.toInt_ofInt ..).trans (Int.bmod_eq_of_le_mul_two ?_ ?_)) <;>
    simp only [signedChar] <;> split <;> omega

/-- every character constant that has a C value: `term()` computes exactly that value (type `int`: signed) -/
theorem chr_spec (c : CharLit) (v : CExpr.Val) (h : cChar c = some v) :
    characterValue c.chars = .ok (mval v).v ∧ chrVal c = mval v := by
  simp only [cChar, Option.map_eq_some_iff] at h
  obtain ⟨n, hn, rfl⟩ := h
  obtain ⟨hv, h255⟩ := characterValue_code c n hn
  have hm := mval_signedChar n h255
  simp only [signedChar] at hm hv
  rw [hm]
  exact ⟨hv, by simp only [chrVal, hv]⟩

/-- the signedness of the leaf's value is `int`, whatever the constant -/
theorem chrVal_unsigned (c : CharLit) : (chrVal c).unsigned = false := by
  unfold chrVal
  cases characterValue c.chars <;> rfl

end CbiVerif.EvalChar
