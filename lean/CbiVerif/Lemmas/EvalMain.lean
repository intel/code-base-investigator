import CbiVerif.Lemmas.EvalLit
import CbiVerif.Lemmas.EvalChar
import CbiVerif.Lemmas.EvalArith
import CbiVerif.Lemmas.ClimbProof
/-! C02: composition — parse trees of the specification as trees of the generic climbing definition
    (well-formedness w.r.t. the GENERATED table, values, rendering), eager model value = machine value of the tree
    (`wEval`) = lazy C value where C defines one. -/
namespace CbiVerif.EvalMain
open CbiVerif.PP CbiVerif.Climb CbiVerif.CExpr CbiVerif.Eval CbiVerif.EvalBridge CbiVerif.EvalArith CbiVerif.EvalLit CbiVerif.EvalChar

/-! ### the generated table -/

theorem binInfo_sym (op : BinOp) : binInfo op.sym = some (op.prec, false) := by cases op <;> decide +kernel
theorem unPrec_sym (op : UnOp) : unPrec op.sym = some 12 := by cases op <;> decide
theorem sym_ne_quest (op : BinOp) : op.sym ≠ "?" := by cases op <;> decide
theorem binInfo_marks : binInfo "?" = some (1, true) ∧ binInfo ":" = none ∧ binInfo ")" = none := by decide

theorem binInfo_range (s : String) (p : Nat) (ra : Bool) (h : binInfo s = some (p, ra)) : 1 ≤ p ∧ p ≤ 11 := by
  have hall : (Gen.binaryOps.all fun r => decide (1 ≤ r.2.1) && decide (r.2.1 ≤ 11)) = true := by decide
  simp only [binInfo, Option.map_eq_some_iff] at h
  obtain ⟨e, he, h2⟩ := h
  have hm := List.mem_of_find?_eq_some he
  rw [List.all_eq_true] at hall
  have := hall e hm
  simp only [Bool.and_eq_true, decide_eq_true_eq] at this
  rw [h2] at this
  exact this

theorem ops_un (n : Nat) : (opsN n).un = applyUnary := by cases n <;> rfl
theorem ops_bin (n : Nat) : (opsN n).bin = applyBinary := by cases n <;> rfl
theorem ops_tern (n : Nat) : (opsN n).tern = applyTernary := by cases n <;> rfl
theorem ops_unPrec (n : Nat) : (opsN n).unPrec = unPrec := by cases n <;> rfl
theorem ops_binInfo (n : Nat) : (opsN n).binInfo = binInfo := by cases n <;> rfl
theorem ops_leaf (n : Nat) : ∃ args, (opsN n).leaf = leafWith args := by
  cases n with
  | zero => exact ⟨fun _ => .error (.other 0), rfl⟩
  | succ n => exact ⟨argList fun ts => expr (opsN n) (3 * ts.length + 4) 0 ts, rfl⟩

/-- the generated table satisfies the side conditions of the climbing theorem -/
theorem tableOK (n : Nat) : TableOK (opsN n) where
  range := by rw [ops_binInfo]; exact binInfo_range
  colon := by rw [ops_binInfo]; exact binInfo_marks.2.1
  rparen := by rw [ops_binInfo]; exact binInfo_marks.2.2
  quest := by rw [ops_binInfo]; exact binInfo_marks.1

def lit1 : Lit := ⟨.dec, false, [⟨1, false⟩], ⟨.none, .none, false⟩⟩
def lit0 : Lit := ⟨.oct, false, [], ⟨.none, .none, false⟩⟩
theorem literal_one : Eval.literal "1" = .ok ⟨false, 1⟩ := by
  have h := literal_model lit1 (by decide)
  have hs : lit1.spell = "1" := by decide
  rw [hs] at h; rw [h]
  simp [lit1, Lit.value, Suffix.isUnsigned, two63, Base.radix]
theorem literal_zero : Eval.literal "0" = .ok ⟨false, 0⟩ := by
  have h := literal_model lit0 (by decide)
  have hs : lit0.spell = "0" := by decide
  rw [hs] at h; rw [h]
  simp [lit0, Lit.value, Suffix.isUnsigned, two63]

theorem leaf_num (args) (s : String) (v : Eval.Val) (rest : List Tok) (h : Eval.literal s = .ok v) :
    leafWith args (numTok s :: rest) = .ok (v, rest) := by
  simp [leafWith, numTok, h]

theorem leaf_chr (args) (cs : List Char) (n : Int) (rest : List Tok) (h : characterValue cs = .ok n) :
    leafWith args (chrTok (String.ofList cs) :: rest) = .ok (⟨false, n⟩, rest) := by
  simp [leafWith, chrTok, String.toList_ofList, h]

theorem leaf_ident (args) (n : String) (rest : List Tok) (h : noLP rest) :
    leafWith args (identTok n :: rest) = .ok (Eval.zero, rest) := by
  cases rest with
  | nil => simp [leafWith, identTok]
  | cons p r =>
    simp only [noLP] at h
    simp [leafWith, identTok, h]

/-- constants are legal, have a C value, and are outside the recorded class D8 -/
def leavesOK (a : CExpr.Ast) : Prop :=
  a.constsOK = true ∧ usesBigUnsuffixed a = false

theorem leavesOK_lit {l : Lit} (h : leavesOK (.lit l)) :
    l.valid = true ∧ (cLiteral l).isSome = true ∧ bigUnsuffixed l = false := by
  obtain ⟨hc, hk⟩ := h
  simp only [Ast.constsOK, Bool.and_eq_true] at hc
  exact ⟨hc.1, hc.2, hk⟩
theorem leavesOK_bin {op l r} (h : leavesOK (.bin op l r)) : leavesOK l ∧ leavesOK r := by
  obtain ⟨hc, hk2⟩ := h
  simp only [Ast.constsOK, Bool.and_eq_true] at hc
  simp only [usesBigUnsuffixed, Bool.or_eq_false_iff] at hk2
  exact ⟨⟨hc.1, hk2.1⟩, ⟨hc.2, hk2.2⟩⟩
theorem leavesOK_tern {c t e} (h : leavesOK (.tern c t e)) : leavesOK c ∧ leavesOK t ∧ leavesOK e := by
  obtain ⟨hc, hk2⟩ := h
  simp only [Ast.constsOK, Bool.and_eq_true] at hc
  simp only [usesBigUnsuffixed, Bool.or_eq_false_iff] at hk2
  exact ⟨⟨hc.1.1, hk2.1.1⟩, ⟨hc.1.2, hk2.1.2⟩, ⟨hc.2, hk2.2⟩⟩

theorem litVal_spec (l : Lit) (hv : l.valid = true) (v : CExpr.Val) (hc : cLiteral l = some v)
    (hk : bigUnsuffixed l = false) : Eval.literal l.spell = .ok (litVal l) ∧ litVal l = mval v := by
  have h := literal_value l hv v hc hk
  simp [litVal, h]

theorem toClimb_level (env : Env) (a : CExpr.Ast) : (toClimb env a).level = a.level := by
  cases a <;> rfl
theorem toClimb_rbound (env : Env) (a : CExpr.Ast) (h : 2 ≤ a.level) : (toClimb env a).rbound = a.level := by
  rw [rbound_eq _ (by rw [toClimb_level]; exact h), toClimb_level]
theorem prec_ge_two (op : BinOp) : 2 ≤ op.prec := by cases op <;> decide

theorem wf_leaf (n : Nat) {t : Tok} {v : Eval.Val} (hk : t.kind ≠ .op) (hp : isPunct t "(" = false)
    (h : ∀ args rest, noLP rest → leafWith args (t :: rest) = .ok (v, rest)) : (Climb.Ast.leaf [t] v).WF (opsN n) :=
  let ⟨args, hargs⟩ := ops_leaf n
  ⟨⟨t, [], rfl, hk, hp⟩, fun rest hr => hargs ▸ h args rest hr⟩

/-- a grammatical tree with legal constants outside D8 is well-formed for the climbing parser
    driven by the generated table -/
theorem toClimb_wf (env : Env) (n : Nat) (a : CExpr.Ast) (hg : a.grammatical = true) (hl : leavesOK a) :
    (toClimb env a).WF (opsN n) := by
  induction a with
  | lit l =>
    obtain ⟨hv, hc, hk⟩ := leavesOK_lit hl
    obtain ⟨v, hcv⟩ := Option.isSome_iff_exists.mp hc
    exact wf_leaf n nofun rfl fun args rest _ => leaf_num args _ _ rest (litVal_spec l hv v hcv hk).1
  | chr c =>
    obtain ⟨v, hcv⟩ := Option.isSome_iff_exists.mp hl.1
    have hval := (chr_spec c v hcv).1
    rw [toClimb, show chrVal c = ⟨false, (mval v).v⟩ by simp only [chrVal, hval]]
    exact wf_leaf n nofun rfl fun args rest _ => leaf_chr args c.chars _ rest hval
  | ident nm => exact wf_leaf n nofun rfl fun args rest hr => leaf_ident args nm rest hr
  | defd nm p =>
    rw [toClimb, definedTok]
    cases env nm
    · exact wf_leaf n nofun rfl fun args rest _ => leaf_num args "0" _ rest literal_zero
    · exact wf_leaf n nofun rfl fun args rest _ => leaf_num args "1" _ rest literal_one
  | paren a ih =>
    exact ih hg ⟨hl.1, hl.2⟩
  | un op a ih =>
    simp only [Ast.grammatical, Bool.and_eq_true, decide_eq_true_eq] at hg
    refine ⟨by rw [ops_unPrec]; exact unPrec_sym op, ih hg.1 ⟨hl.1, hl.2⟩, by rw [toClimb_level]; exact hg.2⟩
  | bin op l r ihl ihr =>
    simp only [Ast.grammatical, Bool.and_eq_true, decide_eq_true_eq] at hg
    obtain ⟨⟨⟨hgl, hgr⟩, hll⟩, hlr⟩ := hg
    obtain ⟨h1, h2⟩ := leavesOK_bin hl
    have hp := prec_ge_two op
    refine ⟨by rw [ops_binInfo]; exact binInfo_sym op, sym_ne_quest op, ihl hgl h1, ihr hgr h2,
      by rw [toClimb_level]; exact hll, by rw [toClimb_level]; exact hlr, ?_⟩
    rw [toClimb_rbound env l (by omega)]; exact hll
  | tern c t e ihc iht ihe =>
    simp only [Ast.grammatical, Bool.and_eq_true, decide_eq_true_eq] at hg
    obtain ⟨⟨⟨hgc, hgt⟩, hge⟩, hlc⟩ := hg
    obtain ⟨h1, h2, h3⟩ := leavesOK_tern hl
    refine ⟨ihc hgc h1, iht hgt h2, ihe hge h3,
      by rw [toClimb_level]; exact hlc, ?_⟩
    rw [toClimb_rbound env c hlc]; omega

theorem meval_lit (env) (l) : meval env (.lit l) = litVal l := by simp only [meval, toClimb, Climb.Ast.eval]
theorem meval_paren (env) (a) : meval env (.paren a) = meval env a := rfl
theorem meval_un (env) (op) (a) : meval env (.un op a) = applyUnary op.sym (meval env a) := rfl
theorem meval_bin (env) (op) (l r) : meval env (.bin op l r) = applyBinary op.sym (meval env l) (meval env r) := rfl
theorem meval_tern (env) (c t e) : meval env (.tern c t e) = applyTernary (meval env c) (meval env t) (meval env e) := rfl

/-! ### the value of a tree as the machine computes it

`wEval` evaluates every operand and every operation (`EvalArith.wBin`, `wUn`: total).  The evaluator computes it on every tree
with legal constants (`meval_wEval`), its signedness is the static C type (`wEval_utype`), and where C defines a value, in
the evaluated positions only, that value is `wEval` (`cEval_wEval`): a dead operand enters `&&`, `||` through a factor
`false &&`, `true ||` and `?:` through its type. -/

def wEval (env : Env) : CExpr.Ast → CExpr.Val
  | .lit l => (cLiteral l).getD default
  | .chr c => (cChar c).getD default
  | .ident _ => ⟨false, 0#64⟩
  | .defd n _ => .ofBool (env n)
  | .paren a => wEval env a
  | .un op a => wUn op (wEval env a)
  | .bin op l r => wBin op (wEval env l) (wEval env r)
  | .tern c t e => ⟨(wEval env t).unsigned || (wEval env e).unsigned,
      if (wEval env c).bits != 0#64 then (wEval env t).bits else (wEval env e).bits⟩

theorem wEval_utype (env : Env) (a : CExpr.Ast) : (wEval env a).unsigned = a.utype := by
  induction a with
  | lit l =>
    show ((cLiteral l).getD default).unsigned = match cLiteral l with | some v => v.unsigned | none => false
    cases cLiteral l <;> rfl
  | chr c => show CExpr.Val.unsigned ((c.code.map _).getD default) = false; cases c.code <;> rfl
  | ident nm => rfl
  | defd nm p => rfl
  | paren a ih => exact ih
  | un op a ih => exact (wUn_unsigned op _).trans (ih ▸ by cases op <;> rfl)
  | bin op l r ihl ihr => exact (wBin_unsigned op _ _).trans (ihl ▸ ihr ▸ by cases op <;> rfl)
  | tern c t e _ iht ihe => exact congr (congrArg or iht) ihe

theorem meval_wEval (env : Env) (a : CExpr.Ast) (hl : leavesOK a) : meval env a = mval (wEval env a) := by
  induction a with
  | lit l =>
    obtain ⟨hv, hc, hk⟩ := leavesOK_lit hl
    obtain ⟨v, hcv⟩ := Option.isSome_iff_exists.mp hc
    rw [meval_lit, (litVal_spec l hv v hcv hk).2, wEval, hcv]; rfl
  | chr c =>
    obtain ⟨v, hcv⟩ := Option.isSome_iff_exists.mp hl.1
    rw [wEval, hcv]; exact (chr_spec c v hcv).2
  | ident nm => show Eval.zero = mval ⟨false, 0#64⟩; decide
  | defd nm p =>
    show (⟨false, if env nm then 1 else 0⟩ : Eval.Val) = mval (Val.ofBool (env nm))
    cases env nm <;> decide
  | paren a ih => exact ih hl
  | un op a ih => rw [meval_un, ih ⟨hl.1, hl.2⟩, applyUnary_wrap]; rfl
  | bin op l r ihl ihr =>
    obtain ⟨h1, h2⟩ := leavesOK_bin hl
    rw [meval_bin, ihl h1, ihr h2, applyBinary_wrap]; rfl
  | tern c t e ihc iht ihe =>
    obtain ⟨h1, h2, h3⟩ := leavesOK_tern hl
    rw [meval_tern, ihc h1, iht h2, ihe h3, tern_ok]; rfl

/-- the signedness of the evaluator's (eager, total) value is the static C type, also for operands
    whose C value is undefined -/
theorem meval_unsigned (env : Env) (a : CExpr.Ast) (hl : leavesOK a) : (meval env a).unsigned = a.utype := by
  rw [meval_wEval env a hl]; exact wEval_utype env a

theorem cEval_strict {op : BinOp} (h1 : op ≠ .land) (h2 : op ≠ .lor) (env : Env) (l r : CExpr.Ast) :
    cEval env (.bin op l r) = (match cEval env l, cEval env r with
      | some x, some y => cBin op x y | _, _ => none) := by
  cases op <;> first | rfl | contradiction

theorem cEval_wEval (env : Env) (a : CExpr.Ast) (v : CExpr.Val) (h : cEval env a = some v) : wEval env a = v := by
  -- by the cases of `cEval`: where an evaluated operand has no value `h` is `none = some v`; where the value is written
  -- out (`&&`, `||`, `?:`, the leaves) `h` gives `v`
  fun_induction cEval env a generalizing v
  any_goals cases h
  next l => rw [wEval, h]; rfl
  next c => rw [wEval, h]; rfl
  next => rfl
  next => rfl
  next ih => exact ih v h
  next op a x hx ih => rw [wEval, ih x hx]; exact cUn_wUn h
  -- `&&`: the left operand is zero; it is not
  next l r x hx hz ih => rw [wEval, ih x hx]; simp only [wBin, bne, hz, Bool.not_true, Bool.false_and]
  next l r x hx hz y hy ihl ihr =>
    rw [wEval, ihl x hx, ihr y hy]; simp only [wBin, bne, hz, Bool.not_false, Bool.true_and]
  -- `||`: the left operand is not zero; it is
  next l r x hx hz ih => rw [wEval, ih x hx]; simp only [wBin, hz, Bool.true_or]
  next l r x hx hz y hy ihl ihr => rw [wEval, ihl x hx, ihr y hy]; simp only [wBin, hz, Bool.false_or]
  next op l r _ _ x y hy hx ihl ihr => rw [wEval, ihl x hx, ihr y hy]; exact cBin_wBin h
  next c t e x hx w hw ihc iht ihe =>
    rw [wEval, ihc x hx, wEval_utype, wEval_utype]
    cases hz : x.bits != 0#64 <;> simp only [hz, if_true, Bool.false_eq_true, if_false] at hw ⊢
    · rw [ihe w hw]
    · rw [iht w hw]

theorem mval_ofBool_v_false : (mval (Val.ofBool false)) = ⟨false, 0⟩ := by decide
theorem mval_ofBool_true : (mval (Val.ofBool true)) = ⟨false, 1⟩ := by decide

/-- dead operands are irrelevant: whatever value `r` the evaluator computed for them -/
theorem land_dead (x : CExpr.Val) (r : Eval.Val) (h : (x.bits == 0#64) = true) :
    applyBinary "&&" (mval x) r = mval (Val.ofBool false) := by
  have : ((mval x).v != 0) = false := by rw [mval_v_ne_zero]; simp only [bne, h]; rfl
  refine (applyBinary_sym .land _ _).trans ?_
  simp only [this, Bool.false_and, b2v_ofBool]
theorem lor_dead (x : CExpr.Val) (r : Eval.Val) (h : (x.bits != 0#64) = true) :
    applyBinary "||" (mval x) r = mval (Val.ofBool true) := by
  have : ((mval x).v != 0) = true := by rw [mval_v_ne_zero]; exact h
  refine (applyBinary_sym .lor _ _).trans ?_
  simp only [this, Bool.true_or, b2v_ofBool]
theorem tern_dead_e (c t : CExpr.Val) (e : Eval.Val) (h : (c.bits != 0#64) = true) :
    applyTernary (mval c) (mval t) e = mval ⟨t.unsigned || e.unsigned, t.bits⟩ := by
  have : ((mval c).v != 0) = true := by rw [mval_v_ne_zero]; exact h
  simp only [applyTernary, this, if_true, mval_u]
  rw [cInt_mval]
theorem tern_dead_t (c e : CExpr.Val) (t : Eval.Val) (h : (c.bits != 0#64) = false) :
    applyTernary (mval c) t (mval e) = mval ⟨t.unsigned || e.unsigned, e.bits⟩ := by
  have : ((mval c).v != 0) = false := by rw [mval_v_ne_zero]; exact h
  simp only [applyTernary, this, Bool.false_eq_true, if_false, mval_u]
  rw [cInt_mval]

theorem size_le_render {V : Type} (O : EvOps V) (a : Climb.Ast V) (h : a.WF O) : a.size ≤ a.render.length := by
  induction a with
  | leaf ts v =>
    obtain ⟨⟨t, r, rfl, _, _⟩, _⟩ := h
    simp [Climb.Ast.size, Climb.Ast.render]
  | paren a ih =>
    have := ih h
    simp only [Climb.Ast.size, Climb.Ast.render, List.length_cons, List.length_append, List.length_nil]; omega
  | un s a ih =>
    have := ih h.2.1
    simp only [Climb.Ast.size, Climb.Ast.render, List.length_cons]; omega
  | bin s p l r ihl ihr =>
    have h1 := ihl h.2.2.1
    have h2 := ihr h.2.2.2.1
    simp only [Climb.Ast.size, Climb.Ast.render, List.length_cons, List.length_append]; omega
  | tern c t e ihc iht ihe =>
    have h1 := ihc h.1
    have h2 := iht h.2.1
    have h3 := ihe h.2.2.1
    simp only [Climb.Ast.size, Climb.Ast.render, List.length_cons, List.length_append]; omega

theorem eval_indep (n m : Nat) (a : Climb.Ast Eval.Val) : a.eval (opsN n) = a.eval (opsN m) := by
  induction a with
  | leaf ts v => rfl
  | paren a ih => exact ih
  | un s a ih => simp only [Climb.Ast.eval, ops_un, ih]
  | bin s p l r ihl ihr => simp only [Climb.Ast.eval, ops_bin, ihl, ihr]
  | tern c t e ihc iht ihe => simp only [Climb.Ast.eval, ops_tern, ihc, iht, ihe]

/-- parser theorem instantiated with the generated table and the code's operations: the evaluator
    returns the eager value of the tree and consumes all tokens -/
theorem cbiExpr_tree (env : Env) (a : CExpr.Ast) (hg : a.grammatical = true) (hl : leavesOK a) :
    cbiExpr (render env a) = .ok (meval env a, []) := by
  have hwf := toClimb_wf env (render env a).length a hg hl
  obtain ⟨f, hf, he⟩ := climb_correct (opsN (render env a).length) (tableOK _) (toClimb env a) hwf []
    (by simp [leadPrec]) (by simp [noLP])
  have hs := size_le_render _ _ hwf
  rw [List.append_nil] at he
  have := expr_mono _ he (f' := 3 * (render env a).length + 4) (by simp only [render]; omega)
  have hr : (toClimb env a).render = render env a := rfl
  rw [hr, eval_indep _ 0] at this
  exact this

end CbiVerif.EvalMain
