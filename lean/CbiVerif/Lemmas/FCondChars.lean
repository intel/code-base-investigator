import CbiVerif.Model.FCond
import CbiVerif.Lemmas.SourceChars
/-! The node function of the Fortran front end hands every directive line to the C directive parser as a `String` made from
its characters; for evaluations (`Lemmas/LexChars.lean`) it is given the characters directly.  The equation is between
functions, so that `rw` can use it where `pnodeOf` stands unapplied (`List.mapM pnodeOf`). -/
namespace CbiVerif.Fortran
open CbiVerif.PP

theorem pnodeOf_eq : pnodeOf = fun n =>
    if n.isDir then parseDirectiveT (tokenizeL ((n.body.headD []).length + 1) (n.body.headD []) false []) n.lines
    else .ok { kind := .code, lines := n.lines } := by
  funext n; rw [pnodeOf, parseDirective_ofList]

end CbiVerif.Fortran
