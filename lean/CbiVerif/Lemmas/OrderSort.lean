import CbiVerif.Lemmas.Order
import CbiVerif.Lemmas.Wsum

/-!
C14 helper lemmas: the comparisons the code sorts by are total orders (Python list comparison over a total order,
the key `(len(s), sorted(s))` of the summary table); the metrics read a dict only through four counts and the set of
platform names, for arbitrary float operations.
-/
namespace CbiVerif.Order

/-! ## Python list comparison over a total order is a total order -/

section lex
variable {α : Type} [DecidableEq α] {le : α → α → Bool}

theorem lexLeG_cons (a b : α) (as bs : List α) :
    lexLeG le (a :: as) (b :: bs) = if a = b then lexLeG le as bs else le a b := rfl

theorem lexLeG_total (total : ∀ a b, le a b || le b a) (a b : List α) : lexLeG le a b || lexLeG le b a := by
  induction a generalizing b with
  | nil => rfl
  | cons a as ih =>
    cases b with
    | nil => rfl
    | cons b bs =>
      rw [lexLeG_cons, lexLeG_cons]
      by_cases h : a = b
      · rw [if_pos h, if_pos h.symm]; exact ih bs
      · rw [if_neg h, if_neg (Ne.symm h)]; exact total a b

/-- the head decides when the heads differ; equal heads hand over to the tails -/
theorem lexLeG_cons_iff (a b : α) (as bs : List α) :
    lexLeG le (a :: as) (b :: bs) ↔ a ≠ b ∧ le a b ∨ a = b ∧ lexLeG le as bs := by
  rw [lexLeG_cons]
  by_cases h : a = b
  · rw [if_pos h]; exact ⟨fun t => .inr ⟨h, t⟩, fun t => t.elim (fun t => absurd h t.1) And.right⟩
  · rw [if_neg h]; exact ⟨fun t => .inl ⟨h, t⟩, fun t => t.elim And.right fun t => absurd t.1 h⟩

theorem lexLeG_antisymm (antisymm : ∀ a b, le a b → le b a → a = b) (a b : List α) :
    lexLeG le a b → lexLeG le b a → a = b := by
  induction a generalizing b with
  | nil =>
    cases b with
    | nil => exact fun _ _ => rfl
    | cons _ _ => exact fun _ h => Bool.noConfusion h
  | cons a as ih =>
    cases b with
    | nil => exact fun h _ => Bool.noConfusion h
    | cons b bs =>
      rw [lexLeG_cons_iff, lexLeG_cons_iff]
      rintro (⟨hab, h1⟩ | ⟨rfl, h1⟩) (⟨hba, h2⟩ | ⟨hba, h2⟩)
      · exact absurd (antisymm a b h1 h2) hab
      · exact absurd hba.symm hab
      · exact absurd rfl hba
      · exact congrArg _ (ih bs h1 h2)

theorem lexLeG_trans (trans : ∀ a b c, le a b → le b c → le a c)
    (antisymm : ∀ a b, le a b → le b a → a = b) (a b c : List α) :
    lexLeG le a b → lexLeG le b c → lexLeG le a c := by
  induction a generalizing b c with
  | nil => exact fun _ _ => rfl
  | cons a as ih =>
    match b, c with
    | [], _ => exact fun h _ => Bool.noConfusion h
    | _ :: _, [] => exact fun _ h => Bool.noConfusion h
    | b :: bs, c :: cs =>
      rw [lexLeG_cons_iff, lexLeG_cons_iff, lexLeG_cons_iff]
      rintro (⟨hab, h1⟩ | ⟨rfl, h1⟩) (⟨hbc, h2⟩ | ⟨rfl, h2⟩)
      -- `a = c` would make `a ≤ b ≤ a`
      · exact .inl ⟨fun hac => hab (antisymm a b h1 (hac ▸ h2)), trans a b c h1 h2⟩
      · exact .inl ⟨hab, h1⟩
      · exact .inl ⟨hbc, h2⟩
      · exact .inr ⟨rfl, ih bs cs h1 h2⟩

end lex

theorem strLe_trans (a b c : String) : strLe a b → strLe b c → strLe a c := by
  simp only [strLe, decide_eq_true_eq]; exact le_trans
theorem strLe_total (a b : String) : strLe a b || strLe b a := by
  simp only [strLe, Bool.or_eq_true, decide_eq_true_eq]; exact le_total a b
theorem strLe_antisymm (a b : String) : strLe a b → strLe b a → a = b := by
  simp only [strLe, decide_eq_true_eq]; exact le_antisymm

theorem covLe_trans (a b c : CovRecord) : covLe a b → covLe b c → covLe a c := strLe_trans a.file b.file c.file
theorem covLe_total (a b : CovRecord) : covLe a b || covLe b a := strLe_total a.file b.file

theorem pathLe_trans : ∀ a b c : PathParts, pathLe a b → pathLe b c → pathLe a c :=
  lexLeG_trans strLe_trans strLe_antisymm
theorem pathLe_total : ∀ a b : PathParts, pathLe a b || pathLe b a := lexLeG_total strLe_total
theorem pathLe_antisymm : ∀ a b : PathParts, pathLe a b → pathLe b a → a = b := lexLeG_antisymm strLe_antisymm
theorem pathGroupLe_trans : ∀ a b c : List PathParts, pathGroupLe a b → pathGroupLe b c → pathGroupLe a c :=
  lexLeG_trans pathLe_trans pathLe_antisymm
theorem pathGroupLe_total : ∀ a b : List PathParts, pathGroupLe a b || pathGroupLe b a :=
  lexLeG_total pathLe_total
theorem pathGroupLe_antisymm : ∀ a b : List PathParts, pathGroupLe a b → pathGroupLe b a → a = b :=
  lexLeG_antisymm pathLe_antisymm

/-! ## the sort key `(len(s), sorted(s))` -/

theorem lexLe_eq (a b : List String) : lexLe a b = lexLeG strLe a b := by
  induction a generalizing b with
  | nil => rfl
  | cons a as ih =>
    cases b with
    | nil => rfl
    | cons b bs =>
      show (if a < b then true else if a = b then lexLe as bs else false) = _
      rw [lexLeG_cons, ih bs]
      by_cases h : a = b
      · subst h; rw [if_neg (lt_irrefl a), if_pos rfl, if_pos rfl]
      · rw [if_neg h, if_neg h]
        by_cases hl : a < b
        · rw [if_pos hl]; exact (decide_eq_true (le_of_lt hl)).symm
        · rw [if_neg hl]; exact (decide_eq_false fun hle => hl (lt_of_le_of_ne hle h)).symm

theorem keyLe_iff (a b : PSet) : keyLe a b ↔ a.length < b.length ∨ a.length = b.length ∧ lexLeG strLe a b := by
  unfold keyLe
  rw [Bool.or_eq_true, decide_eq_true_eq, Bool.and_eq_true, beq_iff_eq, lexLe_eq]

theorem keyLe_total (a b : PSet) : keyLe a b || keyLe b a := by
  rw [Bool.or_eq_true, keyLe_iff, keyLe_iff]
  rcases Nat.lt_trichotomy a.length b.length with h | h | h
  · exact .inl (.inl h)
  · exact (Bool.or_eq_true _ _ ▸ lexLeG_total strLe_total a b).imp (fun t => .inr ⟨h, t⟩) fun t => .inr ⟨h.symm, t⟩
  · exact .inr (.inl h)

theorem keyLe_antisymm (a b : PSet) : keyLe a b → keyLe b a → a = b := by
  rw [keyLe_iff, keyLe_iff]
  rintro (h1 | ⟨h1, l1⟩) (h2 | ⟨h2, l2⟩)
  · exact absurd h2 (Nat.lt_asymm h1)
  · exact absurd h1 (h2 ▸ Nat.lt_irrefl _)
  · exact absurd h2 (h1 ▸ Nat.lt_irrefl _)
  · exact lexLeG_antisymm strLe_antisymm a b l1 l2

theorem keyLe_trans (a b c : PSet) : keyLe a b → keyLe b c → keyLe a c := by
  rw [keyLe_iff, keyLe_iff, keyLe_iff]
  rintro (h1 | ⟨h1, l1⟩) (h2 | ⟨h2, l2⟩)
  · exact .inl (Nat.lt_trans h1 h2)
  · exact .inl (h2 ▸ h1)
  · exact .inl (h1 ▸ h2)
  · exact .inr ⟨h1.trans h2, lexLeG_trans strLe_trans strLe_antisymm a b c l1 l2⟩

theorem entryLe_total (a b : PSet × Nat) : entryLe a b || entryLe b a := keyLe_total _ _
theorem entryLe_trans (a b c : PSet × Nat) : entryLe a b → entryLe b c → entryLe a c := keyLe_trans _ _ _

/-- on a dict (distinct keys as sets) the comparison is antisymmetric on the entries -/
theorem entryLe_antisymm_on {sm : Setmap} (h : (sm.map fun e => canon e.1).Nodup) :
    ∀ a ∈ sm, ∀ b ∈ sm, entryLe a b → entryLe b a → a = b :=
  fun _ ha _ hb h1 h2 => List.inj_on_of_nodup_map h ha hb (keyLe_antisymm _ _ h1 h2)

theorem total_perm {sm sm' : Setmap} (h : sm.Perm sm') : total sm = total sm' :=
  Metrics.wsum_perm h fun _ => true

theorem eq_nil_iff_of_perm {α : Type} {l l' : List α} (h : l.Perm l') : l = [] ↔ l' = [] :=
  ⟨fun e => by subst e; exact h.symm.eq_nil, fun e => by subst e; exact h.eq_nil⟩

theorem summaryRowsWith_perm {F : Type} {le : PSet × Nat → PSet × Nat → Bool} (ops : FloatOps F)
    {sm sm' : Setmap}
    (trans : ∀ a b c, le a b → le b c → le a c) (total_ : ∀ a b, le a b || le b a)
    (antisymm : ∀ a ∈ sm, ∀ b ∈ sm, le a b → le b a → a = b) (h : sm.Perm sm') :
    summaryRowsWith le ops sm = summaryRowsWith le ops sm' := by
  unfold summaryRowsWith
  rw [total_perm h, mergeSort_eq_of_perm trans total_ antisymm h]
  simp only [eq_nil_iff_of_perm h, ne_eq]

/-! ## metrics

The counts of `Model/Order.lean` have the bodies of those of `Model/Metrics.lean`, so what `Metrics.Sim 1 id sm sm'`
(`Lemmas/Wsum.lean`: the same lines under the same names) says of the latter holds of the former. -/
section metrics
variable {F : Type} (ops : FloatOps F) {sm sm' : Setmap} (h : Metrics.Sim 1 id sm sm')
include h

theorem total_congr : total sm = total sm' := (h.total.trans (Nat.one_mul _)).symm
theorem unionCount_congr (p q : String) : unionCount sm p q = unionCount sm' p q :=
  ((h.unionCount p q).trans (Nat.one_mul _)).symm
theorem xorCount_congr (p q : String) : xorCount sm p q = xorCount sm' p q :=
  ((h.xorCount p q).trans (Nat.one_mul _)).symm
theorem usedBy_congr (ps : List String) : usedBy sm ps = usedBy sm' ps :=
  ((List.map_id ps ▸ h.usedBy ps).trans (Nat.one_mul _)).symm
theorem mem_names_congr (p : String) : p ∈ sm.flatMap (·.1) ↔ p ∈ sm'.flatMap (·.1) :=
  ((h.names p).trans (by rw [List.map_id])).symm
theorem platformsSorted_congr : platformsSorted sm = platformsSorted sm' := canon_congr (mem_names_congr h)

theorem distance_congr (p q : String) : distance ops sm p q = distance ops sm' p q := by
  unfold distance; rw [unionCount_congr h, xorCount_congr h]

theorem divergenceOn_congr (plats : List String) : divergenceOn ops sm plats = divergenceOn ops sm' plats := by
  unfold divergenceOn; simp only [distance_congr ops h]

theorem coverageOf_congr (ps : List String) : coverageOf ops sm ps = coverageOf ops sm' ps := by
  unfold coverageOf; rw [total_congr h, usedBy_congr h]

/-- the code as it is: only the *set* of platforms handed to `average_coverage` matters -/
theorem averageCoverage_congr {o o' : List String} (ho : ∀ x, x ∈ o ↔ x ∈ o') :
    averageCoverage ops sm o = averageCoverage ops sm' o' := by
  unfold averageCoverage averageCoverageOn
  rw [canon_congr ho]; simp only [coverageOf_congr ops h]

theorem metricLines_congr {o o' : List String} (ho : ∀ x, x ∈ o ↔ x ∈ o') :
    metricLines ops sm o = metricLines ops sm' o' := by
  unfold metricLines divergence coverage
  rw [platformsSorted_congr h, divergenceOn_congr ops h, coverageOf_congr ops h, averageCoverage_congr ops h ho,
    total_congr h]

theorem distanceMatrix_congr : distanceMatrix ops sm = distanceMatrix ops sm' := by
  unfold distanceMatrix; rw [platformsSorted_congr h]; simp only [distance_congr ops h]

end metrics

variable {F : Type}

/-- when `add` *is* commutative and associative (exact arithmetic) the order of the platform
set does not matter either -/
theorem averageCoverageOn_order (ops : FloatOps F)
    (comm : ∀ a b, ops.add a b = ops.add b a) (assoc : ∀ a b c, ops.add (ops.add a b) c = ops.add a (ops.add b c))
    (sm : Setmap) {o o' : List String} (h : o.Perm o') :
    averageCoverageOn ops sm o = averageCoverageOn ops sm o' := by
  unfold averageCoverageOn
  rw [h.length_eq]
  have hp := h.map (fun p => coverageOf ops sm [p])
  rw [hp.foldl_eq' (fun x _ y _ z => by rw [assoc, assoc, comm x y])]

end CbiVerif.Order
