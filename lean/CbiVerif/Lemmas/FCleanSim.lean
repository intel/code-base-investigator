import CbiVerif.Lemmas.FCleanTable
/-!
Per-dispatch simulation: the executed character-level `Fortran.step1` is simulated by the
finite abstraction `Tbl.step1`.

Both functions branch on the same data (scan mode, top of the stack, class of the character),
so after that case analysis each side is a closed triple.  Almost everywhere the abstract triple
is the image of the concrete one (`Sim.same`); the invariant `Inv` is what identifies the images
in the remaining places, where `verify_continue` or `found` is extended or emitted.
-/
namespace CbiVerif.Fortran
open Tbl

/-! ## abstraction of the character-level cleaner state -/

def hasWs (l : List Char) : Bool := l.any isWs
def hasNonWs (l : List Char) : Bool := l.any fun c => !isWs c

@[simp] theorem hasWs_nil : hasWs [] = false := rfl
@[simp] theorem hasNonWs_nil : hasNonWs [] = false := rfl
@[simp] theorem hasWs_append (a b : List Char) : hasWs (a ++ b) = (hasWs a || hasWs b) := by simp [hasWs]
@[simp] theorem hasNonWs_append (a b : List Char) : hasNonWs (a ++ b) = (hasNonWs a || hasNonWs b) := by
  simp [hasNonWs]
@[simp] theorem hasWs_single (c : Char) : hasWs [c] = isWs c := by simp [hasWs]
@[simp] theorem hasNonWs_single (c : Char) : hasNonWs [c] = !isWs c := by simp [hasNonWs]

def absF (s : FSt) : CSt := ⟨s.stack, s.scan, hasWs s.vc⟩

/-- invariant of the carried buffers and of the stack shape: `verify_continue` is empty
unless a `&` is being verified, and then holds a non-blank; `found` holds no blank;
`VERIFY_CONTINUE` only occurs on top of the stack -/
structure Inv (s : FSt) : Prop where
  vcEmpty : s.stack.head? ≠ some .verify → s.vc = []
  vcAmp : s.stack.head? = some .verify → hasNonWs s.vc = true
  foundNoWs : hasWs s.found = false
  below : ∀ m ∈ s.stack.tail, m ≠ .verify

def kEmit : Emit → KEmit | .sp => .sp | .ns c => .ns (cls c)
def Emit.visible (e : Emit) : Bool := (kEmit e).visible
def Emit.litWs (e : Emit) : Bool := (kEmit e).litWs
def anyVis (es : List Emit) : Bool := es.any Emit.visible
def anyLit (es : List Emit) : Bool := es.any Emit.litWs

theorem vis_ns (c : Char) : Emit.visible (.ns c) = !isWs c := by
  simp only [Emit.visible, kEmit, isWs]
  cases cls c <;> rfl

theorem lit_ns (c : Char) : Emit.litWs (.ns c) = isWs c := by
  simp only [Emit.litWs, kEmit, isWs]
  cases cls c <;> rfl

@[simp] theorem anyVis_nil : anyVis [] = false := rfl
@[simp] theorem anyLit_nil : anyLit [] = false := rfl
@[simp] theorem anyVis_cons (e : Emit) (es : List Emit) : anyVis (e :: es) = (e.visible || anyVis es) := rfl
@[simp] theorem anyLit_cons (e : Emit) (es : List Emit) : anyLit (e :: es) = (e.litWs || anyLit es) := rfl
@[simp] theorem anyVis_append (a b : List Emit) : anyVis (a ++ b) = (anyVis a || anyVis b) := by simp [anyVis]
@[simp] theorem anyLit_append (a b : List Emit) : anyLit (a ++ b) = (anyLit a || anyLit b) := by simp [anyLit]
@[simp] theorem vis_sp : Emit.visible .sp = false := rfl
@[simp] theorem lit_sp : Emit.litWs .sp = false := rfl

theorem anyVis_map_ns (l : List Char) : anyVis (l.map .ns) = hasNonWs l :=
  List.any_map.trans (congrArg l.any (funext vis_ns))

theorem anyLit_map_ns (l : List Char) : anyLit (l.map .ns) = hasWs l :=
  List.any_map.trans (congrArg l.any (funext lit_ns))

theorem anyVis_eq_map (es : List Emit) : anyVis es = anyVisible (es.map kEmit) := List.any_map.symm
theorem anyLit_eq_map (es : List Emit) : anyLit es = anyLitWs (es.map kEmit) := List.any_map.symm

theorem isWs_of_cls {c : Char} {k : Cls} (h : cls c = k) : isWs c = (k == .ws) := h ▸ rfl

theorem head_ne_verify (r : List Mode) (h : ∀ m ∈ r, m ≠ Mode.verify) : r.head? ≠ some .verify := by
  cases r with
  | nil => simp
  | cons a t => simpa using h a (by simp)

theorem init_inv : Inv {} := ⟨fun _ => rfl, by simp, rfl, by simp⟩

theorem inv_cons (m : Mode) (r : List Mode) (sc : Scan) (vc found : List Char) :
    Inv ⟨m :: r, sc, vc, found⟩ ↔
      (m ≠ .verify → vc = []) ∧ (m = .verify → hasNonWs vc = true) ∧ hasWs found = false ∧ .verify ∉ r :=
  ⟨fun ⟨h1, h2, h3, h4⟩ => ⟨fun h => h1 (mt Option.some.inj h), fun h => h2 (congrArg some h), h3, fun h => h4 _ h rfl⟩,
   fun ⟨h1, h2, h3, h4⟩ => ⟨fun h => h1 (mt (congrArg some) h), fun h => h2 (Option.some.inj h), h3, fun _ h e => h4 (e ▸ h)⟩⟩

theorem Inv.withFound {st : List Mode} {sc sc' : Scan} {vc found found' : List Char} (h : Inv ⟨st, sc, vc, found⟩)
    (hf : hasWs found' = false) : Inv ⟨st, sc', vc, found'⟩ := ⟨h.1, h.2, hf, h.4⟩

theorem inv_push {m' m : Mode} {r : List Mode} {sc : Scan} {found : List Char} (hm' : m' ≠ .verify) (hm : m ≠ .verify)
    (hf : hasWs found = false) (hr : .verify ∉ r) : Inv ⟨m' :: m :: r, sc, [], found⟩ :=
  (inv_cons ..).2 ⟨fun _ => rfl, fun h => absurd h hm', hf, List.not_mem_cons_of_ne_of_not_mem (Ne.symm hm) hr⟩

theorem inv_pop {r : List Mode} {sc : Scan} {found : List Char} (hr : .verify ∉ r) (hf : hasWs found = false) :
    Inv ⟨r, sc, [], found⟩ := by
  cases r with
  | nil => exact ⟨fun _ => rfl, by simp, hf, by simp⟩
  | cons m r =>
    rw [List.mem_cons, not_or] at hr
    exact (inv_cons ..).2 ⟨fun _ => rfl, fun h => absurd h.symm hr.1, hf, hr.2⟩

/-- a result of `step1` and a result of `Tbl.step1` that correspond -/
def Sim (x : FSt × List Emit × Bool) (y : CSt × List KEmit × Bool) : Prop :=
  absF x.1 = y.1 ∧ x.2.2 = y.2.2 ∧ anyVis x.2.1 = anyVisible y.2.1 ∧ anyLit x.2.1 = anyLitWs y.2.1 ∧ Inv x.1

theorem Sim.same {s' : FSt} {es : List Emit} {ks : List KEmit} {pb : Bool} (he : es.map kEmit = ks) (hi : Inv s') :
    Sim (s', es, pb) (absF s', ks, pb) :=
  ⟨rfl, rfl, he ▸ anyVis_eq_map es, he ▸ anyLit_eq_map es, hi⟩

theorem sim_amp {c : Char} {m : Mode} {r : List Mode} {found : List Char} (hk : cls c = .amp) (hm : m ≠ .verify)
    (hf : hasWs found = false) (hr : .verify ∉ r) :
    Sim (⟨.verify :: m :: r, .run, [c], found⟩, [], false) (⟨.verify :: m :: r, .run, false⟩, [], false) :=
  have hw : isWs c = false := isWs_of_cls hk
  ⟨by rw [absF, hasWs_single, hw], rfl, rfl, rfl,
    (inv_cons ..).2 ⟨nofun, fun _ => by rw [hasNonWs_single, hw]; rfl, hf, List.not_mem_cons_of_ne_of_not_mem (Ne.symm hm) hr⟩⟩

theorem anyLitWs_amp (b : Bool) : anyLitWs (.ns .amp :: if b then [.ns .ws] else []) = b := by cases b <;> rfl

theorem step1_sim (s : FSt) (c : Char) (h : Inv s) : Sim (step1 s c) (Tbl.step1 (absF s) (cls c)) := by
  obtain ⟨st, sc, vc, found⟩ := s
  have hc {k : Cls} (hk : cls c = k) : hasWs [c] = (k == .ws) := (hasWs_single c).trans (isWs_of_cls hk)
  cases sc with
  | done => exact .same rfl h
  | sentinel => exact .same rfl h
  | bang =>
    simp only [step1, Tbl.step1, absF]
    cases hk : cls c with
    | dollar =>
      refine ⟨rfl, rfl, ?_, ?_, h.withFound rfl⟩
      · rw [anyVis_map_ns, hasNonWs_append, hasNonWs_single, isWs_of_cls hk, Bool.or_comm]; rfl
      · rw [anyLit_map_ns, hasWs_append, hc hk, h.foundNoWs]; rfl
    | alpha => exact .same rfl (h.withFound (by rw [hasWs_append, hc hk, h.foundNoWs]; rfl))
    | _ => exact .same rfl (h.withFound rfl)
  | run =>
    cases st with
    | nil => exact .same rfl h
    | cons m r =>
      obtain ⟨h1, h2, h3, h4⟩ := (inv_cons ..).1 h
      cases m
      case verify =>
        have h2 := h2 rfl
        simp only [step1, Tbl.step1, absF]
        by_cases hb : (cls c == .bang && r.head? == some .top) = true
        · rw [if_pos hb, if_pos hb]
          exact .same rfl (h.withFound (hc (eq_of_beq (Bool.and_eq_true_iff.1 hb).1)))
        · rw [if_neg hb, if_neg hb]
          by_cases hw : (cls c != .ws) = true
          · rw [if_pos hw, if_pos hw]
            exact ⟨rfl, rfl, (anyVis_map_ns vc).trans h2, (anyLit_map_ns vc).trans (anyLitWs_amp _).symm,
              inv_pop h4 h3⟩
          · rw [if_neg hw, if_neg hw]
            have hw : isWs c = true := by simpa [isWs] using hw
            exact ⟨by rw [absF, hasWs_append, hasWs_single, hw, Bool.or_true], rfl, rfl, rfl,
              (inv_cons ..).2 ⟨nofun, fun _ => by rw [hasNonWs_append, h2]; rfl, h3, h4⟩⟩
      all_goals
        obtain rfl := h1 nofun
        simp only [step1, Tbl.step1, absF]
      case esc => exact .same rfl (inv_pop h4 h3)
      case top =>
        cases hk : cls c with
        -- `hk ▸ rfl`: the abstract step emits the class matched on, the concrete one `c` itself
        | bslash | dq | sq => exact .same (hk ▸ rfl) (inv_push nofun nofun h3 h4)
        | ws => exact .same rfl h
        | dollar | alpha | other => exact .same (hk ▸ rfl) h
        | bang => exact .same rfl ((inv_cons ..).2 ⟨fun _ => rfl, nofun, hc hk, List.not_mem_nil⟩)
        | amp => exact sim_amp hk nofun h3 h4
      case cfs =>
        cases hk : cls c with
        | ws => exact .same rfl h
        | bang => exact .same rfl (h.withFound (hc hk))
        | _ => exact .same rfl (inv_pop h4 h3)
      case dq =>
        cases hk : cls c with
        | bslash => exact .same (hk ▸ rfl) (inv_push nofun nofun h3 h4)
        | dq => exact .same (hk ▸ rfl) (inv_pop h4 h3)
        | amp => exact sim_amp hk nofun h3 h4
        | _ => exact .same (hk ▸ rfl) h
      case sq =>
        cases hk : cls c with
        | bslash => exact .same (hk ▸ rfl) (inv_push nofun nofun h3 h4)
        | sq => exact .same (hk ▸ rfl) (inv_pop h4 h3)
        | amp => exact sim_amp hk nofun h3 h4
        | _ => exact .same (hk ▸ rfl) h

end CbiVerif.Fortran
