import CbiVerif.Lemmas.MacroMachine
/-! # C03 `backstop`: for every table (object-like or not, any `Cfg`) the number of nested token streams never
    exceeds the limit: `stack.length ≤ c.lim` is an invariant of `MX.step`.

Popping, reading a token and collecting arguments only ever take streams away (`*_below`); what one iteration returns holds at
most `c.lim` streams (`*_depth`), by cases along the definitions. -/
namespace CbiVerif.MX
open CbiVerif.PP

/-- the streams left below the top one -/
def Popped.below : Popped → List Helper
  | .ok _ r _ => r
  | .eop _ r _ => r

def Consumed.below : Consumed → List Helper
  | .ok _ _ r _ => r
  | .eop _ r _ => r
  | .bad _ => []

def Collected.below : Collected → List Helper
  | .ok _ _ r _ => r
  | .eop _ r _ => r
  | .bad _ => []

def Out.depth : Out → Nat
  | .cont s => s.stack.length
  | _ => 0

theorem popAll_below {adv : Bool} {top : Helper} {rest : List Helper} {ne : NoExp} {p : Popped} (h : popAll adv top rest ne = p) :
    p.below.length ≤ rest.length := by
  subst h
  fun_induction popAll adv top rest ne with
  | case3 _ _ _ _ _ _ ih => exact Nat.le_succ_of_le ih
  | _ => exact Nat.le_refl _

theorem consume_below {adv : Bool} {top : Helper} {rest : List Helper} {ne : NoExp} {p : Consumed} (h : consume adv top rest ne = p) :
    p.below.length ≤ rest.length := by
  subst h
  fun_cases consume adv top rest ne
  next h => exact popAll_below h
  next h _ _ => exact popAll_below h
  next => exact Nat.zero_le _

theorem collectArgs_below {adv : Bool} {f : Nat} {top : Helper} {rest : List Helper} {ne : NoExp} {args : List (List Tok)} {cur : List Tok}
    {depth : Nat} {p : Collected} (h : collectArgs adv f top rest ne args cur depth = p) : p.below.length ≤ rest.length := by
  subst h
  fun_induction collectArgs adv f top rest ne args cur depth
  case case1 | case3 => exact Nat.zero_le _
  case case2 | case6 => exact consume_below ‹consume adv _ _ _ = _›
  all_goals
    have hc := consume_below ‹consume adv _ _ _ = _›
    exact Nat.le_trans (by assumption) hc

theorem collectArgsV_below {adv : Bool} {k f : Nat} {top : Helper} {rest : List Helper} {ne : NoExp} {args : List (List Tok)} {cur : List Tok}
    {depth : Nat} {p : Collected} (h : collectArgsV adv k f top rest ne args cur depth = p) : p.below.length ≤ rest.length := by
  subst h
  fun_induction collectArgsV adv k f top rest ne args cur depth
  case case1 | case3 => exact Nat.zero_le _
  case case2 | case6 => exact consume_below ‹consume adv _ _ _ = _›
  all_goals
    have hc := consume_below ‹consume adv _ _ _ = _›
    exact Nat.le_trans (by assumption) hc

theorem processArgs_depth (c : Cfg) (pw : Bool) (m : Macro) (todo : List (List Tok)) (done : List Arg) (s : MS)
    (h : s.stack.length ≤ c.lim) : (processArgs c pw m todo done s).depth ≤ c.lim := by
  fun_induction processArgs c pw m todo done s
  case case1 | case2 | case4 => exact Nat.zero_le _
  case case3 hlt => exact Nat.le_of_lt (Nat.lt_of_not_le hlt)
  case case6 hlt _ => exact Nat.lt_of_not_le hlt
  case case5 ih | case7 ih => exact ih h

theorem replaceTop_depth (adv : Bool) (top : Helper) (rest : List Helper) (ne : NoExp) (frames : List Frame) (x : Tok) :
    (replaceTop adv top rest ne frames x).depth ≤ rest.length + 1 := by
  fun_cases replaceTop adv top rest ne frames x
  case case1 h => exact Nat.le_succ_of_le (popAll_below h)
  case case2 h => exact Nat.succ_le_succ (popAll_below h)

theorem stepDefined_depth (adv : Bool) (tbl : Table) (s : MS) (top' : Helper) (rest : List Helper) :
    (stepDefined adv tbl s top' rest).depth ≤ rest.length + 1 := by
  fun_cases stepDefined adv tbl s top' rest
  case case2 h => exact Nat.le_succ_of_le (consume_below h)
  case case4 =>
    have h2 := consume_below ‹consume adv _ _ _ = _›
    have h1 := consume_below ‹consume adv top' rest _ = _›
    exact Nat.le_succ_of_le (Nat.le_trans h2 h1)
  case case9 =>
    have h2 := consume_below ‹consume adv _ _ _ = _›
    have h1 := consume_below ‹consume adv top' rest _ = _›
    exact Nat.le_trans (replaceTop_depth ..) (Nat.succ_le_succ (Nat.le_trans h2 h1))
  case case11 => exact replaceTop_depth ..
  all_goals exact Nat.zero_le _

theorem stepCall_depth (c : Cfg) (s : MS) (top : Helper) (rest : List Helper) (t : Tok) (m : Macro) (hl : rest.length + 1 ≤ c.lim) :
    (stepCall c s top rest t m).depth ≤ c.lim := by
  have collected {k f top1 rest1 ne1 p} (h : (if m.variadic then collectArgsV c.adv k f top1 rest1 ne1 [] [] 1
      else collectArgs c.adv f top1 rest1 ne1 [] [] 1) = p) : p.below.length ≤ rest1.length := by
    split at h
    · exact collectArgsV_below h
    · exact collectArgs_below h
  fun_cases stepCall c s top rest t m
  case case1 => exact hl
  case case2 h => exact Nat.le_trans (consume_below h) (Nat.le_of_succ_le hl)
  case case4 =>
    have h2 := collected ‹_ = Collected.eop _ _ _›
    have h1 := consume_below ‹consume c.adv _ rest _ = _›
    exact Nat.le_trans (Nat.le_trans h2 h1) (Nat.le_of_succ_le hl)
  case case6 =>
    have h2 := collected ‹_ = Collected.ok _ _ _ _›
    have h1 := consume_below ‹consume c.adv _ rest _ = _›
    exact processArgs_depth c _ _ _ _ _ (Nat.le_trans (Nat.succ_le_succ (Nat.le_trans h2 h1)) hl)
  all_goals exact Nat.zero_le _

/-- **the invariant**: one loop iteration never leaves more than `c.lim` nested streams -/
theorem step_depth (c : Cfg) (tbl : Table) (s : MS) (h : s.stack.length ≤ c.lim) : (step c tbl s).depth ≤ c.lim := by
  fun_cases step c tbl s
  case case1 | case3 | case4 | case12 => exact Nat.zero_le _
  case case2 => exact processArgs_depth c _ _ _ _ _ h
  all_goals rw [‹s.stack = _›] at h
  case case5 | case6 => exact Nat.le_of_succ_le h
  case case8 => exact Nat.le_trans (stepDefined_depth ..) h
  case case11 => exact stepCall_depth c s _ _ _ _ h
  case case13 hov => exact Nat.le_of_lt (Nat.lt_of_not_le hov)
  all_goals exact h

theorem runK_inv (c : Cfg) (tbl : Table) : ∀ (k : Nat) (s s' : MS), s.stack.length ≤ c.lim → runK c tbl k s = some s' →
    s'.stack.length ≤ c.lim := by
  intro k s s' h hr
  fun_induction runK c tbl k s with
  | case1 => cases hr; exact h
  | case2 k s s1 hs ih => exact ih (by have := step_depth c tbl s h; rwa [hs] at this) hr
  | case3 => cases hr

end CbiVerif.MX
