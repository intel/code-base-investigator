import CbiVerif.Lemmas.MacroStrCongr
import CbiVerif.Lemmas.MacroFunStep
/-! # C03, function-like macros (with or without `#` / `##`): the stream-stack machine `MX.step` computes the recursive reference `RefS`

`Scans` is the form of every statement here: a piece of a stream is scanned and replaced by its expansion.  The simulation is
the statement `SimAt` about one nesting budget, proved by induction on the budget.  `scan_simS` is the step:
one level of scanning from the level below, for every `Cfg`; `fsimS`: with the repaired `splice` the expansion is
`RefS tbl d D ts`, reached within `costS tbl d D ts` iterations — provided `fitsbS tbl d D ts` and the nesting limit is not
reached (`|S| + d + 1 < lim`).  No hypothesis about the table is needed (variadic macros must not be called: `fitsbS`).
Special cases: the fragment without `#` / `##` (`Lemmas/MacroFunSim.lean`) and tables of object-like macros, where it also
holds for the machine before the repair of D11 (`Lemmas/MacroObjTop.lean`). -/
namespace CbiVerif.MX
open CbiVerif.PP

/-- within `n` iterations the machine scans `ts` and leaves `X` in its place: from a stream positioned before `ts` (behind it any
    tokens `Q`, before it a part `P` already scanned, with holes) it reaches the stream in which `ts` is replaced by `X` and the
    read position is behind it, leaving everything else (lower streams, disabled names, suspended calls) as it was; of the part
    already scanned the holes may have gone, and the run makes none: a stream without holes stays one (`SimAt.exact`) -/
abbrev Scans (c : Cfg) (tbl : Table) (n : Nat) (S : List Helper) (D : NoExp) (F : List Frame) (pr : Bool)
    (P : List (Option Tok)) (ts Q X : List Tok) : Prop :=
  ∃ P', filterSome P' = filterSome P ++ X ∧ (none ∉ P → none ∉ P') ∧
    Reach c tbl n ⟨⟨P ++ (ts ++ Q).map some, P.length, pr⟩ :: S, D, F, none⟩ ⟨⟨P' ++ Q.map some, P'.length, pr⟩ :: S, D, F, none⟩

section
variable {c : Cfg} {tbl : Table} {n : Nat} {S : List Helper} {D : NoExp} {F : List Frame} {pr : Bool} {P : List (Option Tok)}

theorem Scans.nil {Q : List Tok} : Scans c tbl n S D F pr P [] Q [] := ⟨P, (List.append_nil _).symm, id, .refl ..⟩

/-- an iteration that leaves a token `a'` in the place of `a` and moves on -/
theorem Scans.cons {a a' : Tok} {as Q X : List Tok}
    (hstep : step c tbl ⟨⟨P ++ some a :: (as ++ Q).map some, P.length, pr⟩ :: S, D, F, none⟩
      = .cont ⟨⟨P ++ some a' :: (as ++ Q).map some, P.length + 1, pr⟩ :: S, D, F, none⟩)
    (h : Scans c tbl n S D F pr (P ++ [some a']) as Q X) : Scans c tbl (1 + n) S D F pr P (a :: as) Q (a' :: X) := by
  obtain ⟨P', hp, hnh, hrun⟩ := h
  refine ⟨P', by rw [hp, filterSome_snoc_some, List.append_assoc]; rfl, fun h => hnh (by simpa using h), .step ?_⟩
  rw [List.cons_append, List.map_cons, hstep, shift]
  exact .cont hrun

theorem Scans.mono {m : Nat} {ts Q X : List Tok} (h : Scans c tbl n S D F pr P ts Q X) (hnm : n ≤ m) :
    Scans c tbl m S D F pr P ts Q X :=
  let ⟨P', hp, hnh, hr⟩ := h
  ⟨P', hp, hnh, hr.mono hnm⟩
end

/-- what the simulation says about one nesting budget -/
def SimAt (c : Cfg) (tbl : Table) (d : Nat) (ex : NoExp → List Tok → List Tok) (fit : NoExp → List Tok → Bool)
    (cost : NoExp → List Tok → Nat) : Prop :=
  ∀ (D : NoExp) (ts Q : List Tok) (P : List (Option Tok)) (S : List Helper) (pr : Bool) (F : List Frame),
    fit D ts = true → S.length + d + 1 < c.lim → Scans c tbl (cost D ts) S D F pr P ts Q (ex D ts)

section
variable {c : Cfg} {tbl : Table} {d : Nat} {ex : NoExp → List Tok → List Tok} {fit : NoExp → List Tok → Bool}
  {cost : NoExp → List Tok → Nat}

theorem SimAt.exact (hsim : SimAt c tbl d ex fit cost) (D : NoExp) (ts pre Q : List Tok) (S : List Helper) (pr : Bool)
    (F : List Frame) (hfit : fit D ts = true) (hlim : S.length + d + 1 < c.lim) :
    Reach c tbl (cost D ts) ⟨⟨(pre ++ (ts ++ Q)).map some, pre.length, pr⟩ :: S, D, F, none⟩
      ⟨⟨(pre ++ (ex D ts ++ Q)).map some, (pre ++ ex D ts).length, pr⟩ :: S, D, F, none⟩ := by
  obtain ⟨P', hp, hnh, hrun⟩ := hsim D ts Q (pre.map some) S pr F hfit hlim
  rw [← map_filterSome (hnh (by simp)), hp, filterSome_map] at hrun
  simpa using hrun

/-- a new stream that holds `ts` and nothing else is run to exhaustion -/
theorem SimAt.fresh (hsim : SimAt c tbl d ex fit cost) (D : NoExp) (ts : List Tok) (S : List Helper) (pr : Bool)
    (F : List Frame) (hfit : fit D ts = true) (hlim : S.length + d + 1 < c.lim) :
    Reach c tbl (cost D ts) ⟨⟨ts.map some, 0, pr⟩ :: S, D, F, none⟩ ⟨⟨(ex D ts).map some, (ex D ts).length, pr⟩ :: S, D, F, none⟩ := by
  simpa using hsim.exact D ts [] [] S pr F hfit hlim

theorem SimAt.mono {cost' : NoExp → List Tok → Nat} (hsim : SimAt c tbl d ex fit cost) (h : ∀ D ts, cost D ts ≤ cost' D ts) :
    SimAt c tbl d ex fit cost' := fun D ts Q P S pr F hfit hlim => (hsim D ts Q P S pr F hfit hlim).mono (h D ts)
end

/-- iterations granted for an expansion that is spliced into the stream below: the machine before the repair of D11 scans the
    spliced tokens again, one iteration each -/
def rescanCost (c : Cfg) (ex : NoExp → List Tok → List Tok) (cost : NoExp → List Tok → Nat) (D : NoExp) (ts : List Tok) : Nat :=
  cost D ts + if c.adv then 0 else (ex D ts).length

theorem rescanCost_adv {c : Cfg} (hadv : c.adv = true) (ex : NoExp → List Tok → List Tok) (cost : NoExp → List Tok → Nat) :
    rescanCost c ex cost = cost := by
  funext D ts; simp [rescanCost, hadv]

theorem needsPre_eq (m : Macro) (hv : m.variadic = false) (i : Nat) : needsPre m i = needs m i := by
  simp only [needsPre, hv, Bool.false_and, Bool.false_eq_true, if_false, needs]

theorem replRef_some (m : Macro) (ex : List Tok → List Tok) (args : List (List Tok)) (repl : List Tok)
    (h : replRef m ex args = some repl) : replaceFn m (argList m ex args 0) = .ok repl := by
  unfold replRef at h
  split at h
  · cases h; assumption
  · cases h

theorem filterSome_some_map (l : List Tok) (P : List (Option Tok)) : filterSome (l.map some ++ P) = l ++ filterSome P := by
  rw [filterSome_append, filterSome_map]

/-- the processing of the collected arguments: every marked argument is pre-expanded by a nested run (push a frame, run the
    argument stream to exhaustion, return), then the substituted replacement list is pushed -/
theorem procArgs_sim (c : Cfg) (tbl : Table) (d : Nat) (ex : NoExp → List Tok → List Tok) (fit : NoExp → List Tok → Bool)
    (cost : NoExp → List Tok → Nat) (hsim : SimAt c tbl d ex fit cost) (hex0 : ∀ D, ex D [] = [])
    (pw : Bool) (m : Macro) (hv : m.variadic = false) (top2 : Helper) (S : List Helper) (D : NoExp) (F : List Frame)
    (hlim : S.length + 1 + d + 1 < c.lim) :
    ∀ (todo : List (List Tok)) (done : List Arg) (repl : List Tok), (∀ a ∈ todo, fit (none :: D) a = true) →
      replaceFn m (done ++ argList m (ex (none :: D)) todo done.length) = .ok repl →
      ReachO c tbl (todo.map fun a => cost (none :: D) a + 2).sum (processArgs c pw m todo done ⟨top2 :: S, D, F, none⟩)
        ⟨⟨(fixpw repl pw).map some, 0, false⟩ :: top2 :: S, some m.name :: D, F, none⟩ := by
  intro todo
  induction todo with
  | nil =>
    intro done repl _ hr
    rw [argList, List.append_nil] at hr
    have hov : ¬ ((top2 :: S).length + 1 ≥ c.lim) := by rw [List.length_cons]; omega
    simp only [processArgs, hr, hov, if_false]
    exact .cont (.refl ..)
  | cons a rest ih =>
    intro done repl hfit hr
    have hov : ¬ ((top2 :: S).length ≥ c.lim) := by rw [List.length_cons]; omega
    -- the remaining arguments, once this one has been appended to `done` as `x`
    have next : ∀ x : Arg, x :: argList m (ex (none :: D)) rest (done.length + 1) = argList m (ex (none :: D)) (a :: rest) done.length →
        ReachO c tbl (rest.map fun a => cost (none :: D) a + 2).sum (processArgs c pw m rest (done ++ [x]) ⟨top2 :: S, D, F, none⟩)
          ⟨⟨(fixpw repl pw).map some, 0, false⟩ :: top2 :: S, some m.name :: D, F, none⟩ := by
      intro x hx
      refine ih (done ++ [x]) repl (fun y hy => hfit y (List.mem_cons_of_mem _ hy)) ?_
      rw [List.append_assoc, List.length_append, List.length_singleton, List.singleton_append, hx]
      exact hr
    rw [List.map_cons, List.sum_cons, processArgs, needsPre_eq m hv]
    by_cases hn : needs m done.length = true
    · rw [if_pos hn, if_neg hov]
      by_cases he : a.isEmpty = true
      · rw [if_pos he]
        obtain rfl : a = [] := List.isEmpty_iff.mp he
        exact (next ⟨[], some []⟩ (by rw [argList, if_pos hn, hex0])).mono (Nat.le_add_left ..)
      · rw [if_neg he]
        have hrun1 := hsim.fresh (none :: D) a (top2 :: S) true (⟨pw, m, a, rest, done⟩ :: F)
          (hfit a (List.mem_cons_self ..)) (by rw [List.length_cons]; omega)
        -- the argument stream is exhausted: the nested `expand` returns, the suspended loop goes on
        have h2 := next ⟨a, some (ex (none :: D) a)⟩ (by rw [argList, if_pos hn])
        exact .cont ((hrun1.trans (.step (by
          rw [step_end c tbl _ _ (by simp), filterSome_map]
          exact .cont (.step (by rw [List.tail_cons, step_ret]; exact h2))))).mono (by omega))
    · rw [if_neg hn]
      exact (next ⟨a, none⟩ (by rw [argList, if_neg hn])).mono (Nat.le_add_left ..)

theorem mstep_stay (c : Cfg) (tbl : Table) (P : List (Option Tok)) (as Q : List Tok) (S : List Helper) (D : NoExp) (F : List Frame)
    (pr : Bool) (a a' : Tok) (hd : a.text ≠ "defined") (h : headOf tbl D a as = .stay a' true) :
    step c tbl ⟨⟨P ++ some a :: (as ++ Q).map some, P.length, pr⟩ :: S, D, F, none⟩
      = .cont ⟨⟨P ++ some a' :: (as ++ Q).map some, P.length + 1, pr⟩ :: S, D, F, none⟩ := by
  obtain ⟨hk, e⟩ | ⟨hk, ⟨hq, e⟩ | ⟨hq, e, hm | ⟨m, ps, x, xs, hm, ha, rfl, hx⟩⟩⟩ := headOf_stay h <;> subst a'
  · exact step_nonident c tbl P _ pr S D F a hk
  · exact step_painted c tbl P _ pr S D F a hk hd hq
  · exact step_noMacro c tbl P _ pr S D F a hk hd hq hm
  · exact mstep_bare c tbl P _ S D F pr a x m ps (by simp [hk]) (by simpa using hd) hq hm ha hx

/-- one level of scanning, given the simulation for the next lower budget.  Stated for every `Cfg`: the machine before the
    repair of D11 (`adv = false`) scans the tokens of a spliced expansion again; that changes nothing when they are `Stable`
    (`hst`; it fails for the name of a function-like macro that was not called, which is finding D11) and takes one
    iteration for each (`rescanCost`). -/
theorem scan_simS (c : Cfg) (tbl : Table) (d : Nat) (ex : NoExp → List Tok → List Tok)
    (fit : NoExp → List Tok → Bool) (cost : NoExp → List Tok → Nat) (hsim : SimAt c tbl d ex fit cost) (hex0 : ∀ D, ex D [] = [])
    (hst : c.adv = false → ∀ x D body, fit (some x :: D) body = true → ∀ t ∈ ex (some x :: D) body, Stable tbl D t) :
    ∀ (n : Nat) (D : NoExp) (ts Q : List Tok) (P : List (Option Tok)) (S : List Helper) (pr : Bool) (F : List Frame),
      scanFitS tbl ex fit n D ts = true → S.length + (d + 1) + 1 < c.lim →
      Scans c tbl (scanCostS tbl ex (rescanCost c ex cost) n D ts) S D F pr P ts Q (scanRefS tbl ex n D ts) := by
  intro n
  induction n with
  | zero =>
    intro D ts Q P S pr F hfit _
    obtain rfl : ts = [] := List.isEmpty_iff.mp hfit
    exact .nil
  | succ n ih =>
    intro D ts Q P S pr F hfit hlim
    cases ts with
    | nil => exact .nil
    | cons a as =>
      rw [scanFitS_cons, Bool.and_eq_true] at hfit
      obtain ⟨hndef, hfit⟩ := hfit
      have hd' : a.text ≠ "defined" := by simpa using hndef
      -- an iteration that ends with a replacement list `body` pushed above the stream, whose consumed part `Pb` holds the tokens
      -- of `P`: `body` is expanded, spliced in (which removes the holes of `Pb`), and the scan goes on behind it
      have pushed : ∀ (x : String) (body rest : List Tok) (Pb : List (Option Tok)) (k : Nat), filterSome Pb = filterSome P →
          fit (some x :: D) body = true → scanFitS tbl ex fit n D rest = true →
          ReachO c tbl k (step c tbl ⟨⟨P ++ some a :: (as ++ Q).map some, P.length, pr⟩ :: S, D, F, none⟩)
            ⟨⟨body.map some, 0, false⟩ :: ⟨Pb ++ (rest ++ Q).map some, Pb.length, pr⟩ :: S, some x :: D, F, none⟩ →
          Scans c tbl (1 + (k + (rescanCost c ex cost (some x :: D) body + 1 + scanCostS tbl ex (rescanCost c ex cost) n D rest)))
            S D F pr P (a :: as) Q (ex (some x :: D) body ++ scanRefS tbl ex n D rest) := by
        intro x body rest Pb k hPb hfb hfr hpush
        have hrun1 := hsim.fresh (some x :: D) body (⟨Pb ++ (rest ++ Q).map some, Pb.length, pr⟩ :: S) false F hfb
          (by rw [List.length_cons]; omega)
        obtain ⟨P', hp2, hnh, hrun2⟩ := ih D rest Q ((filterSome Pb ++ ex (some x :: D) body).map some) S pr F hfr hlim
        have hpop := run_pop c tbl ((ex (some x :: D) body).map some) Pb (rest ++ Q) S (some x) D F pr
        rw [filterSome_map, List.length_map] at hpop
        refine ⟨P', by rw [hp2, filterSome_map, hPb, List.append_assoc], fun _ => hnh (by simp),
          .step (hpush.trans ((hrun1.trans ((hpop fun h => hst h x D body hfb).trans hrun2)).mono ?_))⟩
        rw [rescanCost]; omega
      rw [scanRefS_cons, scanCostS_cons]
      cases hh : headOf tbl D a as with
      | stay a' ok =>
        simp only [hh, Head.elim, Bool.and_eq_true] at hfit
        obtain ⟨rfl, hf⟩ := hfit
        exact .cons (mstep_stay c tbl P as Q S D F pr a a' hd' hh) (ih D as Q _ S pr F hf hlim)
      | obj m =>
        obtain ⟨hk', hq', hm, hargs⟩ := headOf_obj hh
        simp only [hh, Head.elim, Bool.and_eq_true] at hfit ⊢
        refine (pushed m.name _ as (P ++ [none]) 0 (filterSome_snoc_none P) hfit.1 hfit.2 ?_).mono (by omega)
        rw [step_object c tbl P _ pr S D F a (by simpa using hk') hd' hq' m hm hargs, if_neg (by omega), shift]
        exact .cont (.refl ..)
      | call m ps args rest =>
        obtain ⟨hk', hq', hm, hargs, hcall⟩ := headOf_call hh
        simp only [hh, Head.elim] at hfit
        cases hrr : replRef m (ex (none :: D)) args with
        | none => rw [hrr] at hfit; cases hfit
        | some repl =>
        simp only [hrr, Head.elim, Bool.and_eq_true, List.all_eq_true, Bool.not_eq_true'] at hfit ⊢
        obtain ⟨⟨⟨hplain1, hfa⟩, hfb⟩, hfr⟩ := hfit
        obtain ⟨lp, r, rfl, hlp, hsp⟩ := callOf_some hcall
        obtain ⟨P2, hp2, hstep⟩ := mstep_call c tbl P S D F pr a lp (r ++ Q) m ps args (rest ++ Q) hk' (by simpa using hd') hq' hm hargs
          hplain1 hlp (splitArgs_append Q r _ _ _ _ _ hsp)
        have hrunp := procArgs_sim c tbl d ex fit (rescanCost c ex cost) (hsim.mono fun _ _ => Nat.le_add_right _ _) hex0
          a.pw m hplain1 ⟨P2 ++ (rest ++ Q).map some, P2.length, pr⟩ S D F (by omega) args [] repl hfa (replRef_some m _ args repl hrr)
        exact (pushed m.name _ rest P2 _ hp2 hfb hfr (by rw [List.cons_append, List.map_cons, hstep]; exact hrunp)).mono (by omega)

theorem RefS_nil (tbl : Table) (d : Nat) (D : NoExp) : RefS tbl d D [] = [] := by
  cases d <;> rfl

/-- nesting budget 0: only the empty list fits -/
theorem simAt_zero (c : Cfg) (tbl : Table) (cost : NoExp → List Tok → Nat) : SimAt c tbl 0 (RefS tbl 0) (fitsbS tbl 0) cost := by
  intro D ts Q P S pr F hfit _
  obtain rfl : ts = [] := List.isEmpty_iff.mp hfit
  exact .nil

/-- **C03 (function-like macros)**: the machine with the repaired `splice` computes the reference, for every nesting budget -/
theorem fsimS (c : Cfg) (tbl : Table) (hadv : c.adv = true) :
    ∀ d, SimAt c tbl d (RefS tbl d) (fitsbS tbl d) (costS tbl d) := by
  intro d
  induction d with
  | zero => exact simAt_zero c tbl _
  | succ d ih =>
    intro D ts Q P S pr F hfit hlim
    have h := scan_simS c tbl d _ _ _ ih (RefS_nil tbl d) (fun h => absurd hadv (by simp [h])) ts.length D ts Q P S pr F hfit hlim
    rwa [rescanCost_adv hadv] at h

/-- top level: `expandWith` returns the expansion whenever limit and fuel are large enough (the run starts with
    `no_expand = [None]`) -/
theorem SimAt.expandWith {c : Cfg} {tbl : Table} {d : Nat} {ex : NoExp → List Tok → List Tok} {fit : NoExp → List Tok → Bool}
    {cost : NoExp → List Tok → Nat} (hsim : SimAt c tbl d ex fit cost) (hex0 : ex [none] [] = []) (ts : List Tok)
    (hfit : fit [none] ts = true) (hlim : d + 1 < c.lim) (fuel : Nat) (hfuel : cost [none] ts + 2 ≤ fuel) :
    expandWith c tbl fuel ts = .ok (ex [none] ts) := by
  cases ts with
  | nil => rw [MX.expandWith, if_neg (by omega), hex0]; rfl
  | cons a as =>
    have hrun := hsim.fresh [none] (a :: as) [] false [] hfit (by simpa using hlim)
    rw [expandWith_of_reach c tbl _ (List.cons_ne_nil _ _) (by omega) _ ((ex [none] (a :: as)).map some)
      (by simpa [initState] using hrun) fuel hfuel, filterSome_map]

theorem expandWith_str (c : Cfg) (tbl : Table) (hadv : c.adv = true) (d : Nat) (ts : List Tok)
    (hfit : fitsbS tbl d [] ts = true) (hlim : d + 1 < c.lim) (fuel : Nat) (hfuel : costS tbl d [] ts + 2 ≤ fuel) :
    expandWith c tbl fuel ts = .ok (RefS tbl d [] ts) := by
  obtain ⟨hR, hF, hC⟩ := ref_congrS tbl d [none] [] (eqv_none [])
  rw [← hR]
  exact (fsimS c tbl hadv d).expandWith (RefS_nil ..) ts (by rw [hF]; exact hfit) hlim fuel (by rw [hC]; exact hfuel)

end CbiVerif.MX
