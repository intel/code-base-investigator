import CbiVerif.Lemmas.MacroFunSimple
import CbiVerif.Lemmas.MacroSpecTok
/-! # C03 against the specification, part A: the specification's side at a call

The token and table classes of the comparison (`STok`, `STbl`; `CTok` here, with `ConfTbl` of part B, and `PlainTok` / `PlainTbl` are the classes of the
two statements about `cbiExpand`), and what `Spec.Prosser.expand` / `collect` / `subst` do on the image (`toSpec`) of model tokens
at a function-like macro without `#` / `##` / variadic parameters whose call arguments contain no macro name (`Inert`):

* `collect_split` — the specification's argument collection agrees with the model's `splitArgs` (step by step: `collect_toSpec`);
* `subst_fun`, `specSubst_map` — the specification's substitution agrees with the model's `substRef`;
* `spec_keep`, `spec_inert` — a token that is no macro name outside its hide set is copied, so a list without macro names is its
  own complete macro expansion;
* `step_call`, `step_bare` — one iteration of the specification's loop at a function-like macro name. -/
namespace CbiVerif.MX
open CbiVerif.PP
open CbiVerif.Spec.Prosser (T K Macros Unspec)

/-- the specification's table for a table that may hold function-like macros (none of them variadic) -/
def specTableF (tbl : Table) : Macros :=
  tbl.map fun e => ⟨e.1, e.2.args, false, e.2.replacement.map (toSpec [])⟩

/-- tokens the comparison is about: no `#` / `##` / `defined`, a token that was painted earlier is not the name of a macro, and a
    token of kind `unknown` (which the lexer never gives these spellings) is not spelled like a parenthesis or a comma.  Literals
    spelled `,` `(` `)` are inside: since the repair of finding D44 only punctuators delimit arguments (`dtext`) -/
structure CTok (tbl : Table) (t : Tok) : Prop where
  paren : ∀ s, (s = "(" ∨ s = ")" ∨ s = ",") → t.kind = .unknown → t.text ≠ s
  nohash : t.text ≠ "#"
  nocat : t.text ≠ "##"
  nodef : t.text ≠ "defined"
  live : t.expandable = true ∨ (t.kind = .ident → tbl.get t.text = none)

def ctokb (tbl : Table) (t : Tok) : Bool :=
  (t.kind != .unknown || (t.text != "(" && t.text != ")" && t.text != ",")) &&
  t.text != "#" && t.text != "##" && t.text != "defined" &&
  (t.expandable || (t.kind != .ident || (tbl.get t.text).isNone))

theorem ctok_of_check (tbl : Table) (t : Tok) (h : ctokb tbl t = true) : CTok tbl t := by
  simp only [ctokb, Bool.and_eq_true, Bool.or_eq_true, bne_iff_ne, ne_eq, Option.isNone_iff_eq_none] at h
  obtain ⟨⟨⟨⟨h1, h2⟩, h3⟩, h4⟩, h5⟩ := h
  refine ⟨?_, h2, h3, h4, ?_⟩
  · intro s hs hk
    rcases h1 with h1 | h1
    · exact absurd hk h1
    · rcases hs with rfl | rfl | rfl
      · exact h1.1.1
      · exact h1.1.2
      · exact h1.2
  · rcases h5 with h5 | h5
    · exact Or.inl h5
    · right; intro hk
      rcases h5 with h5 | h5
      · exact absurd hk h5
      · exact h5

def ParenOk (t : Tok) : Prop := ∀ s, (s = "(" ∨ s = ")" ∨ s = ",") → t.kind = .unknown → t.text ≠ s

/-- what the comparison needs of a token, wherever it stands: an identifier is not `defined`, a token that was painted earlier is not
    the name of a macro, and where the table holds a function-like macro (elsewhere the specification never looks for a parenthesis)
    the token is `ParenOk`.  `CTok` and, on object-like tables, `PlainTok` are special cases. -/
structure STok (tbl : Table) (t : Tok) : Prop where
  nodef : t.kind = .ident → t.text ≠ "defined"
  live : t.expandable = true ∨ (t.kind = .ident → tbl.get t.text = none)
  paren : ∀ n m, tbl.get n = some m → m.args ≠ none → ParenOk t

structure STbl (tbl : Table) : Prop where
  named : ∀ n m, tbl.get n = some m → m.name = n
  toks : ∀ n m, tbl.get n = some m → ∀ t ∈ m.replacement, STok tbl t ∧ t.text ≠ "##" ∧ (m.args ≠ none → t.text ≠ "#")

theorem STok.pw {tbl : Table} {t : Tok} (h : STok tbl t) (w : Bool) : STok tbl { t with pw := w } := ⟨h.nodef, h.live, h.paren⟩

theorem STok.paint {tbl : Table} {t : Tok} (h : STok tbl t) (hi : Inert tbl t) : STok tbl (paint t) := ⟨h.nodef, .inr hi.2, h.paren⟩

theorem CTok.stok {tbl : Table} {t : Tok} (h : CTok tbl t) : STok tbl t := ⟨fun _ => h.nodef, h.live, fun _ _ _ _ => h.paren⟩

theorem CTok.pw {tbl : Table} {t : Tok} (h : CTok tbl t) (w : Bool) : CTok tbl { t with pw := w } :=
  ⟨h.paren, h.nohash, h.nocat, h.nodef, h.live⟩

theorem CTok.paint {tbl : Table} {t : Tok} (h : CTok tbl t) (hi : Inert tbl t) : CTok tbl (paint t) :=
  ⟨h.paren, h.nohash, h.nocat, h.nodef, .inr hi.2⟩

theorem PlainTbl.stok {tbl : Table} (hT : PlainTbl tbl) {t : Tok} (h : PlainTok t) : STok tbl t :=
  ⟨h.2.2, .inl h.1, fun n m hm ha => absurd (hT.ok.objLike n m hm) ha⟩

theorem PlainTbl.stbl {tbl : Table} (h : PlainTbl tbl) : STbl tbl :=
  ⟨h.ok.named, fun n m hm t ht => ⟨h.stok (h.plain n m hm t ht), (h.plain n m hm t ht).2.1, fun ha => absurd (h.ok.objLike n m hm) ha⟩⟩

theorem spell_of_punct (t : Tok) (h : kindOf t.kind = K.punct) : spellTok t = t.text := by
  cases t with
  | mk k tx pw ex => cases k <;> simp_all [kindOf, spellTok]

theorem isP_paren (hs : List String) (t : Tok) (h : ParenOk t) (s : String) (hs' : s = "(" ∨ s = ")" ∨ s = ",") :
    Spec.Prosser.isP (toSpec hs t) s = (dtext t == s) := by
  have hne : ("" == s) = false := by rcases hs' with rfl | rfl | rfl <;> rfl
  have hp := h s hs'
  rw [isP_toSpec_eq]
  cases t with
  | mk k tx pw ex =>
    cases k
    case op | punct => rfl
    case unknown => exact (beq_false_of_ne (hp rfl)).trans hne.symm
    all_goals exact hne.symm

theorem isDef_toSpec (hs : List String) (t : Tok) (h : t.kind = .ident → t.text ≠ "defined") :
    Spec.Prosser.isDefinedTok (toSpec hs t) = false := by
  cases t with
  | mk k tx pw ex => cases k <;> simp_all [Spec.Prosser.isDefinedTok, toSpec, kindOf, spellTok]

theorem toSpec_paint (hs : List String) (t : Tok) : toSpec hs (paint t) = toSpec hs t := rfl

/-- the specification does not see the paint: what stops a painted name there is its hide set -/
theorem toSpec_pmark (hs : List String) (D : NoExp) (t : Tok) : toSpec hs (pmark D t) = toSpec hs t :=
  pmark_of (P := fun u => toSpec hs u = toSpec hs t) D rfl (toSpec_paint hs t)

theorem map_toSpec_pmark (hs : List String) (D : NoExp) (a : List Tok) : (a.map (pmark D)).map (toSpec hs) = a.map (toSpec hs) := by
  rw [List.map_map]
  exact List.map_congr_left fun t _ => toSpec_pmark hs D t

theorem inter_self (a : List String) : Spec.Prosser.inter a a = a := by
  simp [Spec.Prosser.inter]

theorem union_union_self (hs : List String) (n : String) :
    Spec.Prosser.union hs (Spec.Prosser.union hs [n]) = Spec.Prosser.union hs [n] := by
  by_cases h : n ∈ hs
  · simp [Spec.Prosser.union, h]
  · simp [Spec.Prosser.union, h]

theorem setWs_map_toSpec (l : List Tok) (h : List String) (w : Bool) :
    Spec.Prosser.setWs (l.map (toSpec h)) w = (fixpw l w).map (toSpec h) := by
  cases l with
  | nil => simp [Spec.Prosser.setWs, fixpw]
  | cons a r => simp [Spec.Prosser.setWs, fixpw, toSpec, spellTok]

theorem setWs_map_hs (l : List T) (h : List String) (w : Bool) :
    Spec.Prosser.setWs (l.map fun x => { x with hs := Spec.Prosser.union x.hs h }) w
      = (Spec.Prosser.setWs l w).map fun x => { x with hs := Spec.Prosser.union x.hs h } := by
  cases l with
  | nil => simp [Spec.Prosser.setWs]
  | cons a r => simp [Spec.Prosser.setWs]

theorem map_hs_toSpec (l : List Tok) (hs h : List String) :
    (l.map (toSpec hs)).map (fun x => { x with hs := Spec.Prosser.union x.hs h }) = l.map (toSpec (Spec.Prosser.union hs h)) := by
  simp [toSpec]

theorem specTableF_get (tbl : Table) (n : String) : Macros.get (specTableF tbl) n =
    (tbl.find? (·.1 == n)).map fun e => ⟨e.1, e.2.args, false, e.2.replacement.map (toSpec [])⟩ := by
  unfold Macros.get specTableF
  rw [List.find?_map]
  rfl

theorem specOf_specTableF (tbl : Table) : SpecOf (specTableF tbl) tbl := by
  intro n
  rw [specTableF_get]
  unfold Table.get
  rw [Option.map_map]
  cases h : tbl.find? (·.1 == n) with
  | none => rfl
  | some e =>
    obtain rfl : e.1 = n := by simpa using List.find?_some h
    rfl

/-- on the image of a model token the specification's collection takes the step of `splitArgs_cons` (the three spellings exclude one
    another, so the order of the tests does not matter), its depth being the model's less one -/
theorem collect_toSpec (hs : List String) (tok : Tok) (h : ParenOk tok) {d : Nat} (hd : d ≠ 0) (r : List T) (args : List (List T))
    (cur commas : List T) :
    Spec.Prosser.collect (toSpec hs tok :: r) (d - 1) args cur commas =
      if dtext tok == "," && d == 1 then Spec.Prosser.collect r (d - 1) (args ++ [cur]) [] (commas ++ [toSpec hs tok])
      else if dtext tok == "(" then Spec.Prosser.collect r (d + 1 - 1) args (cur ++ [toSpec hs tok]) commas
      else if dtext tok == ")" then
        if d == 1 then .ok ⟨args ++ [cur], commas, toSpec hs tok, r⟩
        else Spec.Prosser.collect r (d - 1 - 1) args (cur ++ [toSpec hs tok]) commas
      else Spec.Prosser.collect r (d - 1) args (cur ++ [toSpec hs tok]) commas := by
  obtain ⟨k, rfl⟩ := Nat.exists_eq_succ_of_ne_zero hd
  simp only [Spec.Prosser.collect, isP_paren hs tok h "(" (.inl rfl), isP_paren hs tok h ")" (.inr (.inl rfl)),
    isP_paren hs tok h "," (.inr (.inr rfl))]
  by_cases hc : dtext tok = ","
  · simp [hc]
  · simp [hc]

/-- along a successful run of `splitArgs` the specification's collection, started on the images of the model's accumulators, takes
    the same steps -/
theorem collect_split (hs : List String) (r : List Tok) (args : List (List Tok)) (cur : List Tok) (d : Nat)
    (args' : List (List Tok)) (rest : List Tok) (h : splitArgs r args cur d = some (args', rest)) (hd : d ≠ 0)
    (hr : ∀ t ∈ r, ParenOk t) (tail commas : List T) : ∃ commas' rp,
      Spec.Prosser.collect (r.map (toSpec hs) ++ tail) (d - 1) (args.map (·.map (toSpec hs))) (cur.map (toSpec hs)) commas
        = .ok ⟨args'.map (·.map (toSpec hs)), commas', rp, rest.map (toSpec hs) ++ tail⟩ ∧ rp.hs = hs := by
  fun_induction splitArgs r args cur d generalizing commas with
  | case1 => cases h
  | case2 tok r args cur d h1 ih =>
    obtain ⟨ht, hr⟩ := List.forall_mem_cons.mp hr
    rw [List.map_cons, List.cons_append, collect_toSpec hs tok ht hd, if_pos h1]
    simpa only [List.map_append, List.map_cons, List.map_nil] using ih h hd hr (commas ++ [toSpec hs tok])
  | case3 tok r args cur d h1 h2 ih =>
    obtain ⟨ht, hr⟩ := List.forall_mem_cons.mp hr
    rw [List.map_cons, List.cons_append, collect_toSpec hs tok ht hd, if_neg h1, if_pos h2]
    simpa only [List.map_append, List.map_cons, List.map_nil] using ih h (Nat.succ_ne_zero d) hr commas
  | case4 tok r args cur d h1 h2 h3 h4 =>
    obtain ⟨ht, -⟩ := List.forall_mem_cons.mp hr
    rw [List.map_cons, List.cons_append, collect_toSpec hs tok ht hd, if_neg h1, if_neg h2, if_pos h3, if_pos h4]
    obtain ⟨rfl, rfl⟩ := Prod.mk.inj (Option.some.inj h)
    exact ⟨commas, toSpec hs tok, by rw [List.map_append, List.map_cons, List.map_nil], rfl⟩
  | case5 tok r args cur d h1 h2 h3 h4 ih =>
    obtain ⟨ht, hr⟩ := List.forall_mem_cons.mp hr
    rw [List.map_cons, List.cons_append, collect_toSpec hs tok ht hd, if_neg h1, if_neg h2, if_pos h3, if_neg h4]
    simpa only [List.map_append, List.map_cons, List.map_nil] using ih h (by rw [beq_iff_eq] at h4; omega) hr commas
  | case6 tok r args cur d h1 h2 h3 ih =>
    obtain ⟨ht, hr⟩ := List.forall_mem_cons.mp hr
    rw [List.map_cons, List.cons_append, collect_toSpec hs tok ht hd, if_neg h1, if_neg h2, if_neg h3]
    simpa only [List.map_append, List.map_cons, List.map_nil] using ih h hd hr commas

/-- the specification's substitution of a replacement list without `#` / `##`, on model tokens -/
def specSubst (ps : List String) (A : List (List T)) : List Tok → List T
  | [] => []
  | tok :: r =>
    match paramIdx ps tok with
    | some i => Spec.Prosser.setWs (A.getD i []) tok.pw ++ specSubst ps A r
    | none => toSpec [] tok :: specSubst ps A r

theorem subst_fun (ex : List T → Except Unspec (List T)) (ps : List String) (A : List (List T))
    (hex : ∀ i, ex (A.getD i []) = .ok (A.getD i [])) :
    ∀ (body : List Tok) (fuel : Nat) (os : List T) (pm : Bool), (∀ t ∈ body, t.text ≠ "#" ∧ t.text ≠ "##") → body.length < fuel →
      Spec.Prosser.subst ex (some ps) A fuel (body.map (toSpec [])) os pm = .ok (os ++ specSubst ps A body) := by
  intro body
  induction body with
  | nil =>
    intro fuel os pm _ hl
    obtain ⟨f, rfl⟩ : ∃ f, fuel = f + 1 := ⟨fuel - 1, by simp at hl; omega⟩
    simp [Spec.Prosser.subst, specSubst]
  | cons t body ih =>
    intro fuel os pm hp hl
    obtain ⟨f, rfl⟩ : ∃ f, fuel = f + 1 := ⟨fuel - 1, by simp at hl; omega⟩
    have ht := hp t (List.mem_cons_self ..)
    have hnext : ((body.map (toSpec [])).head?.map (Spec.Prosser.isP · "##")).getD false = false := by
      cases body with
      | nil => rfl
      | cons b bs => exact isP_toSpec_ne [] b "##" (hp b (List.mem_cons_of_mem _ (List.mem_cons_self ..))).2
    have hl' : body.length < f := Nat.lt_of_succ_lt_succ hl
    have hp' : ∀ x ∈ body, x.text ≠ "#" ∧ x.text ≠ "##" := fun x hx => hp x (List.mem_cons_of_mem _ hx)
    rw [List.map_cons, subst_tok _ _ _ _ _ _ _ _ (isP_toSpec_ne [] t "#" ht.1) (isP_toSpec_ne [] t "##" ht.2) hnext, pidx_toSpec, specSubst]
    cases hpi : paramIdx ps t with
    | none => simp only []; rw [ih f _ false hp' hl', List.append_assoc]; rfl
    | some i => simp only [hex i]; rw [ih f _ false hp' hl', List.append_assoc]; rfl

theorem specSubst_map (ps : List String) (A : List (List T)) (E : List (List Tok)) (h' : List String)
    (hA : ∀ i, (A.getD i []).map (fun x => { x with hs := Spec.Prosser.union x.hs h' }) = (E.getD i []).map (toSpec h')) :
    ∀ (body : List Tok),
      (specSubst ps A body).map (fun x => { x with hs := Spec.Prosser.union x.hs h' }) = (substRef ps E body).map (toSpec h') := by
  intro body
  induction body with
  | nil => rfl
  | cons tok r ih =>
    simp only [specSubst, substRef]
    cases paramIdx ps tok with
    | none =>
      simp only [List.map_cons, ih]
      congr 1
      simp [toSpec, union_nil_left]
    | some i =>
      simp only [List.map_append, ih]
      congr 1
      rw [← setWs_map_hs, hA i, setWs_map_toSpec]

/-- the specification copies the image of a token that is not `defined` and, if it is an identifier outside its hide set, not the
    name of a macro -/
theorem spec_keep {ms : Macros} {tbl : Table} (hms : SpecOf ms tbl) (hs : List String) (t : Tok)
    (hdef : t.kind = .ident → t.text ≠ "defined") (hget : t.kind = .ident → hs.contains t.text = false → tbl.get t.text = none)
    (f : Nat) (top : Bool) (ts out : List T) :
    Spec.Prosser.expand ms (f + 1) top (toSpec hs t :: ts) out = Spec.Prosser.expand ms f top ts (out ++ [toSpec hs t]) := by
  by_cases hc : (t.kind != TKind.ident || hs.contains t.text) = true
  · exact step_copy _ _ _ _ _ _ (isDef_toSpec hs t hdef) ((copyTest_toSpec hs t).trans hc)
  · obtain ⟨hk, hn⟩ := Bool.or_eq_false_iff.mp (Bool.eq_false_iff.mpr hc)
    have hki : t.kind = .ident := by simpa using hk
    exact step_nomacro _ _ _ _ _ _ (isDef_toSpec hs t hdef) ((copyTest_toSpec hs t).trans (Bool.eq_false_iff.mpr hc))
      (by rw [show (toSpec hs t).text = t.text from spellTok_ident t hki, hms, hget hki hn]; rfl)

theorem spec_inert {ms : Macros} {tbl : Table} (hms : SpecOf ms tbl) (hs : List String) : ∀ (a : List Tok) (F : Nat) (top : Bool)
    (out : List T), a.length < F → (∀ t ∈ a, Inert tbl t) →
    Spec.Prosser.expand ms F top (a.map (toSpec hs)) out = .ok (out ++ a.map (toSpec hs)) := by
  intro a
  induction a with
  | nil =>
    intro F top out hl _
    obtain ⟨f, rfl⟩ : ∃ f, F = f + 1 := ⟨F - 1, by simp at hl; omega⟩
    simp [Spec.Prosser.expand]
  | cons t a ih =>
    intro F top out hl hin
    obtain ⟨f, rfl⟩ : ∃ f, F = f + 1 := ⟨F - 1, by simp at hl; omega⟩
    obtain ⟨hi, hin⟩ := List.forall_mem_cons.mp hin
    rw [List.map_cons, spec_keep hms hs t (fun _ => hi.1) (fun hk _ => hi.2 hk), ih f top _ (Nat.lt_of_succ_lt_succ hl) hin,
      List.append_assoc]
    rfl

/-! ### one iteration of the specification's loop at the name of a function-like macro -/
theorem step_bare (ms : Macros) (f : Nat) (top : Bool) (t p : T) (r out : List T) (m : Spec.Prosser.Macro) (ps : List String)
    (h1 : Spec.Prosser.isDefinedTok t = false) (h2 : (t.kind != K.id || t.hs.contains t.text) = false)
    (h3 : ms.get t.text = some m) (h4 : m.params = some ps) (hp : Spec.Prosser.isP p "(" = false) :
    Spec.Prosser.expand ms (f + 1) top (t :: p :: r) out = Spec.Prosser.expand ms f top (p :: r) (out ++ [t]) := by
  simp only [Spec.Prosser.expand, h1, Bool.false_eq_true, if_false, h2, h3, h4, hp, Bool.not_false, if_true]

theorem step_call (ms : Macros) (f : Nat) (top : Bool) (t p : T) (r out : List T) (m : Spec.Prosser.Macro) (ps : List String)
    (c : Spec.Prosser.Call) (args : List (List T)) (rp : List T)
    (h1 : Spec.Prosser.isDefinedTok t = false) (h2 : (t.kind != K.id || t.hs.contains t.text) = false)
    (h3 : ms.get t.text = some m) (h4 : m.params = some ps) (hp : Spec.Prosser.isP p "(" = true)
    (hc : Spec.Prosser.collect r 0 [] [] [] = .ok c) (hd : c.args.any (·.any Spec.Prosser.isDefinedTok) = false)
    (hb : Spec.Prosser.bindArgs m c = .ok args)
    (hs : Spec.Prosser.subst (fun a => Spec.Prosser.expand ms f false a []) (some ps) args (m.body.length + 1) m.body [] false = .ok rp) :
    Spec.Prosser.expand ms (f + 1) top (t :: p :: r) out
      = Spec.Prosser.expand ms f top
          (Spec.Prosser.setWs (rp.map fun x =>
            { x with hs := Spec.Prosser.union x.hs (Spec.Prosser.union (Spec.Prosser.inter t.hs c.rparen.hs) [t.text]) }) t.ws ++ c.rest) out := by
  simp only [Spec.Prosser.expand, h1, Bool.false_eq_true, if_false, h2, h3, h4, hp, Bool.not_true, hc, hd, hb, hs]

end CbiVerif.MX
