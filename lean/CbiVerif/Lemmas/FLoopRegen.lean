import CbiVerif.Generated.FLoopTable
import CbiVerif.Generated.FCleanTable
import CbiVerif.Model.FLoopCells
/-!
# The model of the `fortran_file_source` loop against the table regenerated by executing the loop

Finite comparisons of the one-step function `fStep` (`Lemmas/FLoopRun.lean`: `fLoop` is its iteration) with
`Generated/FLoopTable.lean`, as `Bool` functions closed by kernel `decide`; `Props/C17Loop.lean` holds the theorems.
-/
namespace CbiVerif.Fortran
namespace Regen

abbrev TRow := List (List Nat) × List Y × LEntry
abbrev TCfg := (List (List Nat) × List Y × LKey) × List TRow

/-- one probe: the C pass's own verdict "directive" is the model's `isDirText`, and the observation is the model's -/
def loopRowOK (c : TCfg) (r : TRow) : Bool :=
  (r.2.1.all fun y => isDirText (chars y.2.1) == y.2.2) &&
  r.2.2 == loopObs (cfgAfter c.1.2.1) (c.1.1.length + r.1.length) r.2.1

theorem loopRows_ok : (Gen.FLoopTable.configs.all fun c => c.2.all (loopRowOK c)) = true := by decide +kernel

def keys : List LKey := Gen.FLoopTable.configs.map (·.1.2.2)

def kindsOf (k : List Nat × List Nat) : Option (List (List (List Nat))) :=
  (Gen.FLoopTable.kinds.find? (·.1 == k)).map (·.2)

/-- the table starts at the start of the file; the configuration recorded for a prefix is the model's; every
    configuration lists exactly the kinds announced for its cleaner configuration -/
def loopShapeOK : Bool :=
  (Gen.FLoopTable.configs.head?.map (·.1)) == some ([], [], (([0], []), 0, true, false)) &&
  Gen.FLoopTable.configs.all fun c =>
    (c.1.2.1.all fun y => isDirText (chars y.2.1) == y.2.2) &&
    absCfg (cfgAfter c.1.2.1) == c.1.2.2 && some (c.2.map (·.1)) == kindsOf c.1.2.2.1

theorem loopShape_ok : loopShapeOK = true := by decide +kernel

/-- closed: the configuration after every probe is (in the abstraction) one of the listed configurations -/
def loopClosedOK : Bool :=
  Gen.FLoopTable.configs.all fun c => c.2.all fun r =>
    r.2.2.1 || keys.contains (absCfg (fRun (cfgAfter c.1.2.1) (r.2.1.map clOf)).1)

theorem loopClosed_ok : loopClosedOK = true := by decide +kernel

/-- lines of the step table the C pass hands through unchanged in kind: no backslash, not blank -/
def plainLine (l : List Nat) : Bool := !l.contains 92 && l.any fun c => !pyIsSpace (Char.ofNat c)

/-- what the loop sees of the one-line kinds among `kinds`, looked up in a row of the step table -/
def kindShapes (row : List (List Nat × Entry)) (kinds : List (List (List Nat))) :=
  kinds.filterMap fun kind => match kind with
    | [l] => (row.find? (·.1 == l)).map fun q => loopShape q.2
    | _ => none

/-- the kinds announced for a cleaner configuration contain a one-line kind for every class of the step table of
    that configuration, and the lines the C pass treats specially -/
def kindsCoverOK : Bool :=
  Gen.FLoopTable.kinds.all fun kc =>
    match Gen.FCleanTable.lines.find? (·.1 == kc.1) with
    | none => false
    | some row =>
      (row.2.all fun p => !plainLine p.1 || (kindShapes row.2 kc.2).contains (loopShape p.2)) &&
      [[[35]], [[9, 35]], [[35, 65]], [[0, 35]], [[38, 35]], [[38, 9, 35]], [[38, 35, 38]], [[65, 92], [65]], [[]]].all kc.2.contains

theorem kindsCover_ok : kindsCoverOK = true := by decide +kernel

end Regen
end CbiVerif.Fortran
