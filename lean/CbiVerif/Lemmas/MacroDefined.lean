import CbiVerif.Lemmas.MacroMachine
/-! # C03 `defined`: one loop iteration replaces `defined X` / `defined ( X )` by `1`/`0` read from the table, for every
    table; `X` itself is consumed (never looked up for expansion) and the read position ends up behind the result. -/
namespace CbiVerif.MX
open CbiVerif.PP

theorem eol_mid (P R : List (Option Tok)) (a : Option Tok) (pr : Bool) :
    (⟨P ++ a :: R, P.length, pr⟩ : Helper).eol = false := by
  simp [Helper.eol]

theorem popAll_noneol (adv : Bool) (top : Helper) (rest : List Helper) (ne : NoExp) (h : top.eol = false) :
    popAll adv top rest ne = .ok top rest ne := by
  cases rest <;> simp [popAll, h]

theorem peekDown_noneol (h : Helper) (rest : List Helper) (he : h.eol = false) :
    peekDown (h :: rest) = (h.toks[h.pos]?).join := by
  simp [peekDown, he]

theorem peekDown_mid (P R : List (Option Tok)) (a : Tok) (pr : Bool) (rest : List Helper) :
    peekDown (⟨P ++ some a :: R, P.length, pr⟩ :: rest) = some a := by
  rw [peekDown_noneol _ _ (eol_mid P R (some a) pr)]
  simp

theorem consume_mid (adv : Bool) (P R : List (Option Tok)) (a : Tok) (pr : Bool) (rest : List Helper) (ne : NoExp) :
    consume adv ⟨P ++ some a :: R, P.length, pr⟩ rest ne = .ok a ⟨P ++ none :: R, P.length + 1, pr⟩ rest ne := by
  simp [consume, popAll_noneol adv _ rest ne (eol_mid P R (some a) pr)]

theorem replaceTop_mid (adv : Bool) (P R : List (Option Tok)) (a : Option Tok) (pr : Bool) (rest : List Helper) (ne : NoExp)
    (F : List Frame) (x : Tok) :
    replaceTop adv ⟨P ++ a :: R, P.length, pr⟩ rest ne F x = .cont ⟨⟨P ++ some x :: R, P.length + 1, pr⟩ :: rest, ne, F, none⟩ := by
  simp [replaceTop, popAll_noneol adv _ rest ne (eol_mid P R a pr)]

def numTok (v : String) (pw : Bool) : Tok := ⟨.num, v, pw, true⟩

/-- `defined X` (after `defined` was consumed) -/
theorem stepDefined_plain (adv : Bool) (tbl : Table) (s : MS) (P R : List (Option Tok)) (pr : Bool) (rest : List Helper) (x : Tok)
    (hx : x.kind = .ident) (hxp : x.text ≠ "(") :
    stepDefined adv tbl s ⟨P ++ some x :: R, P.length, pr⟩ rest
      = .cont ⟨⟨P ++ some (numTok (isDefined tbl x.text) x.pw) :: R, P.length + 1, pr⟩ :: rest, s.noExp, s.frames, none⟩ := by
  have hxp' : (x.text == "(") = false := by simpa using hxp
  have hxk : (x.kind != TKind.ident) = false := by simp [hx]
  simp only [stepDefined, peekDown_mid, hxp', Bool.false_eq_true, if_false, hxk, replaceTop_mid, numTok]

/-- `defined ( X )` (after `defined` was consumed) -/
theorem stepDefined_paren (adv : Bool) (tbl : Table) (s : MS) (P R : List (Option Tok)) (pr : Bool) (rest : List Helper) (lp x rp : Tok)
    (hlp : lp.text = "(") (hx : x.kind = .ident) (hrp : rp.text = ")") :
    stepDefined adv tbl s ⟨P ++ some lp :: some x :: some rp :: R, P.length, pr⟩ rest
      = .cont ⟨⟨P ++ none :: none :: some (numTok (isDefined tbl x.text) x.pw) :: R, P.length + 3, pr⟩ :: rest, s.noExp, s.frames, none⟩ := by
  have hxk : (x.kind != TKind.ident) = false := by simp [hx]
  have hrp' : (rp.text != ")") = false := by simp [hrp]
  simp only [stepDefined, peekDown_mid, hlp, beq_self_eq_true, if_true, consume_mid]
  rw [shift, consume_mid, shift]
  simp only [peekDown_mid, hrp', Bool.false_eq_true, if_false, hxk, replaceTop_mid, numTok]
  simp

/-- **`defined X`**: for every table and every context (prefix, lower streams, disabled names, suspended calls) -/
theorem step_defined_plain (c : Cfg) (tbl : Table) (P R : List (Option Tok)) (S : List Helper) (D : NoExp) (F : List Frame) (pr : Bool)
    (dt x : Tok) (hd : dt.kind = .ident) (hdt : dt.text = "defined") (hx : x.kind = .ident) (hxp : x.text ≠ "(") :
    step c tbl ⟨⟨P ++ some dt :: some x :: R, P.length, pr⟩ :: S, D, F, none⟩
      = .cont ⟨⟨P ++ none :: some (numTok (isDefined tbl x.text) x.pw) :: R, P.length + 2, pr⟩ :: S, D, F, none⟩ := by
  rw [step_tok, if_neg (by simp [hd]), if_pos (by simp [hdt]), shift, stepDefined_plain c.adv tbl _ _ R pr S x hx hxp]
  simp

/-- **`defined ( X )`** -/
theorem step_defined_paren (c : Cfg) (tbl : Table) (P R : List (Option Tok)) (S : List Helper) (D : NoExp) (F : List Frame) (pr : Bool)
    (dt lp x rp : Tok) (hd : dt.kind = .ident) (hdt : dt.text = "defined") (hlp : lp.text = "(") (hx : x.kind = .ident) (hrp : rp.text = ")") :
    step c tbl ⟨⟨P ++ some dt :: some lp :: some x :: some rp :: R, P.length, pr⟩ :: S, D, F, none⟩
      = .cont ⟨⟨P ++ none :: none :: none :: some (numTok (isDefined tbl x.text) x.pw) :: R, P.length + 4, pr⟩ :: S, D, F, none⟩ := by
  rw [step_tok, if_neg (by simp [hd]), if_pos (by simp [hdt]), shift, stepDefined_paren c.adv tbl _ _ R pr S lp x rp hlp hx hrp]
  simp

end CbiVerif.MX
