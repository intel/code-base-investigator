import CbiVerif.Model.FClean
import CbiVerif.Spec.FortranRef
/-!
Class-level abstraction of `fortran_cleaner` (finite state: stack, scan mode,
"`verify_continue` holds blanks after its `&`") and the two finite obligations
that tie it to the reference scanner: one per (reference mode, character class)
and one per reference mode at the end of a line.  Both are evaluated by the
kernel; `step_sim` and `end_sim` are what they say of an arbitrary related state.
`Lemmas/FCleanSim.lean` shows that the cleaner on characters follows this
abstraction, `Lemmas/FCleanLift.lean` lifts both to characters and lines (texts: `flags_eq_ref`, `Lemmas/FRun.lean`).
-/
namespace CbiVerif.Fortran.Tbl
open CbiVerif.Fortran

inductive KEmit | sp | ns (c : Cls)
deriving DecidableEq, Repr

structure CSt where
  stack : List Mode      -- head = state[-1]
  scan : Scan
  vws : Bool             -- verify_continue holds white space after the '&'
deriving DecidableEq, Repr

/-- class-level shadow of `Fortran.step1` -/
def step1 (s : CSt) (c : Cls) : CSt × List KEmit × Bool :=
  match s.scan with
  | .done => (s, [], false)
  | .sentinel => (s, [.ns c], false)
  | .bang =>
    match c with
    | .dollar => ({ s with scan := .sentinel }, [.ns .bang, .ns .dollar], false)
    | .alpha => (s, [], false)
    | _ => ({ s with scan := .done }, [], false)
  | .run =>
    match s.stack with
    | [] => (s, [], false)
    | .top :: r =>
      match c with
      | .bslash => ({ s with stack := .esc :: .top :: r }, [.ns c], false)
      | .bang => ({ s with stack := [.top], scan := .bang }, [], false)
      | .amp => ({ s with stack := .verify :: .top :: r, vws := false }, [], false)
      | .dq => ({ s with stack := .dq :: .top :: r }, [.ns c], false)
      | .sq => ({ s with stack := .sq :: .top :: r }, [.ns c], false)
      | .ws => (s, [.sp], false)
      | _ => (s, [.ns c], false)
    | .cfs :: r =>
      match c with
      | .ws => (s, [.sp], false)
      | .amp => ({ s with stack := r }, [], false)
      | .bang => ({ s with scan := .bang }, [], false)
      | _ => ({ s with stack := r }, [], true)
    | .dq :: r =>
      match c with
      | .bslash => ({ s with stack := .esc :: .dq :: r }, [.ns c], false)
      | .dq => ({ s with stack := r }, [.ns c], false)
      | .amp => ({ s with stack := .verify :: .dq :: r, vws := false }, [], false)
      | _ => (s, [.ns c], false)
    | .sq :: r =>
      match c with
      | .bslash => ({ s with stack := .esc :: .sq :: r }, [.ns c], false)
      | .sq => ({ s with stack := r }, [.ns c], false)
      | .amp => ({ s with stack := .verify :: .sq :: r, vws := false }, [], false)
      | _ => (s, [.ns c], false)
    | .esc :: r => ({ s with stack := r }, [.ns c], false)
    | .verify :: r =>
      if c == .bang && r.head? == some .top then ({ s with scan := .bang }, [], false)
      else if c != .ws then
        ({ s with stack := r, vws := false }, (.ns .amp) :: (if s.vws then [.ns .ws] else []), true)
      else ({ s with vws := true }, [], false)

def step (s : CSt) (c : Cls) : CSt × List KEmit :=
  match step1 s c with
  | (s1, e1, true) => match step1 s1 c with | (s2, e2, _) => (s2, e1 ++ e2)
  | (s1, e1, false) => (s1, e1)

def endLine (s : CSt) : CSt :=
  match s.stack with
  | .verify :: r => { stack := .cfs :: r, scan := .run, vws := false }
  | st => { stack := st, scan := .run, vws := s.vws }

def KEmit.visible : KEmit → Bool | .ns .ws => false | .ns _ => true | .sp => false
def KEmit.litWs : KEmit → Bool | .ns .ws => true | _ => false
def anyVisible (es : List KEmit) : Bool := es.any KEmit.visible
def anyLitWs (es : List KEmit) : Bool := es.any KEmit.litWs

/-! ## abstraction of reference modes -/
def ctxStack : Ctx → List Mode | .top => [.top] | .dq => [.dq, .top] | .sq => [.sq, .top]
def siteStack : Site → List Mode
  | .code => [.top] | .cont => [.cfs, .top] | .contDq => [.cfs, .dq, .top] | .contSq => [.cfs, .sq, .top]
  | .amp => [.verify, .top]

def absSt : RF → CSt
  | .code => ⟨[.top], .run, false⟩
  | .inDq => ⟨[.dq, .top], .run, false⟩
  | .inSq => ⟨[.sq, .top], .run, false⟩
  | .ampTop w => ⟨[.verify, .top], .run, w⟩
  | .ampDq w => ⟨[.verify, .dq, .top], .run, w⟩
  | .ampSq w => ⟨[.verify, .sq, .top], .run, w⟩
  | .start c => ⟨.cfs :: ctxStack c, .run, false⟩
  | .bang s => ⟨siteStack s, .bang, false⟩
  | .sent s => ⟨siteStack s, .sentinel, false⟩
  | .comm s => ⟨siteStack s, .done, false⟩

def allSite : List Site := [.code, .cont, .contDq, .contSq, .amp]
def allRF : List RF :=
  [.start .top, .start .dq, .start .sq, .code, .inDq, .inSq, .ampTop false, .ampTop true,
   .ampDq false, .ampDq true, .ampSq false, .ampSq true] ++
  allSite.map .bang ++ allSite.map .sent ++ allSite.map .comm
def allC : List Cls := [.bang, .amp, .dq, .sq, .dollar, .alpha, .ws, .bslash, .other]

/-- `vws` only matters while a '&' is being verified -/
def relevant (s : CSt) : Bool := s.scan == .run && s.stack.head? == some .verify
def proj (s : CSt) : List Mode × Scan × Bool := (s.stack, s.scan, relevant s && s.vws)

/-- representative cleaner state for reference mode `m` with an arbitrary irrelevant `vws` -/
def repSt (m : RF) (v : Bool) : CSt := if relevant (absSt m) then absSt m else { absSt m with vws := v }

def stepOK (m : RF) (v : Bool) (c : Cls) : Bool :=
  match rstep m c with
  | none => true
  | some o =>
    let r := step (repSt m v) c
    (proj r.1 == proj (absSt o.mode)) && (anyVisible r.2 == o.vis) && (anyLitWs r.2 == o.lit)

theorem stepOK_all : (allRF.all fun m => [false, true].all fun v => allC.all fun c => stepOK m v c) = true := by decide +kernel

def endOK (m : RF) (v : Bool) : Bool :=
  match rend m with
  | none => true
  | some m' => proj (endLine (repSt m v)) == proj (absSt m')

theorem endOK_all : (allRF.all fun m => [false, true].all fun v => endOK m v) = true := by decide +kernel

theorem mem_allRF (m : RF) : m ∈ allRF := by
  cases m with
  | start c => cases c <;> decide
  | ampTop w | ampDq w | ampSq w => cases w <;> decide
  | bang s | sent s | comm s => cases s <;> decide
  | _ => decide

theorem mem_allC (c : Cls) : c ∈ allC := by cases c <;> decide

/-- `s` is the abstract cleaner state of reference mode `m`, up to a `vws` that is not read -/
def Rl (s : CSt) (m : RF) : Prop := proj s = proj (absSt m)

theorem rel_rep (s : CSt) (m : RF) (h : Rl s m) : s = repSt m s.vws := by
  obtain ⟨st, sc, v⟩ := s
  unfold Rl at h
  unfold repSt
  generalize absSt m = a at h ⊢
  obtain ⟨st', sc', v'⟩ := a
  simp only [proj, relevant, Prod.mk.injEq] at h
  obtain ⟨rfl, rfl, h3⟩ := h
  split <;> simp_all [relevant]

theorem step_sim (s : CSt) (m : RF) (c : Cls) (o : ROut) (h : Rl s m) (ho : rstep m c = some o) :
    Rl (step s c).1 o.mode ∧ anyVisible (step s c).2 = o.vis ∧ anyLitWs (step s c).2 = o.lit := by
  have hall := stepOK_all
  simp only [List.all_eq_true] at hall
  have h1 := hall m (mem_allRF m) s.vws (by cases s.vws <;> simp) c (mem_allC c)
  simp only [stepOK, ho, Bool.and_eq_true, beq_iff_eq] at h1
  rw [rel_rep s m h]
  exact ⟨h1.1.1, h1.1.2, h1.2⟩

theorem end_sim (s : CSt) (m m' : RF) (h : Rl s m) (he : rend m = some m') : Rl (endLine s) m' := by
  have hall := endOK_all
  simp only [List.all_eq_true] at hall
  have h1 := hall m (mem_allRF m) s.vws (by cases s.vws <;> simp)
  simp only [endOK, he, beq_iff_eq] at h1
  rw [rel_rep s m h]
  exact h1

end CbiVerif.Fortran.Tbl
