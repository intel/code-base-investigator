import CbiVerif.Model.Order

/-!
C14 helper lemmas, core Lean only: first occurrences; duplicates (`confirm` and `findDuplicates` yield the partition of the
files into content classes of at least two members, `IsClassPartition`; two such partitions are the same set of sets).
-/
namespace CbiVerif.Order

theorem firstOcc_cons {α : Type} [DecidableEq α] (a : α) (l : List α) :
    firstOcc (a :: l) = a :: (firstOcc l).filter (fun x => !(x == a)) := rfl

theorem mem_firstOcc {α : Type} [DecidableEq α] {x : α} {l : List α} : x ∈ firstOcc l ↔ x ∈ l := by
  induction l with
  | nil => exact Iff.rfl
  | cons a l ih =>
    rw [firstOcc_cons, List.mem_cons, List.mem_cons, List.mem_filter, ih, Bool.not_eq_true', beq_eq_false_iff_ne]
    exact ⟨fun h => h.imp_right And.left, fun h => (Decidable.em (x = a)).imp_right fun hne => ⟨h.resolve_left hne, hne⟩⟩

theorem nodup_firstOcc {α : Type} [DecidableEq α] (l : List α) : (firstOcc l).Nodup := by
  induction l with
  | nil => exact List.nodup_nil
  | cons a l ih =>
    rw [firstOcc_cons, List.nodup_cons, List.mem_filter]
    exact ⟨fun h => absurd (beq_self_eq_true a) (Bool.not_eq_true' _ |>.mp h.2 ▸ Bool.false_ne_true), ih.filter _⟩

section dups
variable {P C H : Type} [DecidableEq C] [DecidableEq H]

/-- `gs` is exactly the set of content-equality classes (within `files`) with at least two members,
each class once -/
structure IsClassPartition (content : P → C) (files : List P) (gs : List (List P)) : Prop where
  cls : ∀ g ∈ gs, ∃ a ∈ g, ∀ x, x ∈ g ↔ (x ∈ files ∧ content x = content a)
  nodup : ∀ g ∈ gs, g.Nodup
  two : ∀ g ∈ gs, 2 ≤ g.length
  complete : ∀ a ∈ files, ∀ b ∈ files, a ≠ b → content a = content b → ∃ g ∈ gs, a ∈ g
  disjoint : gs.Pairwise (fun g g' => ∀ x ∈ g, x ∉ g')

theorem two_le_length_of_two_mem {l : List P} {a b : P} (ha : a ∈ l) (hb : b ∈ l) (hab : a ≠ b) :
    2 ≤ l.length := by
  match l, ha, hb with
  | [x], ha, hb => exact absurd ((List.mem_singleton.mp ha).trans (List.mem_singleton.mp hb).symm) hab
  | _ :: _ :: _, _, _ => exact Nat.le_add_left 2 _

theorem exists_key_ne {K : Type} {key : P → K} {l : List P} (h2 : 2 ≤ l.length) (hp : l.Pairwise fun x y => key x ≠ key y)
    (a : P) : ∃ b ∈ l, key b ≠ key a := by
  match l, h2, hp with
  | x :: y :: _, _, hp =>
    by_cases hax : key x = key a
    · exact ⟨y, List.mem_cons_of_mem _ List.mem_cons_self,
        fun h => (List.pairwise_cons.mp hp).1 y List.mem_cons_self (hax.trans h.symm)⟩
    · exact ⟨x, List.mem_cons_self, hax⟩

/-- a round of the loop splits the listing `first :: rest` of the remaining files by the content of `first` -/
theorem mem_matches {content : P → C} {first x : P} {rest : List P} :
    x ∈ first :: rest.filter (fun p => content p == content first) ↔ x ∈ first :: rest ∧ content x = content first := by
  rw [List.mem_cons, List.mem_cons, List.mem_filter, beq_iff_eq]
  exact ⟨fun h => h.elim (fun e => e ▸ ⟨.inl rfl, rfl⟩) fun h => ⟨.inr h.1, h.2⟩, fun h => h.1.imp_right fun hx => ⟨hx, h.2⟩⟩

theorem mem_remaining {content : P → C} {first x : P} {rest : List P} :
    x ∈ rest.filter (fun p => !(content p == content first)) ↔ x ∈ first :: rest ∧ content x ≠ content first := by
  rw [List.mem_filter, List.mem_cons, Bool.not_eq_true', beq_eq_false_iff_ne]
  exact ⟨fun h => ⟨.inr h.1, h.2⟩, fun h => ⟨h.1.resolve_left fun e => h.2 (e ▸ rfl), h.2⟩⟩

namespace IsClassPartition
variable {content : P → C} {files : List P} {gs : List (List P)}

omit [DecidableEq C] in
/-- a group is the class of each of its members (`cls` names one) -/
theorem mem_iff (p : IsClassPartition content files gs) {g : List P} (hg : g ∈ gs) {a : P} (ha : a ∈ g) (x : P) :
    x ∈ g ↔ x ∈ files ∧ content x = content a := by
  obtain ⟨_, _, hcl⟩ := p.cls g hg
  rw [hcl x, ((hcl a).mp ha).2]

omit [DecidableEq C] in
theorem sub (p : IsClassPartition content files gs) {g : List P} (hg : g ∈ gs) {a : P} (ha : a ∈ g) : a ∈ files :=
  ((p.mem_iff hg ha a).mp ha).1

omit [DecidableEq C] in
theorem nil (h : ∀ a ∈ files, ∀ b ∈ files, a ≠ b → content a ≠ content b) : IsClassPartition content files [] :=
  ⟨nofun, nofun, nofun, fun a ha b hb hab hc => absurd hc (h a ha b hb hab), List.Pairwise.nil⟩

omit [DecidableEq C] in
theorem of_length_le_one (h : files.length ≤ 1) : IsClassPartition content files [] :=
  nil fun _ ha _ hb hab _ => absurd (two_le_length_of_two_mem ha hb hab) (Nat.not_le.mpr (Nat.lt_succ_of_le h))

omit [DecidableEq C] in
theorem congr {files' : List P} (h : ∀ x, x ∈ files ↔ x ∈ files') (p : IsClassPartition content files gs) :
    IsClassPartition content files' gs :=
  ⟨fun g hg => (p.cls g hg).imp fun _ ha => ⟨ha.1, fun x => (ha.2 x).trans (and_congr_left' (h x))⟩, p.nodup, p.two,
    fun a ha b hb => p.complete a ((h a).mpr ha) b ((h b).mpr hb), p.disjoint⟩

omit [DecidableEq C] in
/-- files of one content are one class -/
theorem single {c : C} {g : List P} (hc : ∀ x ∈ g, content x = c) (hnd : g.Nodup) :
    IsClassPartition content g (if g.length > 1 then [g] else []) := by
  split
  · next hlen =>
    obtain ⟨a, ha⟩ := List.exists_mem_of_length_pos (Nat.lt_of_succ_lt hlen)
    exact ⟨List.forall_mem_singleton.mpr ⟨a, ha, fun x => ⟨fun hx => ⟨hx, (hc x hx).trans (hc a ha).symm⟩, And.left⟩⟩,
      List.forall_mem_singleton.mpr hnd, List.forall_mem_singleton.mpr hlen,
      fun a ha _ _ _ _ => ⟨g, List.mem_singleton_self g, ha⟩, List.pairwise_singleton _ _⟩
  · next hlen => exact of_length_le_one (Nat.le_of_not_lt hlen)

omit [DecidableEq C] in
/-- files bucketed by a function of their content: class partitions of the buckets make up one of all files -/
theorem flatMap (key : C → H) {hs : List H} (hnd : hs.Nodup) (hall : ∀ f ∈ files, key (content f) ∈ hs)
    {G : H → List (List P)} (p : ∀ h, IsClassPartition content (files.filter fun f => key (content f) == h) (G h)) :
    IsClassPartition content files (hs.flatMap G) := by
  have hkey : ∀ h, ∀ g ∈ G h, ∀ x ∈ g, key (content x) = h :=
    fun h g hg x hx => beq_iff_eq.mp (List.mem_filter.mp ((p h).sub hg hx)).2
  refine ⟨fun g hg => ?_, fun g hg => ?_, fun g hg => ?_, fun a ha b hb hab hc => ?_, ?_⟩
  · obtain ⟨h, _, hg⟩ := List.mem_flatMap.mp hg
    obtain ⟨a, hag, hcl⟩ := (p h).cls g hg
    refine ⟨a, hag, fun x => ?_⟩
    rw [hcl x, List.mem_filter]
    exact ⟨fun hx => ⟨hx.1.1, hx.2⟩, fun hx => ⟨⟨hx.1, beq_iff_eq.mpr (hx.2 ▸ hkey h g hg a hag)⟩, hx.2⟩⟩
  · obtain ⟨h, _, hg⟩ := List.mem_flatMap.mp hg
    exact (p h).nodup g hg
  · obtain ⟨h, _, hg⟩ := List.mem_flatMap.mp hg
    exact (p h).two g hg
  · obtain ⟨g, hg, hag⟩ := (p (key (content a))).complete a (List.mem_filter.mpr ⟨ha, beq_self_eq_true _⟩)
      b (List.mem_filter.mpr ⟨hb, beq_iff_eq.mpr (hc ▸ rfl)⟩) hab hc
    exact ⟨g, List.mem_flatMap.mpr ⟨_, hall a ha, hg⟩, hag⟩
  · rw [List.pairwise_flatMap]
    exact ⟨fun h _ => (p h).disjoint, hnd.imp_of_mem fun _ _ hne g hg g' hg' x hx hx' =>
      hne ((hkey _ g hg x hx).symm.trans (hkey _ g' hg' x hx'))⟩

/-- one round of the confirmation loop: `g` is the class of the content `c`, `rest` are the files of other content.
These are the two buckets of the key "the content is `c`". -/
theorem cons {c : C} {g rest : List P} (hg : ∀ x, x ∈ g ↔ x ∈ files ∧ content x = c) (hnd : g.Nodup)
    (hrest : ∀ x, x ∈ rest ↔ x ∈ files ∧ content x ≠ c) (p : IsClassPartition content rest gs) :
    IsClassPartition content files (if g.length > 1 then g :: gs else gs) := by
  have hb : ∀ (b : Bool) (x : P), x ∈ files.filter (fun f => (content f == c) == b) ↔ x ∈ files ∧ (content x == c) = b :=
    fun b x => List.mem_filter.trans (and_congr_right' beq_iff_eq)
  have := flatMap (files := files) (content := content) (· == c) (hs := [true, false]) (by decide)
    (fun f _ => by cases content f == c <;> decide)
    (G := fun b => bif b then (if g.length > 1 then [g] else []) else gs) fun b => ?_
  · rw [List.flatMap_cons, List.flatMap_singleton] at this
    by_cases hlen : g.length > 1
    · rw [if_pos hlen] at this ⊢; exact this
    · rw [if_neg hlen] at this ⊢; exact this
  · cases b
    · exact p.congr fun x => (hrest x).trans ((hb false x).trans (and_congr_right' beq_eq_false_iff_ne)).symm
    · exact (single (fun x hx => ((hg x).mp hx).2) hnd).congr fun x =>
        (hg x).trans ((hb true x).trans (and_congr_right' beq_iff_eq)).symm

omit [DecidableEq C] in
/-- the groups stay different under a map that keeps their members (sorting each): they are disjoint and none is empty -/
theorem nodup_map (p : IsClassPartition content files gs) {f : List P → List P} (hf : ∀ g x, x ∈ f g ↔ x ∈ g) :
    (gs.map f).Nodup := by
  rw [List.Nodup, List.pairwise_map]
  refine p.disjoint.imp_of_mem fun {g g'} hg _ hdis heq => ?_
  obtain ⟨a, hag, _⟩ := p.cls g hg
  exact hdis a hag ((hf g' a).mp (heq ▸ (hf g a).mpr hag))

end IsClassPartition

theorem confirm_spec (pick : List P → List P) (hpick : ∀ l, (pick l).Perm l) (content : P → C) :
    ∀ (n : Nat) (rem : List P), rem.Nodup → rem.length ≤ n →
      IsClassPartition content rem (confirm pick content n rem) := by
  intro n
  induction n with
  | zero => exact fun rem _ hlen => .of_length_le_one (Nat.le_succ_of_le hlen)
  | succ n ih =>
    intro rem hnd hlen
    have hp := hpick rem
    unfold confirm
    generalize pick rem = l at hp ⊢
    match l, hp with
    | [], hp => exact .of_length_le_one (Nat.le_trans (Nat.le_of_eq hp.length_eq.symm) (Nat.zero_le 1))
    | [_], hp => exact .of_length_le_one (Nat.le_of_eq hp.length_eq.symm)
    | first :: second :: rest0, hp =>
      have hnd' := hp.nodup_iff.mpr hnd
      have hlen' : (second :: rest0).length ≤ n := Nat.le_of_succ_le_succ (Nat.le_trans (Nat.le_of_eq hp.length_eq) hlen)
      -- the round on the listing `first :: second :: rest0`, whose set is that of `rem`
      exact (IsClassPartition.cons (fun _ => mem_matches) (hnd'.sublist (List.filter_sublist.cons_cons _))
        (fun _ => mem_remaining) (ih _ ((List.nodup_cons.mp hnd').2.filter _)
          (Nat.le_trans (List.length_filter_le _ _) hlen'))).congr fun _ => hp.mem_iff

theorem findDuplicates_spec (pick : List P → List P) (hpick : ∀ l, (pick l).Perm l)
    (content : P → C) (hash : C → H) (files : List P) (hnd : files.Nodup) :
    IsClassPartition content files (findDuplicates pick content hash files) := by
  unfold findDuplicates
  refine .flatMap (content := content) hash (nodup_firstOcc _)
    (fun _ hf => mem_firstOcc.mpr (List.mem_map_of_mem (f := fun f => hash (content f)) hf)) fun h => ?_
  · dsimp only
    split
    · exact confirm_spec pick hpick content _ _ (hnd.filter _) (Nat.le_refl _)
    · next hlen => exact .of_length_le_one (Nat.le_of_not_lt hlen)

/-- groups as a set of sets: the same groups up to the order of the groups and of their members -/
def SameGroups (gs gs' : List (List P)) : Prop :=
  (∀ g ∈ gs, ∃ g' ∈ gs', ∀ x, x ∈ g ↔ x ∈ g') ∧ (∀ g' ∈ gs', ∃ g ∈ gs, ∀ x, x ∈ g ↔ x ∈ g')

/-- a function of the set of members takes the same values on both lists of groups -/
theorem SameGroups.mem_map_iff {β : Type} {gs gs' : List (List P)} (hs : SameGroups gs gs') {f : List P → β}
    (hf : ∀ g ∈ gs, ∀ g' ∈ gs', (∀ x, x ∈ g ↔ x ∈ g') → f g = f g') (c : β) : c ∈ gs.map f ↔ c ∈ gs'.map f := by
  rw [List.mem_map, List.mem_map]
  exact ⟨fun ⟨g, hg, e⟩ => (hs.1 g hg).elim fun g' hg' => ⟨g', hg'.1, (hf g hg g' hg'.1 hg'.2).symm.trans e⟩,
    fun ⟨g', hg', e⟩ => (hs.2 g' hg').elim fun g hg => ⟨g, hg.1, (hf g hg.1 g' hg' hg.2).trans e⟩⟩

omit [DecidableEq C] in
/-- a group has two members, so `complete` finds it, as a set, in any other partition of the same files -/
theorem IsClassPartition.exists_same {content : P → C} {files : List P} {gs gs' : List (List P)}
    (p : IsClassPartition content files gs) (p' : IsClassPartition content files gs') {g : List P} (hg : g ∈ gs) :
    ∃ g' ∈ gs', ∀ x, x ∈ g ↔ x ∈ g' := by
  obtain ⟨a, hag, _⟩ := p.cls g hg
  obtain ⟨b, hbg, hba⟩ := exists_key_ne (key := id) (p.two g hg) (p.nodup g hg) a
  have hbf := (p.mem_iff hg hag b).mp hbg
  obtain ⟨g', hg', hag'⟩ := p'.complete a (p.sub hg hag) b hbf.1 (Ne.symm hba) hbf.2.symm
  exact ⟨g', hg', fun x => by rw [p.mem_iff hg hag x, p'.mem_iff hg' hag' x]⟩

omit [DecidableEq C] in
theorem sameGroups_of_partitions {content : P → C} {files files' : List P}
    (hf : ∀ x, x ∈ files ↔ x ∈ files') {gs gs' : List (List P)}
    (h : IsClassPartition content files gs) (h' : IsClassPartition content files' gs') :
    SameGroups gs gs' :=
  have h'' := h'.congr fun x => (hf x).symm
  ⟨fun _ hg => h.exists_same h'' hg,
    fun _ hg' => (h''.exists_same h hg').imp fun _ hg => ⟨hg.1, fun x => (hg.2 x).symm⟩⟩

end dups

end CbiVerif.Order
