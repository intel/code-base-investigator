import CbiVerif.PP.Analyse
import CbiVerif.Lemmas.TreeDefine
import CbiVerif.Lemmas.TreeParse
/-! Lemmas tying the *executed* functions `PP.analyseFile` / `PP.referenceFile` (driver op `c01`) to the
generic theorems: the label list is normalised, and the `-D` prologue (`initWorld`) with CBI's
keep-first `define` equals the one with C's `define` unless the redefinition diagnostic is raised. -/
namespace CbiVerif.PP
open CbiVerif.Cond

theorem labels_normal (nodes : List PNode) : ∀ l ∈ labels nodes, l.normal := by
  intro l hl
  simp only [labels, List.mem_map] at hl
  obtain ⟨⟨n, i⟩, _, rfl⟩ := hl
  intro hk
  simp only at hk ⊢
  cases hkk : kindOf n.kind <;> simp_all [payOf]

def initStep (define : MacroWorld → String → Macro → MacroWorld) (w : MacroWorld) (d : String) : Except Err MacroWorld := do
  let m ← macroFromDefinitionString d
  return define w m.name m

theorem initWorld_eq (define : MacroWorld → String → Macro → MacroWorld) (defs : List String) :
    initWorld define defs = defs.foldlM (initStep define) {} := rfl

theorem initFold_sync (defs : List String) (w w2 : MacroWorld)
    (h : defs.foldlM (initStep MWorld.defineC) w = .ok w2) (hd : w2.diag = false) :
    w.diag = false ∧ defs.foldlM (initStep MWorld.defineCBI) w = .ok w2 := by
  induction defs generalizing w with
  | nil => cases h; exact ⟨hd, rfl⟩
  | cons d ds ih =>
    simp only [List.foldlM_cons, bind, Except.bind, initStep] at h ⊢
    cases hm : macroFromDefinitionString d with
    | error e => simp [hm] at h
    | ok m =>
      simp only [hm, pure, Except.pure] at h ⊢
      obtain ⟨h1, h2⟩ := ih _ h
      refine ⟨Bool.eq_false_iff.mpr fun hw => ?_, ?_⟩
      · rw [defineC_diag_mono w m.name m hw] at h1; cases h1
      · rcases define_agree w m.name m with hx | hx
        · rw [hx] at h1; cases h1
        · rw [hx]; exact h2

theorem initWorld_sync (defs : List String) (w2 : MacroWorld)
    (h : initWorld MWorld.defineC defs = .ok w2) (hd : w2.diag = false) :
    initWorld MWorld.defineCBI defs = .ok w2 := (initFold_sync defs {} w2 h hd).2

end CbiVerif.PP
