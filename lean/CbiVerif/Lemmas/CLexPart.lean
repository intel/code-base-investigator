import CbiVerif.Model.CClean
import CbiVerif.Spec.CLexRef
/-! # C05: counted lines and node list of every text (no well-formedness needed)

The loop of `c_file_source` counts a selection, in order, of the physical lines (`srcLoop_sel`); the `LineGroup`
folding raises nothing and is the specification's grouping `nodesOf` (`groupLoop_ok`), so `parse_file` is `parseOf` of
the logical lines `c_file_source` yields (`parseFile_eq`). -/
namespace CbiVerif.CLexSim
open CbiVerif.CClean CbiVerif.CLexRef CbiVerif.CText

theorem filter_flatMap_sublist {α β : Type} (p : α → Bool) (f : α → List β) (l : List α) :
    ((l.filter p).flatMap f).Sublist (l.flatMap f) := by
  induction l with
  | nil => simp
  | cons x xs ih =>
    simp only [List.filter_cons, List.flatMap_cons]
    split
    · simp only [List.flatMap_cons]
      exact List.Sublist.append (List.Sublist.refl _) ih
    · exact List.Sublist.trans ih (List.sublist_append_right _ _)

theorem flatMap_filter_of_nil {α β : Type} (p : α → Bool) (f : α → List β) (l : List α)
    (h : ∀ x ∈ l, p x = false → f x = []) : l.flatMap f = (l.filter p).flatMap f := by
  induction l with
  | nil => rfl
  | cons x xs ih =>
    have ih' := ih fun y hy => h y (List.mem_cons_of_mem _ hy)
    rw [List.filter_cons]
    cases hp : p x
    · simp [h x (List.mem_cons_self ..) hp, ih']
    · simp [ih']

theorem sum_numLines (ns : List Node) (h : ∀ nd ∈ ns, nd.numLines = nd.lines.length) :
    (ns.map (·.numLines)).sum = (ns.flatMap (·.lines)).length := by
  rw [List.length_flatMap]
  exact congrArg List.sum (List.map_congr_left h)

/-! ## the loop of `c_file_source` -/

theorem srcLoop_nil (st : Stack) (acc : Acc) (n : Nat) :
    srcLoop st acc n [] = ([⟨acc.start, n + 1, acc.lines, acc.cur.parts, acc.cur.category⟩], st) := rfl

theorem srcLoop_cons (st : Stack) (acc : Acc) (n : Nat) (l : PLine) (ls : List PLine) :
    srcLoop st acc n (l :: ls) =
      if (procLine st l).2.2 then
        (⟨acc.start, n + 2, if !(procLine st l).2.1.blank then acc.lines ++ [n + 1] else acc.lines,
            (acc.cur.join (procLine st l).2.1).parts, (acc.cur.join (procLine st l).2.1).category⟩ ::
          (srcLoop (procLine st l).1 { start := n + 2 } (n + 1) ls).1,
          (srcLoop (procLine st l).1 { start := n + 2 } (n + 1) ls).2)
      else
        srcLoop (procLine st l).1
          { cur := acc.cur.join (procLine st l).2.1, start := acc.start,
            lines := if !(procLine st l).2.1.blank then acc.lines ++ [n + 1] else acc.lines } (n + 1) ls := rfl

theorem srcLoop_cat (ls : List PLine) (st : Stack) (acc : Acc) (n : Nat) :
    ∀ l ∈ (srcLoop st acc n ls).1, l.cat = catOf (l.parts.map (·.1)) := by
  fun_induction srcLoop st acc n ls with
  | case1 => exact List.forall_mem_singleton.mpr rfl
  | case2 => rename_i ih; exact List.forall_mem_cons.mpr ⟨rfl, ih⟩
  | case3 => rename_i ih; exact ih

/-- the counted lines reported by the loop of `c_file_source` are `acc.lines` followed by a selection, in order, of the
    line numbers that follow -/
theorem srcLoop_sel (pls : List PLine) : ∀ (st : Stack) (acc : Acc) (n : Nat),
    ∃ tl : List Nat, (srcLoop st acc n pls).1.flatMap (·.lines) = acc.lines ++ tl ∧
      tl.Sublist (List.range' (n + 1) pls.length) := by
  induction pls with
  | nil => intro st acc n; exact ⟨[], rfl, .slnil⟩
  | cons l ls ih =>
    intro st acc n
    -- in both branches the rest of the loop adds `tl'` behind the lines counted so far
    have key : ∃ tl', (srcLoop st acc n (l :: ls)).1.flatMap (·.lines) =
        (if !(procLine st l).2.1.blank then acc.lines ++ [n + 1] else acc.lines) ++ tl' ∧
        tl'.Sublist (List.range' (n + 1 + 1) ls.length) := by
      rw [srcLoop_cons]
      by_cases he : (procLine st l).2.2 = true
      · obtain ⟨tl', h1, h2⟩ := ih (procLine st l).1 { start := n + 2 } (n + 1)
        exact ⟨tl', by rw [if_pos he, List.flatMap_cons, h1]; rfl, h2⟩
      · rw [if_neg he]; exact ih _ _ _
    obtain ⟨tl', h1, h2⟩ := key
    cases hc : (!(procLine st l).2.1.blank) <;> rw [hc] at h1
    · exact ⟨tl', h1, h2.cons _⟩
    · exact ⟨(n + 1) :: tl', by rw [h1]; simp, h2.cons_cons _⟩

/-- a run of `c_file_source` that does not raise counts a sub-sequence of `1, 2, …, number of physical lines` (the C side of
    `C17.structural_sublist`) -/
theorem source_sublist (t : List Char) (h : (cFileSource t).err = none) :
    ((cFileSource t).all.flatMap (·.lines)).Sublist (List.range' 1 (rawLines t).length) := by
  unfold cFileSource cFileSourceLines at h ⊢
  split at h
  · cases h
  · rename_i hb
    obtain ⟨tl, h1, h2⟩ := srcLoop_sel ((rawLines t).map toPLine) [.top] {} 0
    simpa [hb, h1] using h2

/-! ## the `LineGroup` folding -/

/-- the code node that is open while `groupLoop` runs -/
def openNode : Option (List Nat × Nat) → List Node
  | some (ls, c) => [⟨.code, ls, c⟩]
  | none => []

/-- the open code group after a logical line that is not a directive -/
def extend (code : Option (List Nat × Nat)) (l : LLine) : Option (List Nat × Nat) :=
  match code with
  | some (ls, c) => some (ls ++ l.lines, c + l.lines.length)
  | none => some (l.lines, l.lines.length)

theorem groupLoop_nil (code : Option (List Nat × Nat)) : groupLoop code [] = .ok (openNode code) := by
  rcases code with _ | ⟨ls, c⟩ <;> rfl

theorem groupLoop_cons (code : Option (List Nat × Nat)) (l : LLine) (rest : List LLine) :
    groupLoop code (l :: rest) =
      if l.isDirective then
        match groupLoop none rest with
        | .error e => .error e
        | .ok ns => .ok (openNode code ++ ⟨.directive, l.lines, l.lines.length⟩ :: ns)
      else groupLoop (extend code l) rest := by
  rcases code with _ | ⟨ls, c⟩ <;> (show (if _ then _ else _) = _) <;> split <;>
    first | rfl | (cases groupLoop none rest <;> rfl)

theorem extend_counted (oc : Option (List Nat)) (l : LLine) :
    extend (oc.map fun ls => (ls, ls.length)) l = (some (oc.getD [] ++ l.lines)).map fun ls => (ls, ls.length) := by
  cases oc <;> simp [extend]

theorem nodesOf_nil (code : Option (List Nat)) :
    nodesOf code [] = match code with | some c => [(false, c)] | none => [] := by
  cases code <;> rfl

theorem nodesOf_cons (code : Option (List Nat)) (d : Bool) (ls : List Nat) (rest : List (Bool × List Nat)) :
    nodesOf code ((d, ls) :: rest) =
      if d then (match code with | some c => [(false, c)] | none => []) ++ (true, ls) :: nodesOf none rest
      else nodesOf (some (code.getD [] ++ ls)) rest := by
  cases code <;> rfl

/-- the node `parse_file` builds for an entry `(is a directive, lines)` of the specification's node list -/
def mkNode (p : Bool × List Nat) : Node := ⟨if p.1 then .directive else .code, p.2, p.2.length⟩

theorem mkNode_row (p : Bool × List Nat) : ((mkNode p).kind == NKind.directive, (mkNode p).lines) = p := by
  obtain ⟨d, ls⟩ := p
  cases d <;> rfl

/-- `groupLoop` raises nothing: it builds the nodes of the specification's grouping `nodesOf` of the logical lines as
    `parse_file` sees them (its open code group is that of `nodesOf` with the number of its lines) -/
theorem groupLoop_ok (lls : List LLine) (oc : Option (List Nat)) :
    groupLoop (oc.map fun ls => (ls, ls.length)) lls =
      .ok ((nodesOf oc (lls.map fun l => (l.isDirective, l.lines))).map mkNode) := by
  induction lls generalizing oc with
  | nil => cases oc <;> rfl
  | cons l rest ih =>
    rw [groupLoop_cons, List.map_cons, nodesOf_cons]
    cases hd : l.isDirective
    · rw [if_neg (by simp), if_neg (by simp), extend_counted, ih]
    · have ih0 : groupLoop none rest = _ := ih none
      rw [if_pos rfl, if_pos rfl, ih0]
      cases oc <;> rfl

theorem nodesOf_lines (lg : List (Bool × List Nat)) : ∀ code : Option (List Nat),
    (nodesOf code lg).flatMap (·.2) = code.getD [] ++ lg.flatMap (·.2) := by
  induction lg with
  | nil => intro code; cases code <;> simp [nodesOf_nil]
  | cons x xs ih =>
    intro code
    obtain ⟨d, ls⟩ := x
    rw [nodesOf_cons]
    cases d
    · simp [ih]
    · cases code <;> simp [ih]

theorem nodesOf_nonempty (lg : List (Bool × List Nat)) (code : Option (List Nat))
    (hl : ∀ p ∈ lg, p.2 ≠ []) (hc : ∀ c, code = some c → c ≠ []) : ∀ p ∈ nodesOf code lg, p.2 ≠ [] := by
  fun_induction nodesOf code lg with
  | case1 c => exact List.forall_mem_singleton.mpr (hc c rfl)
  | case2 => exact nofun
  | case3 code ls rest ih =>
    obtain ⟨h1, h2⟩ := List.forall_mem_cons.mp hl
    refine List.forall_mem_append.mpr ⟨?_, List.forall_mem_cons.mpr ⟨h1, ih h2 nofun⟩⟩
    cases code with
    | none => exact nofun
    | some c => exact List.forall_mem_singleton.mpr (hc c rfl)
  | case4 code d ls rest _ ih =>
    obtain ⟨h1, h2⟩ := List.forall_mem_cons.mp hl
    refine ih h2 fun c hc' => ?_
    cases hc'
    exact fun e => h1 (List.append_eq_nil_iff.mp e).2

/-! ## `parse_file` -/

/-- what `parse_file` returns on the logical lines `lg` (`(is_directive, lines)` of the yielded ones) -/
def parseOf (lg : List (Bool × List Nat)) : ParseResult :=
  ⟨(nodesOf none lg).map mkNode, (((nodesOf none lg).map mkNode).map (·.numLines)).sum⟩

theorem parseOf_rows (lg : List (Bool × List Nat)) :
    (parseOf lg).nodes.map (fun nd => (nd.kind == NKind.directive, nd.lines)) = nodesOf none lg := by
  show ((nodesOf none lg).map mkNode).map _ = _
  rw [List.map_map]
  exact (List.map_congr_left fun p _ => mkNode_row p).trans (List.map_id _)

theorem parseOf_counts (lg : List (Bool × List Nat)) : ∀ nd ∈ (parseOf lg).nodes, nd.numLines = nd.lines.length := by
  intro nd hnd
  obtain ⟨p, _, rfl⟩ := List.mem_map.mp hnd
  rfl

theorem parseOf_lines (lg : List (Bool × List Nat)) : (parseOf lg).nodes.flatMap (·.lines) = lg.flatMap (·.2) := by
  show ((nodesOf none lg).map mkNode).flatMap (·.lines) = _
  rw [List.flatMap_map]
  exact nodesOf_lines lg none

/-- `parse_file` is the specification's grouping, applied to the logical lines `c_file_source` yields; it raises
    only what `c_file_source` raises -/
theorem parseFile_eq (t : List Char) : parseFile t = (CClean.logical t).map parseOf := by
  unfold parseFile CClean.logical
  have h : groupLoop none _ = _ := groupLoop_ok ((cFileSource t).all.filter LLine.yielded) none
  simp only [h]
  cases (cFileSource t).err <;> rfl

theorem parseFile_ok {t : List Char} {r : ParseResult} (h : parseFile t = .ok r) :
    ∃ lg, CClean.logical t = .ok lg ∧ r = parseOf lg := by
  rw [parseFile_eq] at h
  cases hl : CClean.logical t with
  | error e => rw [hl] at h; cases h
  | ok lg => rw [hl] at h; cases h; exact ⟨lg, rfl, rfl⟩

theorem logical_ok {t : List Char} {lg : List (Bool × List Nat)} (h : CClean.logical t = .ok lg) :
    (cFileSource t).err = none ∧ lg = ((cFileSource t).all.filter LLine.yielded).map fun l => (l.isDirective, l.lines) := by
  unfold CClean.logical at h
  split at h
  · cases h
  · cases h; exact ⟨‹_›, rfl⟩

theorem nodes_eq (t : List Char) : CLexRef.nodes t = nodesOf none (CLexRef.logical t) := by
  unfold CLexRef.nodes CLexRef.logical CLexRef.result resultLines
  split <;> rfl

/-- a logical line of the specification holds a counted line, so every node does -/
theorem nodes_nonempty (t : List Char) : ∀ p ∈ CLexRef.nodes t, p.2 ≠ [] := by
  rw [nodes_eq]
  refine nodesOf_nonempty _ none (fun p hp => ?_) nofun
  unfold CLexRef.logical CLexRef.result resultLines at hp
  split at hp
  · cases hp
  · simp only [logicalOf, List.mem_filter, Bool.not_eq_true', List.isEmpty_eq_false_iff] at hp
    exact hp.2

end CbiVerif.CLexSim
