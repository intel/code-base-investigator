import CbiVerif.Lemmas.MacroFunSim
import CbiVerif.Lemmas.MacroFunSimple
/-! # C03, object-like tables: an instance of the general simulation

On a table without function-like macros the reference `E` of `Lemmas/MacroObj.lean` is the general reference `RefS`
(`E_eq_RefS`), and the simulation of `Lemmas/MacroStrSim.lean` holds for every `Cfg`, also for the machine before the repair of
D11: every token of an expansion is `Stable`, so scanning the spliced tokens again changes nothing (`sim_obj`).  The nesting
budget `|tbl| + 1` always fits and the fuel of `cbiExpand` suffices, hence `cbiExpand tbl ts = .ok (E …)` (`expandWith_obj`,
`cbiExpand_obj`). -/
namespace CbiVerif.MX
open CbiVerif.PP

theorem E_zero (tbl : Table) (D : NoExp) (ts : List Tok) : E tbl 0 D ts = ts := by
  induction ts with
  | nil => exact E_nil ..
  | cons t ts ih => rw [E, ih]

section
variable {tbl : Table} (hobj : ∀ n m, tbl.get n = some m → m.args = none)
include hobj

/-- on a table without function-like macros the head of a scan does not depend on the tokens behind it; with each of the two
    cases, what it means for `Stable` and for `E` -/
theorem headOf_objLike (D : NoExp) (a : Tok) (as : List Tok) :
    (∃ a', headOf tbl D a as = .stay a' true ∧ (a.text ≠ "defined" → Stable tbl D a') ∧ ∀ d,
        E tbl (d + 1) D (a :: as) = a' :: E tbl (d + 1) D as) ∨
      ∃ m, headOf tbl D a as = .obj m ∧ ∀ d,
        E tbl (d + 1) D (a :: as) = E tbl d (some m.name :: D) (fixpw m.replacement a.pw) ++ E tbl (d + 1) D as := by
  fun_cases headOf tbl D a as
  case case1 hk =>
    have hk : a.kind ≠ .ident := by simpa using hk
    exact .inl ⟨_, rfl, fun _ => .inl hk, fun d => E_nonident tbl d D a as hk⟩
  case case2 hk hq => exact .inl ⟨_, rfl, fun hd => .inr ⟨hd, .inl rfl⟩, fun d => E_painted tbl d D a as (by simpa using hk) hq⟩
  case case3 hk hq hm =>
    have hq := Bool.eq_false_iff.mpr hq
    exact .inl ⟨_, rfl, fun hd => .inr ⟨hd, .inr ⟨hm, (Bool.or_eq_false_iff.mp hq).2⟩⟩,
      fun d => E_noMacro tbl d D a as (by simpa using hk) hq hm⟩
  case case4 hk hq m hm _ =>
    exact .inr ⟨m, rfl, fun d => E_macro tbl d D a as (by simpa using hk) (Bool.eq_false_iff.mpr hq) m hm⟩
  case case5 _ _ m hm _ ha _ | case6 _ _ m hm _ ha _ _ _ => cases (hobj _ m hm).symm.trans ha

/-- **the object-like reference is the general one** on a table without function-like macros -/
theorem E_eq_RefS : ∀ (d : Nat) (D : NoExp) (ts : List Tok), E tbl d D ts = RefS tbl d D ts := by
  intro d
  induction d with
  | zero => intro D ts; rw [E_zero]; rfl
  | succ d ih =>
    intro D ts
    suffices h : ∀ n, ts.length ≤ n → E tbl (d + 1) D ts = scanRefS tbl (RefS tbl d) n D ts from h _ (Nat.le_refl _)
    induction ts with
    | nil => intro n _; cases n <;> rw [E_nil] <;> rfl
    | cons a as iha =>
      intro n hn
      obtain ⟨n, rfl⟩ : ∃ n', n = n' + 1 := ⟨n - 1, by rw [List.length_cons] at hn; omega⟩
      rw [scanRefS_cons, ← iha n (Nat.le_of_succ_le_succ hn)]
      obtain ⟨a', hh, -, hE⟩ | ⟨m, hh, hE⟩ := headOf_objLike hobj D a as
      · rw [hh, hE]; rfl
      · rw [hh, hE, ih]; rfl

theorem RefS_stable : ∀ (d : Nat) (D : NoExp) (ts : List Tok), fitsbS tbl d D ts = true → ∀ t ∈ RefS tbl d D ts, Stable tbl D t := by
  intro d
  induction d with
  | zero => intro D ts hf; rw [List.isEmpty_iff.mp hf]; exact fun t ht => nomatch ht
  | succ d ih =>
    intro D ts
    suffices h : ∀ n, scanFitS tbl (RefS tbl d) (fitsbS tbl d) n D ts = true → ∀ t ∈ scanRefS tbl (RefS tbl d) n D ts, Stable tbl D t
      from h _
    intro n
    induction n generalizing ts with
    | zero => intro hf; rw [List.isEmpty_iff.mp hf]; exact fun t ht => nomatch ht
    | succ n ihn =>
      cases ts with
      | nil => exact fun _ t ht => nomatch ht
      | cons a as =>
        rw [scanFitS_cons, scanRefS_cons, Bool.and_eq_true]
        rintro ⟨hd, hf⟩ t ht
        obtain ⟨a', hh, hst, -⟩ | ⟨m, hh, -⟩ := headOf_objLike hobj D a as
        · simp only [hh, Head.elim, Bool.true_and] at hf ht
          rcases List.mem_cons.mp ht with rfl | ht
          · exact hst (by simpa using hd)
          · exact ihn as hf t ht
        · simp only [hh, Head.elim, Bool.and_eq_true] at hf ht
          rcases List.mem_append.mp ht with ht | ht
          · exact stable_weaken tbl _ D t (ih _ _ hf.1 t ht)
          · exact ihn as hf.2 t ht

theorem scanCostS_obj (ex : NoExp → List Tok → List Tok) (cst : NoExp → List Tok → Nat) (B X : Nat) (hB : BodiesLe tbl B)
    (hc : ∀ D ts, cst D ts ≤ ts.length * X) (D : NoExp) :
    ∀ (n : Nat) (ts : List Tok), scanCostS tbl ex cst n D ts ≤ ts.length * (B * X + 3) := by
  intro n
  induction n with
  | zero => exact fun _ => Nat.zero_le _
  | succ n ih =>
    intro ts
    cases ts with
    | nil => exact Nat.zero_le _
    | cons a as =>
      have hrest := ih as
      rw [scanCostS_cons, List.length_cons, Nat.succ_mul]
      obtain ⟨a', hh, -⟩ | ⟨m, hh, -⟩ := headOf_objLike hobj D a as
      · simp only [hh, Head.elim]; omega
      · obtain ⟨_, _, hm, _⟩ := headOf_obj hh
        have h1 := hc (some m.name :: D) (fixpw m.replacement a.pw)
        rw [fixpw_length] at h1
        have h2 : m.replacement.length * X ≤ B * X := Nat.mul_le_mul_right _ (hB _ _ hm)
        simp only [hh, Head.elim]; omega

/-- **object-like tables, every `Cfg`**: the simulation with the closed-form iteration bound.  `Cb B (d + 1)` is
    `B * (Cb B d + Lb B d) + 3`: per token of a replacement list its expansion and, for the machine before the repair of
    D11, one more iteration for each token of the result. -/
theorem sim_obj (c : Cfg) (B : Nat) (hB : BodiesLe tbl B) :
    ∀ d, SimAt c tbl d (RefS tbl d) (fitsbS tbl d) (fun _ ts => ts.length * Cb B d) := by
  intro d
  induction d with
  | zero => exact simAt_zero c tbl _
  | succ d ih =>
    intro D ts Q P S pr F hfit hlim
    obtain ⟨P', hp, hnh, hr⟩ := scan_simS c tbl d _ _ _ ih (RefS_nil tbl d)
      (fun _ x D body hf t ht => stable_weaken tbl _ D t (RefS_stable hobj d _ body hf t ht)) ts.length D ts Q P S pr F hfit hlim
    refine ⟨P', hp, hnh, hr.mono ?_⟩
    have := scanCostS_obj hobj (RefS tbl d) (rescanCost c (RefS tbl d) fun _ ts => ts.length * Cb B d) B (Cb B d + Lb B d) hB
      (fun D ts => by
        have := E_length tbl B hB d D ts
        rw [E_eq_RefS hobj] at this
        rw [rescanCost, Nat.mul_add]; split <;> omega) D ts.length ts
    rw [Nat.mul_add B] at this
    exact this

end

theorem simpleTbl_of_tblOK {tbl : Table} (hT : TblOK tbl) : SimpleTbl tbl :=
  ⟨⟨fun n m _ hm ha => absurd ((hT.objLike n m hm).symm.trans ha) nofun,
      fun n m _ hm ha => absurd ((hT.objLike n m hm).symm.trans ha) nofun⟩,
    hT.named, fun n m hm t ht => ⟨hT.noDef n m hm t ht, fun _ m' hm' => hT.objLike _ m' hm'⟩⟩

/-- a nesting budget larger than the number of still-enabled macro names is never exhausted -/
theorem fitsbS_obj {tbl : Table} (hT : TblOK tbl) (d : Nat) (D : NoExp) (ts : List Tok) (hfree : free D (keys tbl) < d)
    (hnd : NoDef ts) : fitsbS tbl d D ts = true :=
  have hS := simpleTbl_of_tblOK hT
  (ref_plain tbl hS.funTbl d D ts (obj_fits tbl hS _ (bodiesLe_bodyMax tbl) d D ts hfree
    fun t ht => ⟨hnd t ht, fun _ m hm => hT.objLike _ m hm⟩).1).1

/-- **object-like tables**: `expandWith` returns the recursive expansion (nothing disabled at the start) whenever limit and fuel
    are large enough -/
theorem expandWith_obj (c : Cfg) (tbl : Table) (hT : TblOK tbl) (ts : List Tok) (hnd : NoDef ts)
    (hlim : tbl.length + 2 < c.lim) (fuel : Nat) (hfuel : ts.length * Cb (bodyMax tbl) (tbl.length + 1) + 2 ≤ fuel) :
    expandWith c tbl fuel ts = .ok (E tbl (tbl.length + 1) [] ts) := by
  rw [E_eq_RefS hT.objLike, ← (ref_congrS tbl _ [none] [] (eqv_none [])).1]
  exact (sim_obj hT.objLike c _ (bodiesLe_bodyMax tbl) _).expandWith (RefS_nil ..) ts
    (fitsbS_obj hT _ _ ts (Nat.lt_succ_of_le (free_le_keys _ tbl)) hnd) hlim fuel hfuel

/-- the model of `MacroExpander(platform).expand`: the real nesting limit and the fuel `cbiExpand` grants are large enough -/
theorem cbiExpand_obj (tbl : Table) (hT : TblOK tbl) (ts : List Tok) (hnd : NoDef ts) (hsz : tbl.length + 2 < CbiVerif.Gen.maxLevel) :
    cbiExpand tbl ts = .ok (E tbl (tbl.length + 1) [] ts) := by
  unfold cbiExpand
  exact expandWith_obj realCfg tbl hT ts hnd hsz (fuelFor tbl ts) (by unfold fuelFor; omega)

end CbiVerif.MX
