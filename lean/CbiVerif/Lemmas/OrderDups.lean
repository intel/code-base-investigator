import CbiVerif.Lemmas.ClassPartition
import CbiVerif.Lemmas.Order

/-!
C14 helper lemmas: two partitions of the files into content classes (`IsClassPartition`, `Lemmas/ClassPartition.lean`) are
printed alike; the defines of compiler modes (`definedAs` of a consistent list does not depend on its order).
-/
namespace CbiVerif.Order

/-! ## duplicates: two class partitions are printed alike -/

section dups
variable {P C : Type}

/-- a list without repetition is sorted by its set of members alone -/
theorem mergeSort_eq_of_mem_iff {α : Type} {le : α → α → Bool} (trans : ∀ a b c, le a b → le b c → le a c)
    (total : ∀ a b, le a b || le b a) (antisymm : ∀ a b, le a b → le b a → a = b) {l l' : List α}
    (hl : l.Nodup) (hl' : l'.Nodup) (h : ∀ x, x ∈ l ↔ x ∈ l') : l.mergeSort le = l'.mergeSort le :=
  mergeSort_eq_of_perm trans total (fun a _ b _ => antisymm a b) ((List.perm_ext_iff_of_nodup hl hl').mpr h)

theorem printedSorted_eq {content : P → C} {files files' : List P}
    {ple : P → P → Bool} {gle : List P → List P → Bool}
    (ptrans : ∀ a b c, ple a b → ple b c → ple a c) (ptotal : ∀ a b, ple a b || ple b a)
    (pantisymm : ∀ a b, ple a b → ple b a → a = b)
    (gtrans : ∀ a b c, gle a b → gle b c → gle a c) (gtotal : ∀ a b, gle a b || gle b a)
    (gantisymm : ∀ a b, gle a b → gle b a → a = b)
    (hf : ∀ x, x ∈ files ↔ x ∈ files') {gs gs' : List (List P)}
    (h : IsClassPartition content files gs) (h' : IsClassPartition content files' gs') :
    printedDuplicates ple gle gs = printedDuplicates ple gle gs' := by
  have hsort : ∀ (g : List P) x, x ∈ g.mergeSort ple ↔ x ∈ g := fun _ _ => List.mem_mergeSort
  -- both times the sorted list is that of a set: the groups are sets, and so are the two lists of sorted groups
  exact mergeSort_eq_of_mem_iff gtrans gtotal gantisymm (h.nodup_map hsort) (h'.nodup_map hsort)
    ((sameGroups_of_partitions hf h h').mem_map_iff fun g hg g' hg' hm =>
      mergeSort_eq_of_mem_iff ptrans ptotal pantisymm (h.nodup g hg) (h'.nodup g' hg') hm)

end dups

/-! ## defines of compiler modes -/

/-- no name is given two different bodies -/
def Consistent (ds : List Def) : Prop := ∀ d ∈ ds, ∀ d' ∈ ds, d.1 = d'.1 → d.2 = d'.2

theorem definedAs_perm {ds ds' : List Def} (hc : Consistent ds) (h : ds.Perm ds') (name : String) :
    definedAs ds name = definedAs ds' name :=
  find?_map_perm h fun d hd d' hd' h1 h2 => hc d hd d' hd' ((beq_iff_eq.mp h1).trans (beq_iff_eq.mp h2).symm)

theorem definedAs_append (a b : List Def) (name : String) :
    definedAs (a ++ b) name = (definedAs a name).or (definedAs b name) := by
  unfold definedAs
  rw [List.find?_append]
  cases a.find? (fun d => d.1 == name) <;> rfl

end CbiVerif.Order
