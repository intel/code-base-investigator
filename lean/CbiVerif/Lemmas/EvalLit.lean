import CbiVerif.Model.EvalBridge
/-! C02 lemmas: `term()`'s conversion of integer constants (regex split, base selection,
    `int(digits, base)`, suffix table) on the spelling of every syntactically valid constant
    (`CExpr.Lit`: any base, any digit string, any of the 23 suffix spellings), by induction on the digits. -/
namespace CbiVerif.EvalLit
open CbiVerif.Eval CbiVerif.CExpr CbiVerif.EvalBridge

theorem digitVal_char : ∀ (v : Fin 16) (up : Bool), digitVal (Digit.char ⟨v, up⟩) = v.val := by decide +kernel
theorem digit_not_suf : ∀ (v : Fin 16) (up : Bool), isSufChar (Digit.char ⟨v, up⟩) = false := by decide +kernel
theorem digit_char_small : ∀ (v : Fin 16) (up : Bool), v.val < 10 →
    ((Digit.char ⟨v, up⟩ == 'x') = false ∧ (Digit.char ⟨v, up⟩ == 'X') = false ∧
     (Digit.char ⟨v, up⟩ == 'b') = false ∧ (Digit.char ⟨v, up⟩ == 'B') = false ∧
     ((Digit.char ⟨v, up⟩ == '0') = decide (v.val = 0))) := by decide +kernel
theorem suffix_facts (s : Suffix) : suffixUnsigned? s.chars = some s.isUnsigned ∧
    s.chars.takeWhile (fun c => !isSufChar c) = [] ∧ s.chars.dropWhile (fun c => !isSufChar c) = s.chars := by
  obtain ⟨a, b, c⟩ := s
  cases a <;> cases b <;> cases c <;> decide +kernel

/-- `int(digits, base)` on spelled digits -/
theorem parseDigits_go (b : Nat) (ds : List Digit) (h : ∀ d ∈ ds, d.val.val < b) (acc : Nat) :
    (ds.map Digit.char).foldl (fun acc c => match acc with
      | none => none
      | some n => if digitVal c < b then some (n * b + digitVal c) else none) (some acc)
    = some (ds.foldl (fun acc d => acc * b + d.val.val) acc) := by
  induction ds generalizing acc with
  | nil => rfl
  | cons d r ih =>
    have hd : d.val.val < b := h d (by simp)
    obtain ⟨v, up⟩ := d
    simp only [List.map_cons, List.foldl_cons, digitVal_char, hd, if_true]
    exact ih (fun d hd' => h d (by simp [hd'])) _

theorem parseDigits_spell (b : Nat) (ds : List Digit) (h : ∀ d ∈ ds, d.val.val < b) :
    parseDigits b (ds.map Digit.char) = some (ds.foldl (fun acc d => acc * b + d.val.val) 0) :=
  parseDigits_go b ds h 0

theorem valid_digits (l : Lit) (hv : l.valid = true) : ∀ d ∈ l.digits, d.val.val < l.base.radix := by
  simp only [Lit.valid, Bool.and_eq_true, List.all_eq_true, decide_eq_true_eq] at hv
  exact hv.1

theorem parseBody_spell (l : Lit) (hv : l.valid = true) :
    parseBody (l.prefixChars ++ l.digits.map Digit.char) = some l.value := by
  have hd := valid_digits l hv
  obtain ⟨base, pu, ds, suf⟩ := l
  simp only [Lit.valid, Bool.and_eq_true] at hv
  obtain ⟨_, hv2⟩ := hv
  cases base
  · -- decimal
    simp only [Lit.prefixChars, List.nil_append, Lit.value, Base.radix] at hd ⊢
    match ds, hv2, hd with
    | d :: r, hv2, hd =>
      obtain ⟨v, up⟩ := d
      have hlt : v.val < 10 := hd ⟨v, up⟩ (by simp)
      have hnz : v.val ≠ 0 := by simpa using hv2
      have hc := digit_char_small v up hlt
      simp only [List.map_cons, parseBody, hc.2.2.2.2, hnz, decide_false, Bool.false_eq_true, if_false, digitVal_char, hlt, if_true]
      exact parseDigits_spell 10 (⟨v, up⟩ :: r) hd
  · -- octal
    simp only [Lit.prefixChars, Lit.value, Base.radix] at hd ⊢
    match ds, hd with
    | [], _ => rfl
    | d :: r, hd =>
      obtain ⟨v, up⟩ := d
      have hlt : v.val < 8 := hd ⟨v, up⟩ (by simp)
      have hc := digit_char_small v up (by omega)
      simp only [List.cons_append, List.nil_append, List.map_cons, parseBody, beq_self_eq_true, if_true, hc.1, hc.2.1, hc.2.2.1, hc.2.2.2.1,
        Bool.or_self, Bool.false_eq_true, if_false]
      exact parseDigits_spell 8 (⟨v, up⟩ :: r) hd
  · -- hex
    simp only [Lit.prefixChars, Lit.value, Base.radix] at hd ⊢
    have hne : (ds.map Digit.char).isEmpty = false := by
      cases ds <;> simp_all
    cases pu <;>
      simp only [List.cons_append, List.nil_append, parseBody, beq_self_eq_true, if_true, Bool.false_eq_true, if_false, Bool.or_true, Bool.true_or, hne] <;>
      exact parseDigits_spell 16 ds hd
  · -- binary
    simp only [Lit.prefixChars, Lit.value, Base.radix] at hd ⊢
    have hne : (ds.map Digit.char).isEmpty = false := by
      cases ds <;> simp_all
    have h1 : (('b' : Char) == 'x') = false := by decide
    have h2 : (('b' : Char) == 'X') = false := by decide
    have h3 : (('B' : Char) == 'x') = false := by decide
    have h4 : (('B' : Char) == 'X') = false := by decide
    cases pu <;>
      simp only [List.cons_append, List.nil_append, parseBody, beq_self_eq_true, if_true, Bool.false_eq_true, if_false, Bool.or_true, Bool.true_or,
        Bool.or_self, h1, h2, h3, h4, hne] <;>
      exact parseDigits_spell 2 ds hd

theorem body_not_suf (l : Lit) : ∀ c ∈ l.prefixChars ++ l.digits.map Digit.char, (!isSufChar c) = true := by
  intro c hc
  rw [List.mem_append] at hc
  rcases hc with hc | hc
  · obtain ⟨base, pu, ds, suf⟩ := l
    cases base <;> cases pu <;> simp [Lit.prefixChars] at hc <;> (try rcases hc with rfl | rfl) <;> (try subst hc) <;> decide
  · rw [List.mem_map] at hc
    obtain ⟨⟨v, up⟩, _, rfl⟩ := hc
    simp [digit_not_suf]

theorem takeWhile_body (l : Lit) :
    (l.prefixChars ++ l.digits.map Digit.char ++ l.suffix.chars).takeWhile (fun c => !isSufChar c)
      = l.prefixChars ++ l.digits.map Digit.char := by
  rw [List.takeWhile_append_of_pos (body_not_suf l), (suffix_facts _).2.1, List.append_nil]

theorem dropWhile_body (l : Lit) :
    (l.prefixChars ++ l.digits.map Digit.char ++ l.suffix.chars).dropWhile (fun c => !isSufChar c)
      = l.suffix.chars := by
  rw [List.dropWhile_append_of_pos (body_not_suf l), (suffix_facts _).2.2]

/-- what the evaluator's `term()` computes for the spelling of any syntactically valid integer constant -/
theorem literal_model (l : Lit) (hv : l.valid = true) :
    Eval.literal l.spell =
      (if l.suffix.isUnsigned then (if (l.value : Int) < two64 then .ok ⟨true, l.value⟩ else .error eOverflow)
       else (if (l.value : Int) < two63 then .ok ⟨false, l.value⟩ else .error eOverflow)) := by
  simp only [Eval.literal, Lit.spell, String.toList_ofList, literalL, Lit.chars, takeWhile_body, dropWhile_body,
    parseBody_spell l hv, (suffix_facts _).1]

/-- D8 class on one constant: no `u` suffix and a value above INTMAX_MAX -/
def bigUnsuffixed (l : Lit) : Bool := !l.suffix.isUnsigned && decide ((l.value : Int) > intMax)

theorem mval_ofNat_unsigned (n : Nat) (h : n ≤ uintMax) : mval ⟨true, BitVec.ofNat 64 n⟩ = ⟨true, (n : Int)⟩ := by
  simp only [mval, if_true, BitVec.toNat_ofNat]
  congr 1
  have : n % 2 ^ 64 = n := Nat.mod_eq_of_lt (by simp [uintMax] at h; omega)
  rw [this]
theorem mval_ofNat_signed (n : Nat) (h : (n : Int) ≤ intMax) : mval ⟨false, BitVec.ofNat 64 n⟩ = ⟨false, (n : Int)⟩ := by
  simp only [mval, Bool.false_eq_true, if_false]
  congr 1
  rw [BitVec.toInt_eq_toNat_cond, BitVec.toNat_ofNat]
  simp only [intMax] at h
  have : n % 2 ^ 64 = n := Nat.mod_eq_of_lt (by omega)
  rw [this]
  split <;> omega

theorem literal_value (l : Lit) (hv : l.valid = true) (v : CExpr.Val) (hc : cLiteral l = some v)
    (hk : bigUnsuffixed l = false) : Eval.literal l.spell = .ok (mval v) := by
  rw [literal_model l hv]
  revert hc
  -- by the cases of `cLiteral`; `hk` excludes the one in which C makes an unsuffixed constant unsigned
  fun_cases cLiteral l <;> intro hc <;> cases hc
  next hu hle =>
    rw [if_pos hu, if_pos (by simp only [uintMax, two64] at hle ⊢; omega), mval_ofNat_unsigned _ hle]
  next hu hle =>
    rw [if_neg hu, if_pos (by simp only [intMax, two63] at hle ⊢; omega), mval_ofNat_signed _ hle]
  next hu hgt _ =>
    simp only [bigUnsuffixed, eq_false_of_ne_true hu, Bool.not_false, Bool.true_and, decide_eq_false_iff_not, Int.not_lt] at hk
    exact absurd hk hgt

/-- D8: a constant without `u` that C makes unsigned is an `OverflowError` in the evaluator -/
theorem literal_big (l : Lit) (hv : l.valid = true) (hk : bigUnsuffixed l = true) :
    Eval.literal l.spell = .error eOverflow := by
  rw [literal_model l hv]
  simp only [bigUnsuffixed, Bool.and_eq_true, Bool.not_eq_true', decide_eq_true_eq] at hk
  have : ¬ (l.value : Int) < two63 := by simp only [intMax, two63] at hk ⊢; omega
  simp only [hk.1, Bool.false_eq_true, if_false, this]
end CbiVerif.EvalLit
