import CbiVerif.Lemmas.FCPass
/-!
The reference (`refLines`) against the Fortran pass.  On C logical lines: the flags of the pass are the reference's verdicts
(`flags_eq_ref`).  On the physical lines of an accepted text: the reference does not see the blank merging of the C pass and
skips blank lines at a line start; `RefRun` is the joint run of reference, C pass and cleaner, line by line, and what the pass
counts (`RefRun.flags`, `run_eq_ref`) and how `FileParser` groups it (`Lemmas/FGroups.lean`) are inductions along it.  Text
level: `splitLines` against `textLines`, an accepted text gives a `RefRun` (`fortranSource_of_refText`), and the entry points
on a text given by its characters (`*_ofList`, for evaluating examples).
-/
namespace CbiVerif.Fortran
open Tbl

/-! ## the reference on C logical lines -/

theorem rlF_stack {s : FSt} {m : RF} (h : RlF s m) : s.stack = (Tbl.absSt m).stack := congrArg Prod.fst h.2

/-- an uncounted line leaves only merged blanks in the buffer (for a counted one see `line_sim`) -/
theorem line_sim_only (s : FSt) (m : RF) (l : List Char) (r : RLine) (hR : RlF s m) (h : rline m l = some r)
    (hc : r.counted = false) : (procLine s l).2.OnlySp := by
  obtain ⟨a, m', hr, he, rfl⟩ := rline_some h
  simp only [Bool.or_eq_false_iff] at hc
  exact (line_binv s m m' l a hR hr he).2.only hc.1 hc.2

theorem refLines_cons {m : RF} {l : List Char} {ls : List (List Char)} {r : List (Bool × Bool)}
    (h : refLines m (l :: ls) = some r) :
    (isDirectiveLine l = true ∧ m = .code ∧ ∃ r', refLines .code ls = some r' ∧ r = (true, false) :: r') ∨
    (isDirectiveLine l = false ∧ ∃ rl r', rline m l = some rl ∧ refLines rl.next ls = some r' ∧
      r = (rl.counted, rl.k) :: r') := by
  simp only [refLines] at h
  split at h
  · rename_i hd
    split at h
    · rename_i hm
      obtain ⟨r', hr, rfl⟩ := Option.map_eq_some_iff.mp h
      exact Or.inl ⟨hd, by simpa using hm, r', hr, rfl⟩
    · cases h
  · rename_i hd
    cases hl : rline m l with
    | none => simp [hl] at h
    | some rl =>
      rw [hl] at h
      obtain ⟨r', hr, rfl⟩ := Option.map_eq_some_iff.mp h
      exact Or.inr ⟨by simpa using hd, rl, r', rfl, hr, rfl⟩

theorem refLines_nil {m : RF} {r : List (Bool × Bool)} (h : refLines m [] = some r) : m = .code ∧ r = [] := by
  simp only [refLines] at h
  split at h
  · rename_i hm
    exact ⟨by simpa using hm, by simpa using h.symm⟩
  · cases h

theorem flags_eq_ref (ts : List (List Char)) : ∀ (s : FSt) (m : RF) (r : List (Bool × Bool)),
    RlF s m → (∀ t ∈ ts, isDirText t = isDirectiveLine t) → refLines m ts = some r →
    agree (flagsFrom s ts) r ∧ RlF (finalState s ts) .code := by
  induction ts with
  | nil =>
    intro s m r hR _ h
    obtain ⟨rfl, rfl⟩ := refLines_nil h
    exact ⟨trivial, hR⟩
  | cons t ts ih =>
    intro s m r hR hd h
    have hdt : isDirText t = isDirectiveLine t := hd t (by simp)
    have hd' : ∀ t' ∈ ts, isDirText t' = isDirectiveLine t' := fun t' ht' => hd t' (by simp [ht'])
    simp only [flagsFrom_cons, finalState_cons, hdt]
    rcases refLines_cons h with ⟨hdir, rfl, r', hr, rfl⟩ | ⟨hdir, rl, r', hl, hr, rfl⟩
    · simp only [hdir, if_true]
      obtain ⟨i1, i2⟩ := ih s .code r' hR hd' hr
      exact ⟨⟨fun _ => rfl, i1⟩, i2⟩
    · simp only [hdir, Bool.false_eq_true, if_false]
      obtain ⟨l1, l2⟩ := line_sim s m t rl hR hl
      obtain ⟨i1, i2⟩ := ih _ rl.next r' l1 hd' hr
      exact ⟨⟨l2, i1⟩, i2⟩

/-- with no F-C17-1 line the flags are exactly the reference verdicts -/
theorem agree_noK (bs : List Bool) : ∀ (r : List (Bool × Bool)), agree bs r → (∀ x ∈ r, x.2 = false) →
    bs = r.map (·.1) := by
  intro r
  fun_induction agree bs r with
  | case1 => intros; rfl
  | case2 b bs c k r ih =>
    intro h hk
    rw [List.map_cons, h.1 (hk (c, k) List.mem_cons_self), ← ih h.2 fun y hy => hk y (List.mem_cons_of_mem _ hy)]
  | case3 => exact nofun

/-! ## the reference does not see blank merging -/

def wsFixOK (m : RF) : Bool :=
  match rstep m .ws with
  | none => true
  | some o =>
    match rstep o.mode .ws with
    | none => false
    | some o' => o'.mode == o.mode && (!o'.vis || o.vis) && (!o'.lit || o.lit)

theorem wsFixOK_all : (allRF.all wsFixOK) = true := by decide

theorem rchars_cons_some {a x : RAcc} {c : Char} {cs : List Char} :
    rchars a (c :: cs) = some x ↔
      ¬ c.toNat ≥ 128 ∧ ∃ o, rstep a.mode (cls c) = some o ∧ rchars ⟨o.mode, a.vis || o.vis, a.lit || o.lit⟩ cs = some x := by
  rw [rchars]
  split
  · simp [*]
  · cases rstep a.mode (cls c) <;> simp [*]

/-- a blank was just consumed in this state: one more changes nothing -/
def WsFix (a : RAcc) : Prop :=
  ∃ o, rstep a.mode .ws = some o ∧ (⟨o.mode, a.vis || o.vis, a.lit || o.lit⟩ : RAcc) = a

theorem wsFix_after (a : RAcc) (o : ROut) (h : rstep a.mode .ws = some o) :
    WsFix ⟨o.mode, a.vis || o.vis, a.lit || o.lit⟩ := by
  have hall := wsFixOK_all
  simp only [List.all_eq_true] at hall
  have h1 := hall a.mode (mem_allRF _)
  simp only [wsFixOK, h] at h1
  cases h2 : rstep o.mode .ws with
  | none => simp [h2] at h1
  | some o' =>
    simp only [h2, Bool.and_eq_true, beq_iff_eq, Bool.or_eq_true, Bool.not_eq_true'] at h1
    obtain ⟨⟨e1, e2⟩, e3⟩ := h1
    refine ⟨o', h2, ?_⟩
    rw [e1]
    cases hv : o'.vis <;> cases hl : o'.lit <;> simp_all

theorem rchars_collapse (l : List Char) : ∀ (a : RAcc) (tr : Bool) (x : RAcc),
    (tr = true → WsFix a) → rchars a l = some x → rchars a (render tr (l.map emitChar)) = some x := by
  induction l with
  | nil => intro a tr x _ h; exact h
  | cons c cs ih =>
    intro a tr x hf h
    obtain ⟨hasc, o, ho, h⟩ := rchars_cons_some.mp h
    rw [List.map_cons, render_emitChar]
    by_cases hs : pyIsSpace c = true
    · rw [if_pos hs]
      rw [(cls_ws_iff c).mpr hs] at ho
      cases tr with
      | true =>
        -- a blank after a blank is dropped, and the reference stays where it is
        obtain ⟨o1, f1, ea⟩ := hf rfl
        obtain rfl := Option.some.inj (f1.symm.trans ho)
        rw [ea] at h
        exact ih a true x hf h
      | false =>
        exact rchars_cons_some.mpr ⟨by decide, o, ho, ih _ true x (fun _ => wsFix_after a o ho) h⟩
    · rw [if_neg hs]
      exact rchars_cons_some.mpr ⟨hasc, o, ho, ih _ false x nofun h⟩

theorem rline_collapse (m : RF) (l : List Char) (r : RLine) (h : rline m l = some r) :
    rline m (collapse l) = some r := by
  obtain ⟨a, m', hr, he, rfl⟩ := rline_some h
  unfold rline collapse
  rw [rchars_collapse l ⟨m, false, false⟩ false a (by intro hh; cases hh) hr]
  simp only [he]

/-! ## at a line start -/

def isLineStart : RF → Bool | .code => true | .start _ => true | _ => false

theorem lineStart_facts (m : RF) (h : isLineStart m = true) :
    rstep m .ws = some ⟨m, false, false⟩ ∧ rend m = some m := by
  cases m with
  | code => exact ⟨rfl, rfl⟩
  | start c => cases c <;> exact ⟨rfl, rfl⟩
  | _ => cases h

theorem rend_lineStart (m m' : RF) (h : rend m = some m') : isLineStart m' = true := by
  cases m with
  | inDq | inSq => cases h
  | bang s | sent s | comm s => cases s <;> (cases h; rfl)
  | _ => cases h; rfl

theorem rline_lineStart (m : RF) (l : List Char) (r : RLine) (h : rline m l = some r) :
    isLineStart r.next = true := by
  obtain ⟨a, m', _, he, rfl⟩ := rline_some h
  exact rend_lineStart _ _ he

theorem rchars_blank (l : List Char) : ∀ (a x : RAcc), isLineStart a.mode = true → isBlankLine l = true →
    rchars a l = some x → x = a := by
  induction l with
  | nil => intro a x _ _ h; simp only [rchars, Option.some.injEq] at h; exact h.symm
  | cons c cs ih =>
    intro a x hm hb h
    have hk : cls c = .ws := by
      simp only [isBlankLine, dropWs] at hb
      by_cases hc : cls c = .ws
      · exact hc
      · simp [hc] at hb
    have hb' : isBlankLine cs = true := by
      simpa [isBlankLine, dropWs, hk] using hb
    obtain ⟨_, o, ho, h⟩ := rchars_cons_some.mp h
    obtain rfl := Option.some.inj (((lineStart_facts a.mode hm).1.symm.trans (hk ▸ ho)))
    exact ih _ x hm hb' (by simpa using h)

theorem rline_blank (m : RF) (l : List Char) (r : RLine) (hm : isLineStart m = true)
    (hb : isBlankLine l = true) (h : rline m l = some r) : r = ⟨m, false, false⟩ := by
  obtain ⟨a, m', hr, he, rfl⟩ := rline_some h
  obtain rfl := rchars_blank l ⟨m, false, false⟩ a hm hb hr
  rw [(lineStart_facts m hm).2] at he
  cases he
  rfl

/-- `cleaner.state[-1] == "CONTINUING_FROM_SOL"` iff the reference is inside a continued statement -/
theorem rlF_head_cfs (s : FSt) (m : RF) (h : RlF s m) (hm : isLineStart m = true) :
    s.stack.head? = some .cfs ↔ m ≠ .code := by
  rw [rlF_stack h]
  cases m with
  | code => simp [Tbl.absSt]
  | start c => simp [Tbl.absSt]
  | _ => simp [isLineStart] at hm

/-! ## the run of the reference, with the C pass and the cleaner alongside -/

/-- The physical lines `n+1, n+2, …` of an accepted text, read by the reference from mode `m` with verdicts `r`, by the C
    pass, which yields `cls`, and by the cleaner from a state `s` related to `m`.  Line by line: what the C pass hands on, what
    the cleaner makes of it, and the verdict. -/
inductive RefRun : Nat → FSt → RF → List (List Char) → List (Bool × Bool) → List CL → Prop
  | nil {n s} : RlF s .code → RefRun n s .code [] [] []
  /-- a `#` line: handed on as a directive text, not seen by the cleaner -/
  | dir {n s l ls r cls} (t : List Char) : isDirectiveLine l = true → isDirText t = true →
      startsPaste t = isPasteLine l → RefRun (n + 1) s .code ls r cls →
      RefRun n s .code (l :: ls) ((true, false) :: r) (⟨[n + 1], t⟩ :: cls)
  /-- a blank line: dropped by the C pass, not counted by the reference -/
  | blank {n s m l ls r cls} : isDirectiveLine l = false → RefRun (n + 1) s m ls r cls →
      RefRun n s m (l :: ls) ((false, false) :: r) cls
  /-- any other line reaches the cleaner blank-merged; outside F-C17-1 its buffer is non-blank iff the reference counts the
      line, and it holds merged blanks only if the reference does not; the statement is continued iff the reference says so -/
  | code {n s m l ls r cls} (rl : RLine) : isDirectiveLine l = false → isDirText (collapse l) = false →
      (rl.k = false → (!(procLine s (collapse l)).2.blank) = rl.counted) →
      (rl.counted = false → (procLine s (collapse l)).2.OnlySp) →
      ((procLine s (collapse l)).1.stack.head? = some .cfs ↔ rl.next ≠ .code) →
      RefRun (n + 1) (procLine s (collapse l)).1 rl.next ls r cls →
      RefRun n s m (l :: ls) ((rl.counted, rl.k) :: r) (⟨[n + 1], collapse l⟩ :: cls)

theorem refRun_of_ref (ls : List (List Char)) : ∀ (n : Nat) (s : FSt) (m : RF) (r : List (Bool × Bool)),
    RlF s m → isLineStart m = true → (∀ l ∈ ls, LineOK l) → refLines m ls = some r →
    RefRun n s m ls r (cpass n ls) := by
  induction ls with
  | nil =>
    intro n s m r hR _ _ h
    obtain ⟨rfl, rfl⟩ := refLines_nil h
    exact .nil hR
  | cons l ls ih =>
    intro n s m r hR hm hok h
    have hl : LineOK l := hok l (by simp)
    have hok' : ∀ l' ∈ ls, LineOK l' := fun l' h' => hok l' (by simp [h'])
    rcases refLines_cons h with ⟨hd, rfl, r', hr, rfl⟩ | ⟨hd, rl, r', hrl, hr, rfl⟩
    · obtain ⟨t, e, ht, hp⟩ := cpass_dir n l ls hd hl
      exact e ▸ .dir t hd ht hp (ih _ s .code r' hR rfl hok' hr)
    · by_cases hb : isBlankLine l = true
      · obtain rfl := rline_blank m l rl hm hb hrl
        exact cpass_blank n l ls hd hb hl ▸ .blank hd (ih _ s m r' hR hm hok' hr)
      · have hrc := rline_collapse m l rl hrl
        obtain ⟨l1, l2⟩ := line_sim s m (collapse l) rl hR hrc
        have hns := rline_lineStart m l rl hrl
        exact cpass_code n l ls hd (by simpa using hb) hl ▸ .code rl hd (collapse_notdir l hd) l2
          (line_sim_only s m (collapse l) rl hR hrc) (rlF_head_cfs _ _ l1 hns)
          (ih _ _ rl.next r' l1 hns hok' hr)

theorem numberedFrom_cons (n : Nat) (b : Bool) (bs : List Bool) :
    numberedFrom n (b :: bs) = (if b then [n + 1] else []) ++ numberedFrom (n + 1) bs := rfl

theorem RefRun.flags {n : Nat} {s : FSt} {m : RF} {ls : List (List Char)} {r : List (Bool × Bool)} {cls : List CL}
    (h : RefRun n s m ls r cls) :
    ∃ bs, agree bs r ∧ select (flagsFrom s (cls.map (·.text))) cls = numberedFrom n bs ∧
      RlF (finalState s (cls.map (·.text))) .code := by
  induction h with
  | nil hR => exact ⟨[], trivial, rfl, hR⟩
  | dir t _ ht _ _ ih =>
    obtain ⟨bs, a1, a2, a3⟩ := ih
    refine ⟨true :: bs, ⟨fun _ => rfl, a1⟩, ?_, ?_⟩
    · simp only [List.map_cons, flagsFrom_cons, ht, if_true, select_cons, numberedFrom_cons, a2]
    · simpa only [List.map_cons, finalState_cons, ht, if_true] using a3
  | blank _ _ ih =>
    obtain ⟨bs, a1, a2, a3⟩ := ih
    exact ⟨false :: bs, ⟨fun _ => rfl, a1⟩, by simpa [numberedFrom_cons] using a2, a3⟩
  | @code n s _ l _ _ _ rl _ hnd l2 _ _ _ ih =>
    obtain ⟨bs, a1, a2, a3⟩ := ih
    refine ⟨(!(procLine s (collapse l)).2.blank) :: bs, ⟨l2, a1⟩, ?_, ?_⟩
    · simp only [List.map_cons, flagsFrom_cons, hnd, Bool.false_eq_true, if_false, select_cons, numberedFrom_cons, a2]
    · simpa only [List.map_cons, finalState_cons, hnd, Bool.false_eq_true, if_false] using a3

/-- physical lines `n+1 …` scanned by the reference from mode `m`, and the
Fortran pass over what the C pass makes of them, started in a related cleaner state -/
theorem run_eq_ref (ls : List (List Char)) : ∀ (n : Nat) (s : FSt) (m : RF) (r : List (Bool × Bool)),
    RlF s m → isLineStart m = true → (∀ l ∈ ls, LineOK l) → refLines m ls = some r →
    ∃ bs, agree bs r ∧
      select (flagsFrom s ((cpass n ls).map (·.text))) (cpass n ls) = numberedFrom n bs ∧
      RlF (finalState s ((cpass n ls).map (·.text))) .code :=
  fun n s m r hR hm hok h => (refRun_of_ref ls n s m r hR hm hok h).flags

/-- along the run of the reference `fortran_file_source` does not raise, and outside finding class F-C17-1 it counts a
    physical line iff the reference does -/
theorem RefRun.counted {n : Nat} {s : FSt} {m : RF} {ls : List (List Char)} {r : List (Bool × Bool)} {cls : List CL}
    (h : RefRun n s m ls r cls) :
    ∃ lls bs, fLoop s {} [] cls = .ok lls ∧ agree bs r ∧ countedOf lls = numberedFrom n bs := by
  obtain ⟨bs, a1, a2, a3⟩ := h.flags
  obtain ⟨hc, he⟩ := fLoop_counted cls ⟨s, {}, []⟩ (ok_fresh s)
  obtain ⟨lls, hl⟩ := he.mpr (rlF_stack a3)
  exact ⟨lls, bs, hl, a1, (hc lls hl).trans a2⟩

/-! ## whole texts -/

theorem splitLinesAux_cons (c : Char) (r cur : List Char) (h : c ≠ '\n') :
    splitLinesAux (c :: r) cur = splitLinesAux r (c :: cur) := by
  rw [splitLinesAux]; exact h

theorem textLinesAux_cons (c : Char) (r cur : List Char) (h : c ≠ '\n') :
    textLinesAux (c :: r) cur = textLinesAux r (c :: cur) := by
  rw [textLinesAux]; exact h

theorem splitLinesAux_fst (cs : List Char) : ∀ cur : List Char,
    (splitLinesAux cs cur).map (·.1) = textLinesAux cs cur := by
  induction cs with
  | nil =>
    intro cur
    show (if cur.isEmpty then [] else [(cur.reverse, false)]).map (·.1) = if cur.isEmpty then [] else [cur.reverse]
    split <;> rfl
  | cons c cs ih =>
    intro cur
    by_cases hc : c = '\n'
    · subst hc
      show ((cur.reverse, true) :: splitLinesAux cs []).map (·.1) = cur.reverse :: textLinesAux cs []
      rw [List.map_cons, ih]
    · rw [splitLinesAux_cons c cs cur hc, textLinesAux_cons c cs cur hc]
      exact ih _

theorem splitLines_fst (s : String) : (splitLines s).map (·.1) = textLines s := splitLinesAux_fst _ _

theorem lineOK_of_textOK (ls : List (List Char)) (h : textOK ls = true) : ∀ l ∈ ls, LineOK l := by
  intro l hl
  simp only [textOK, List.all_eq_true, Bool.and_eq_true, Bool.not_eq_true', Bool.or_eq_true] at h
  obtain ⟨⟨h1, _⟩, h3⟩ := h l hl
  refine ⟨fun c hc hh => ?_, fun hd => ?_⟩
  · subst hh
    have : l.contains '\\' = true := List.contains_iff_mem.mpr hc
    rw [h1] at this; cases this
  · rcases h3 with h3 | h3
    · rw [hd] at h3; cases h3
    · exact h3

theorem fortranSource_of_refText (text : String) (r : List (Bool × Bool)) (h : refText text = some r) :
    fortranSource text = fPass (cpass 0 (textLines text)) ∧
      RefRun 0 {} .code (textLines text) r (cpass 0 (textLines text)) := by
  unfold refText at h
  simp only at h
  split at h
  · rename_i hok
    have hlok := lineOK_of_textOK _ hok
    have hd := dLoop_ok (splitLines text) 0 (fun p hp => hlok _ (by
      rw [← splitLines_fst]; exact List.mem_map_of_mem hp))
    rw [splitLines_fst] at hd
    exact ⟨by unfold fortranSource dPass; rw [hd], refRun_of_ref _ 0 {} .code r init_rlF rfl hlok h⟩
  · cases h

/-! ## texts given by their characters

A string literal is by definition `String.ofList` of its characters; the kernel evaluates `String.toList` of it by decoding
UTF-8, which costs far more than everything the model does with the characters.  Evaluations rewrite with these first. -/

theorem textLines_ofList (l : List Char) : textLines (String.ofList l) = textLinesAux l [] := by
  rw [textLines, String.toList_ofList]

theorem fortranSource_ofList (l : List Char) :
    fortranSource (String.ofList l) =
      match dPass (splitLinesAux l []) with
      | .error e => .error e
      | .ok cls => fPass cls := by
  rw [fortranSource, splitLines, String.toList_ofList]; rfl

theorem refText_ofList (l : List Char) :
    refText (String.ofList l) =
      if textOK (textLinesAux l []) then refLines .code (textLinesAux l []) else none := by
  rw [refText, textLines_ofList]

theorem refNodes_ofList (l : List Char) :
    refNodes (String.ofList l) =
      match refText (String.ofList l) with
      | some r => refNodesAux 0 [] (textLinesAux l []) r
      | none => [] := by
  rw [refNodes, textLines_ofList]; rfl

end CbiVerif.Fortran
