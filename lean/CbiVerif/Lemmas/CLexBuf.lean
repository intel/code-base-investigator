import CbiVerif.Lemmas.CLexSim
/-! # C05: `one_space_line` buffers at class level

`app` computes what a list of buffer actions appends; the category of the buffer, its BLANK test and its
`##` test are read off the actions.  The last section relates the scanner mode to the buffer of the pending
logical line. -/
namespace CbiVerif.CLexSim
open CbiVerif.CClean CbiVerif.CLexRef

def anyVisible (es : List REmit) : Bool := es.any REmit.visible
def anyLitWs (es : List REmit) : Bool := es.any REmit.litWs

/-- parts appended by a list of buffer actions and the final trailing flag, given the initial flag -/
def app : Bool → List REmit → List Cls × Bool
  | tr, [] => ([], tr)
  | tr, .sp :: es => if tr then app true es else (.space :: (app true es).1, (app true es).2)
  | _, .ns k :: es => (k :: (app false es).1, (app false es).2)

theorem app_nil (tr : Bool) : app tr [] = ([], tr) := rfl
theorem app_sp (tr : Bool) (es : List REmit) :
    app tr (.sp :: es) = if tr then app true es else (.space :: (app true es).1, (app true es).2) := rfl
theorem app_ns (tr : Bool) (k : Cls) (es : List REmit) :
    app tr (.ns k :: es) = (k :: (app false es).1, (app false es).2) := rfl

theorem addAll_app (es : List REmit) : ∀ b : CBuf, b.addAll es = ⟨b.parts ++ (app b.trailing es).1, (app b.trailing es).2⟩ := by
  induction es with
  | nil => intro b; simp [CBuf.addAll, app_nil]
  | cons e es ih =>
    intro b
    simp only [CBuf.addAll, List.foldl_cons] at ih ⊢
    rw [ih]
    cases e with
    | sp => cases ht : b.trailing <;> simp [CBuf.add, ht, app_sp]
    | ns k => simp [CBuf.add, app_ns]

theorem addAll_empty (es : List REmit) : ({} : CBuf).addAll es = ⟨(app false es).1, (app false es).2⟩ := by
  rw [addAll_app]; rfl

theorem app_nil_iff (es : List REmit) : (app false es).1 = [] → es = [] := by
  cases es with
  | nil => intro _; rfl
  | cons e es => cases e <;> simp [app_sp, app_ns]

theorem app_append (xs ys : List REmit) : ∀ tr, (app tr (xs ++ ys)).2 = (app (app tr xs).2 ys).2 := by
  induction xs with
  | nil => intro tr; rfl
  | cons e xs ih =>
    intro tr
    cases e with
    | sp => cases tr <;> simp [app_sp, ih]
    | ns k => simp [app_ns, ih]

theorem any_app (es : List REmit) : ∀ tr, ((app tr es).1.any fun k => !k.isWhite) = anyVisible es := by
  induction es with
  | nil => intro tr; rfl
  | cons e es ih =>
    intro tr
    cases e with
    | sp => cases tr <;> simpa [app_sp, anyVisible, REmit.visible, Cls.isWhite] using ih true
    | ns k =>
      show (!k.isWhite || (app false es).1.any _) = (!k.isWhite || anyVisible es)
      rw [ih false]

def CBuf.join (o other : CBuf) : CBuf :=
  match other.parts with
  | [] => o
  | p :: ps =>
    if p == .space && o.trailing then ⟨o.parts ++ ps, other.trailing⟩
    else ⟨o.parts ++ other.parts, other.trailing⟩

theorem toC_join (o other : Buf) : (o.join other).toC = o.toC.join other.toC := by
  unfold Buf.join CBuf.join
  cases hp : other.parts with
  | nil => simp [Buf.toC, hp]
  | cons p ps =>
    simp only [Buf.toC, hp, List.map_cons]
    split <;> simp

/-- the first action is not a literal blank (`" "` appended with `append_nonspace`) -/
def firstOK : List REmit → Bool
  | .ns .space :: _ => false
  | _ => true

/-- `join` is `addAll` unless a literal blank meets a trailing space -/
theorem join_addAll (b : CBuf) (es : List REmit) (h : b.trailing = true → firstOK es = true) :
    b.join (({} : CBuf).addAll es) = b.addAll es := by
  rw [addAll_app es b, addAll_empty]
  unfold CBuf.join
  cases es with
  | nil => simp [app_nil]
  | cons e es' =>
    cases e with
    | sp => cases ht : b.trailing <;> simp [app_sp]
    | ns k =>
      cases ht : b.trailing
      · simp [app_ns]
      · have hk : (k == Cls.space) = false := by
          have := h ht
          cases k <;> first | rfl | cases this
        simp [app_ns, hk]

/-! ## the first visible character decides the category -/

/-- class of the first visible character appended -/
def lead : List REmit → Option Cls
  | [] => none
  | .sp :: es => lead es
  | .ns k :: es => if k.isWhite then lead es else some k

/-- no white space of a literal is appended before the first visible character -/
def leadOK : List REmit → Bool
  | [] => true
  | .sp :: es => leadOK es
  | .ns k :: _ => !k.isWhite

theorem lead_sp (es : List REmit) : lead (.sp :: es) = lead es := rfl
theorem lead_ns (k : Cls) (es : List REmit) : lead (.ns k :: es) = if k.isWhite then lead es else some k := rfl
theorem leadOK_sp (es : List REmit) : leadOK (.sp :: es) = leadOK es := rfl
theorem leadOK_ns (k : Cls) (es : List REmit) : leadOK (.ns k :: es) = !k.isWhite := rfl

theorem lead_isSome (es : List REmit) : (lead es).isSome = anyVisible es := by
  induction es with
  | nil => rfl
  | cons e es ih =>
    cases e with
    | sp => simpa [lead_sp, anyVisible, REmit.visible] using ih
    | ns k =>
      cases hk : k.isWhite
      · simp [lead_ns, hk, anyVisible, REmit.visible]
      · simpa [lead_ns, hk, anyVisible, REmit.visible] using ih

theorem leadOK_append (xs ys : List REmit) :
    leadOK (xs ++ ys) = (leadOK xs && (anyVisible xs || leadOK ys)) := by
  induction xs with
  | nil => rfl
  | cons e xs ih =>
    cases e with
    | sp => simpa [leadOK_sp, anyVisible, REmit.visible] using ih
    | ns k => cases hk : k.isWhite <;> simp [leadOK_ns, hk, anyVisible, REmit.visible]

theorem leadOK_of_noLit (es : List REmit) (h : anyLitWs es = false) : leadOK es = true := by
  induction es with
  | nil => rfl
  | cons e es ih =>
    simp only [anyLitWs, List.any_cons, Bool.or_eq_false_iff] at h
    cases e with
    | sp => exact ih h.2
    | ns k => simpa [leadOK_ns, REmit.litWs] using h.1

def catV : Option Cls → Cat
  | none => .blank
  | some k => if k == .hash then .cppDirective else .srcNonblank

theorem catV_blank (v : Option Cls) : (catV v != Cat.blank) = v.isSome := by
  cases v with
  | none => rfl
  | some k => simp only [catV]; split <;> rfl

theorem catOf_vis (k : Cls) (hk : k.isWhite = false) (rest : List Cls) :
    catOf (k :: rest) = catV (some k) ∧ catOf (.space :: k :: rest) = catV (some k) := by
  cases k <;> first | (cases rest <;> exact ⟨rfl, rfl⟩) | cases hk

/-- category of the buffer built by `es`, from empty or from one blank -/
theorem cat_app (es : List REmit) (h : leadOK es = true) :
    catOf (app false es).1 = catV (lead es) ∧ catOf (.space :: (app true es).1) = catV (lead es) := by
  induction es with
  | nil => exact ⟨rfl, rfl⟩
  | cons e es ih =>
    cases e with
    | sp => exact ⟨(ih h).2, (ih h).2⟩
    | ns k =>
      have hk : k.isWhite = false := by simpa [leadOK_ns] using h
      simp only [app_ns, lead_ns, hk, Bool.false_eq_true, if_false]
      exact catOf_vis k hk _

theorem catOf_nonblank (ks : List Cls) (h : (ks.any fun k => !k.isWhite) = true) : catOf ks ≠ .blank := by
  match ks with
  | [] => cases h
  | [k] => cases k <;> first | (intro e; cases e; done) | cases h
  | a :: b :: _ => simp only [catOf]; split <;> (intro e; cases e)

/-- a physical line is counted iff something visible survives on it — provided it does not hold
    white space inside a literal and nothing else (finding class F-C05-2) -/
theorem counted_iff (es : List REmit) (hk2 : anyLitWs es = true → anyVisible es = true) :
    (catOf (({} : CBuf).addAll es).parts != .blank) = anyVisible es := by
  rw [addAll_empty]
  cases hl : anyLitWs es with
  | false => rw [(cat_app es (leadOK_of_noLit es hl)).1, catV_blank, lead_isSome]
  | true =>
    have := catOf_nonblank (app false es).1 (by rw [any_app, hk2 hl])
    simp [this, hk2 hl]

/-- the surviving characters start (after code white space) with two `#` in a row -/
def hhE : List REmit → Bool
  | .sp :: es => hhE es
  | .ns k :: es => k == .hash && (match es with | .ns k2 :: _ => k2 == .hash | _ => false)
  | [] => false

theorem hhE_ns (k : Cls) (es : List REmit) :
    hhE (.ns k :: es) = (k == .hash && (match es with | .ns k2 :: _ => k2 == .hash | _ => false)) := rfl

theorem app_head (es : List REmit) :
    ((app false es).1.head? == some Cls.hash) = (match es with | .ns k2 :: _ => k2 == .hash | _ => false) := by
  match es with
  | [] => rfl
  | .sp :: _ => rfl
  | .ns k2 :: _ => cases k2 <;> rfl

theorem hashHash_vis (k : Cls) (hk : k.isWhite = false) (rest : List Cls) :
    hashHash (k :: rest) = (k == .hash && rest.head? == some .hash) ∧
    hashHash (.space :: k :: rest) = (k == .hash && rest.head? == some .hash) := by
  cases k <;> first | exact ⟨rfl, rfl⟩ | (cases hk; done) | skip
  -- what is left is `k = .hash`
  cases rest with
  | nil => exact ⟨rfl, rfl⟩
  | cons r _ => cases r <;> exact ⟨rfl, rfl⟩

theorem hh_app (es : List REmit) (h : leadOK es = true) :
    hashHash (app false es).1 = hhE es ∧ hashHash (.space :: (app true es).1) = hhE es := by
  induction es with
  | nil => exact ⟨rfl, rfl⟩
  | cons e es ih =>
    cases e with
    | sp => exact ⟨(ih h).2, (ih h).2⟩
    | ns k =>
      have hk : k.isWhite = false := by simpa [leadOK_ns] using h
      simp only [app_ns, hhE_ns, ← app_head]
      exact hashHash_vis k hk _

/-! ## the scanner mode and the buffer of the pending logical line -/

/-- while the scanner is inside a literal, something visible has been appended (`hl`) and the buffer does
    not end in a collapsible blank (`tr`) -/
def BufInv (hl tr : Bool) (w : DMode) : Bool := !w.inLiteral || (hl && !tr)

/-- one character keeps `BufInv`, appends no white space of a literal before the first visible part, and
    no literal blank directly after a collapsible one -/
def bufOK (hl tr : Bool) (w : DMode) (k : Cls) : Bool :=
  match dstep w k.kind with
  | none => true
  | some o =>
    !BufInv hl tr w ||
      ((hl || leadOK (refEmits w k o)) && (!tr || firstOK (refEmits w k o)) &&
        BufInv (hl || anyVisible (refEmits w k o)) (app tr (refEmits w k o)).2 o.mode)

theorem bufOK_all : (allB.all fun hl => allB.all fun tr => allW.all fun w => allC.all fun c => bufOK hl tr w c) = true := by
  decide +kernel

theorem firstOK_append (xs ys : List REmit) : firstOK (xs ++ ys) = if xs = [] then firstOK ys else firstOK xs := by
  cases xs with
  | nil => rfl
  | cons e xs => cases e with
    | sp => rfl
    | ns k => cases k <;> rfl

/-- appending `es` to the buffer of the pending logical line while the scanner goes from `w` to `w'`: whatever
    actions `E` the buffer holds, no white space of a literal comes before the first visible part, no literal blank
    directly after a collapsible one, and `BufInv` is kept -/
def BufKeeps (w : DMode) (es : List REmit) (w' : DMode) : Prop :=
  ∀ E : List REmit, leadOK E = true → BufInv (anyVisible E) (app false E).2 w = true →
    leadOK (E ++ es) = true ∧ ((app false E).2 = true → firstOK es = true) ∧
      BufInv (anyVisible (E ++ es)) (app false (E ++ es)).2 w' = true

theorem BufKeeps.nil (w : DMode) : BufKeeps w [] w := fun E hE hi => by
  rw [List.append_nil]; exact ⟨hE, fun _ => rfl, hi⟩

theorem BufKeeps.append {w w1 w' : DMode} {xs ys : List REmit} (h1 : BufKeeps w xs w1) (h2 : BufKeeps w1 ys w') :
    BufKeeps w (xs ++ ys) w' := by
  intro E hE hi
  obtain ⟨a1, a2, a3⟩ := h1 E hE hi
  obtain ⟨b1, b2, b3⟩ := h2 (E ++ xs) a1 a3
  rw [List.append_assoc] at b1 b3
  refine ⟨b1, fun ht => ?_, b3⟩
  rw [firstOK_append]
  split
  · rename_i hnil
    subst hnil
    exact b2 (by rwa [List.append_nil])
  · exact a2 ht

theorem BufKeeps.step {w : DMode} {k : Cls} {o : DOut} (ho : dstep w k.kind = some o) :
    BufKeeps w (refEmits w k o) o.mode := by
  intro E hE hi
  have hb := List.all_eq_true.mp (List.all_eq_true.mp (List.all_eq_true.mp (List.all_eq_true.mp bufOK_all
    _ (mem_allB (anyVisible E))) _ (mem_allB (app false E).2)) w (mem_allW w)) k (mem_allC k)
  simp only [bufOK, ho, hi, Bool.not_true, Bool.false_or, Bool.and_eq_true] at hb
  obtain ⟨⟨a1, a2⟩, a3⟩ := hb
  refine ⟨by rw [leadOK_append, hE, a1]; rfl, fun ht => by simpa [ht] using a2, ?_⟩
  rw [app_append]
  simpa [anyVisible] using a3

/-- the newline appends `/` or a blank or nothing, and leaves the scanner outside literals -/
theorem BufKeeps.newline {w w' : DMode} {es : List REmit} {ends : Bool} (hn : refNewline w = some (w', es, ends)) :
    BufKeeps w es w' := by
  have hw' : w'.inLiteral = false ∧ firstOK es = true ∧ leadOK es = true := by
    cases w <;> simp [refNewline] at hn <;> obtain ⟨rfl, rfl, rfl⟩ := hn <;> exact ⟨rfl, rfl, rfl⟩
  intro E hE _
  exact ⟨by rw [leadOK_append, hE, hw'.2.2, Bool.or_true]; rfl, fun _ => hw'.2.1, by simp [BufInv, hw'.1]⟩

theorem chars_buf {ks : List Cls} : ∀ {w w' : DMode} {es : List REmit}, refChars w ks = some (w', es) → BufKeeps w es w' := by
  induction ks with
  | nil => intro w w' es h; cases h; exact .nil w
  | cons k ks ih =>
    intro w w' es h
    obtain ⟨o, es2, ho, hr, rfl⟩ := refChars_cons h
    exact (BufKeeps.step ho).append (ih hr)

/-- over one physical line, in terms of the actions `E` appended so far to the buffer of the logical line -/
theorem line_buf (E : List REmit) {w w' : DMode} {ks : List Cls} {cont ends : Bool} {es : List REmit}
    (h : refLine w ks cont = some (w', es, ends)) (hE : leadOK E = true)
    (hi : BufInv (anyVisible E) (app false E).2 w = true) :
    leadOK (E ++ es) = true ∧ ((app false E).2 = true → firstOK es = true) ∧
      BufInv (anyVisible (E ++ es)) (app false (E ++ es)).2 w' = true := by
  obtain ⟨w1, es1, hr, ⟨_, rfl, rfl, rfl⟩ | ⟨_, es2, hn, rfl⟩⟩ := refLine_some h
  · exact chars_buf hr E hE hi
  · exact (chars_buf hr).append (.newline hn) E hE hi

end CbiVerif.CLexSim
