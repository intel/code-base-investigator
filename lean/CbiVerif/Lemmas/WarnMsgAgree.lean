import CbiVerif.Model.WarnMsg
/-! Agreement of the exact message model with the approximate one of `Model/Warn.lean` (`renderL`) and of the two call sites
of the include warning, **for the message texts as they are now**.  These statements unfold the literal texts, so an
edit of a message text breaks them although it is harmless: they are kept out of the obligations of C18 on purpose
(built with the library root only) and document that the theorems of `Props/C18.lean` about `renderL` speak about the
same texts as `Props/C18Msg.lean`. -/
namespace CbiVerif.WarnMsg
open CbiVerif.Warn CbiVerif.WarnTmpl

/-- the exact rendering agrees with the approximate one wherever no Python `repr` is involved -/
theorem renderX_eq_renderL (e : Event) (h : e.kind ≠ .unknownDirective) : renderX e = renderL e := by
  unfold renderX renderL
  cases hk : e.kind with
  | unknownDirective => exact absurd hk h
  | _ =>
    simp only [template, Gen.tmplInclude, Gen.tmplMissing, Gen.tmplCompiler, Gen.tmplArgs, Gen.tmplNofiles, renderT,
      List.flatMap_cons, List.flatMap_nil, pieceText, argText, padLeft, padLeft5, kindPhrase, hk, includeMsg, includePhrase,
      Nat.zero_sub, List.replicate_zero, List.nil_append, List.append_assoc, List.append_nil, if_true, Bool.false_eq_true, if_false]

theorem forced_message_is_include_message (src name : String) :
    renderForced (forcedEvent src name) = renderX (forcedEvent src name) := by
  simp [renderForced, renderX, renderT, forcedEvent, template, Gen.tmplForced, Gen.tmplInclude, pieceText, argText,
    padLeft, kindPhrase, Gen.includeKindUser, natL]

/-! the exact text of three messages as the code prints them now -/
example : renderS { kind := .unknownDirective, file := "/r/a.c", line := 4, col := 1, name := "foo", spelling := " #foo \"a'b\"" } =
    "/r/a.c:4:1: unrecognized directive '[' #foo \"a\\'b\"']'" := by
  apply congrArg String.ofList
  decide +kernel
example : renderS { kind := .unknownDirective, file := "/r/a.c", line := 5, col := 0, name := "ident", spelling := "#ident 'a'" } =
    "/r/a.c:5:0: unrecognized directive '[\"#ident 'a'\"]'" := by
  apply congrArg String.ofList
  decide +kernel
example : renderS { kind := .systemInclude, file := "/r/a.c", line := 12345, name := "y.h", spelling := "#include <y.h>" } =
    "/r/a.c:12345: system include 'y.h' not found\n12345 | #include <y.h>" := by
  apply congrArg String.ofList
  decide +kernel

end CbiVerif.WarnMsg
