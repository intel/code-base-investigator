import CbiVerif.Model.EnginesAgree
/-! The association map of the multi-file engines read as a set of (file, node, platform) triples (`Engines.Has`): what
`addAssoc` and the record of a walked file add to it.  Used by the C13 invariant (`Lemmas/FindReach.lean`) and by the
engine agreement (`Lemmas/EnginesAgree*.lean`). -/
namespace CbiVerif.Engines
open CbiVerif.PP CbiVerif.Exclude

section
variable (a : AssocL) (f : String) (i : Nat) (p : String)

theorem has_append (b : AssocL) : Has (a ++ b) f i p ↔ Has a f i p ∨ Has b f i p := by
  simp only [Has, List.mem_append, or_and_right, exists_or]

theorem has_singleton (f' : String) (i' : Nat) (p' : String) :
    Has [((f, i), [p])] f' i' p' ↔ f' = f ∧ i' = i ∧ p' = p := by
  simp [Has, eq_comm, and_assoc]

/-- a map that leaves the keys alone acts on the attributions entry by entry -/
theorem has_map {g : (String × Nat) × List String → (String × Nat) × List String} (hg : ∀ e, (g e).1 = e.1) :
    Has (a.map g) f i p ↔ ∃ e ∈ a, e.1 = (f, i) ∧ p ∈ (g e).2 := by
  constructor
  · rintro ⟨_, hm, h1, h2⟩
    obtain ⟨e, he, rfl⟩ := List.mem_map.mp hm
    exact ⟨e, he, hg e ▸ h1, h2⟩
  · rintro ⟨e, he, h1, h2⟩
    exact ⟨g e, List.mem_map_of_mem he, (hg e).trans h1, h2⟩

theorem has_addAssoc (f' : String) (i' : Nat) (p' : String) :
    Has (addAssoc a f i p) f' i' p' ↔ Has a f' i' p' ∨ (f' = f ∧ i' = i ∧ p' = p) := by
  unfold addAssoc
  cases hfind : a.find? (fun x => x.1 == (f, i)) with
  | none => rw [has_append, has_singleton]
  | some e0 =>
    -- the key has an entry `e0`: the triple is there already, or `p` joins the entries with that key
    have hmem := List.mem_of_find?_eq_some hfind
    have hk : e0.1 = (f, i) := by simpa using List.find?_some hfind
    dsimp only
    split
    · rename_i hc
      exact ⟨.inl, fun h => h.elim id fun ⟨h1, h2, h3⟩ => ⟨e0, hmem, by rw [hk, h1, h2], by simpa [h3] using hc⟩⟩
    · have hif : ∀ e : (String × Nat) × List String,
          p' ∈ (if e.1 == (f, i) then (e.1, e.2 ++ [p]) else e).2 ↔ p' ∈ e.2 ∨ (e.1 = (f, i) ∧ p' = p) :=
        fun e => by split <;> simp_all
      rw [has_map _ _ _ _ (fun e => by split <;> rfl)]
      simp only [hif, and_or_left, exists_or]
      refine or_congr_right ⟨fun ⟨e, _, h1, h2, h3⟩ => ?_, fun ⟨h1, h2, h3⟩ => ⟨e0, hmem, by rw [hk, h1, h2], hk, h3⟩⟩
      obtain ⟨h4, h5⟩ := Prod.mk.inj (h1.symm.trans h2)
      exact ⟨h4, h5, h3⟩

end

theorem inc_addAssoc_eq (s : Inc.PState) (f : String) (i : Nat) (p : String) :
    (s.addAssoc f i p).assoc = addAssoc s.assoc f i p := by
  unfold Inc.PState.addAssoc addAssoc
  cases s.assoc.find? (fun x => x.1 == (f, i)) with
  | none => rfl
  | some e =>
    obtain ⟨k, ps⟩ := e
    simp only []
    split <;> rfl

/-- `FileOps.record` of the C04 engine adds exactly the walked nodes under the platform's name -/
theorem has_record (out : List Nat) (s : Inc.PState) (g name : String) (f : String) (i : Nat) (p : String) :
    Has (out.foldl (fun s i => s.addAssoc g i name) s).assoc f i p ↔ Has s.assoc f i p ∨ (f = g ∧ p = name ∧ i ∈ out) := by
  induction out generalizing s with
  | nil => simp
  | cons j out ih =>
    simp only [List.foldl_cons]
    rw [ih, inc_addAssoc_eq, has_addAssoc]
    simp only [List.mem_cons]
    constructor
    · rintro ((h | ⟨h1, h2, h3⟩) | ⟨h1, h2, h3⟩)
      · exact .inl h
      · exact .inr ⟨h1, h3, .inl h2⟩
      · exact .inr ⟨h1, h2, .inr h3⟩
    · rintro (h | ⟨h1, h2, h3 | h3⟩)
      · exact .inl (.inl h)
      · exact .inl (.inr ⟨h1, h3, h2⟩)
      · exact .inr ⟨h1, h2, h3⟩

end CbiVerif.Engines
