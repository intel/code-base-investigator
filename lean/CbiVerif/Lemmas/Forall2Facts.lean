import Batteries.Data.List.Basic
/-! Members of two lists related by `List.Forall₂` have partners. -/
namespace CbiVerif.ListFacts
variable {α β : Type _} {R : α → β → Prop} {l1 : List α} {l2 : List β}

theorem forall₂_left (h : List.Forall₂ R l1 l2) : ∀ a ∈ l1, ∃ b ∈ l2, R a b := by
  induction h with
  | nil => exact nofun
  | cons hab _ ih =>
    intro a ha
    rcases List.mem_cons.mp ha with rfl | ha
    · exact ⟨_, List.mem_cons_self, hab⟩
    · obtain ⟨b, hb, hr⟩ := ih a ha; exact ⟨b, List.mem_cons_of_mem _ hb, hr⟩

theorem forall₂_swap (h : List.Forall₂ R l1 l2) : List.Forall₂ (fun b a => R a b) l2 l1 := by
  induction h with
  | nil => exact .nil
  | cons hab _ ih => exact .cons hab ih

theorem forall₂_right (h : List.Forall₂ R l1 l2) : ∀ b ∈ l2, ∃ a ∈ l1, R a b :=
  forall₂_left (forall₂_swap h)

end CbiVerif.ListFacts
