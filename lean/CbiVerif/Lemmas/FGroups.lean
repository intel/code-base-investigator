import CbiVerif.Lemmas.FRun
/-!
The GROUPING of the counted lines of a Fortran file: `FileParser`'s nodes over `fortran_file_source` (`group ∘ fLoop`) against
`Spec/FortranNodes.lean` (`refNodesAux`), by induction along the joint run of reference, C pass and cleaner (`RefRun`,
`Lemmas/FRun.lean`): the simulation carries the open logical line (blanks only / non-blank) and the open code group.  Since
the repair of F-C17-2 a logical line assembled from statement lines is never a directive (`emitLL`), so no fact about the
first character of the joined buffer is needed.  At the end: every group of the specification holds a line.
-/
namespace CbiVerif.Fortran
open Tbl

theorem refNodesAux_cons (n : Nat) (acc : List Nat) (l : List Char) (ls : List (List Char)) (c k : Bool)
    (r : List (Bool × Bool)) :
    refNodesAux n acc (l :: ls) ((c, k) :: r) =
      if isDirectiveLine l && !isPasteLine l then flushGroup acc ++ (true, [n + 1]) :: refNodesAux (n + 1) [] ls r
      else refNodesAux (n + 1) (if c then acc ++ [n + 1] else acc) ls r := rfl

/-! ## `fortran_file_source` and `FileParser` on one more logical line -/

theorem fEndOut_onlySp (k : LCfg) (h : k.cur.OnlySp) : fEndOut k = [] := by
  rw [fEndOut, emitLL_eq, blank_of_onlySp _ h]; rfl

theorem fEndOut_nonblank (k : LCfg) (h : k.cur.blank = false) : fEndOut k = [⟨k.lines, k.cur.parts, false⟩] := by
  rw [fEndOut, emitLL_eq, h]; rfl

theorem wf_of_onlySp (b : OSL) (h : b.OnlySp) : b.WF := by
  intro _
  rcases h with ⟨hp, ht⟩ | ⟨hp, _⟩
  · simp_all
  · simp [hp]

theorem onlySp_join_onlySp (a b : OSL) (ha : a.OnlySp) (hb : b.OnlySp) : (a.join b).OnlySp := by
  unfold OSL.join
  rcases hb with ⟨bp, bt⟩ | ⟨bp, bt⟩
  · rw [bp]; exact ha
  · rw [bp]
    rcases ha with ⟨ap, at'⟩ | ⟨ap, at'⟩
    · simp only [at', Bool.and_false, Bool.false_eq_true, if_false]
      right; simp [ap, bt]
    · simp only [at', beq_self_eq_true, Bool.and_self, if_true]
      right; simp [ap, bt]

/-- outside F-C17-1 the open logical line is merged blanks with no line counted, or non-blank with a line counted -/
def LCfg.Open (k : LCfg) : Prop := (k.cur.OnlySp ∧ k.lines = []) ∨ (k.cur.blank = false ∧ k.lines ≠ [])

theorem open_fresh (s : FSt) : (⟨s, {}, []⟩ : LCfg).Open := Or.inl ⟨onlySp_empty, rfl⟩

/-- one more statement line keeps it so, if its buffer is merged blanks whenever it is blank -/
theorem LCfg.Open.push {k : LCfg} (h : k.Open) (t : List Char) (ls : List Nat) (hls : ls ≠ [])
    (hb : (procLine k.s t).2.blank = true → (procLine k.s t).2.OnlySp) : (k.push t ls).Open := by
  unfold LCfg.push
  cases hbl : (procLine k.s t).2.blank with
  | true =>
    rw [if_pos rfl]
    exact h.imp (fun h => ⟨onlySp_join_onlySp _ _ h.1 (hb hbl), h.2⟩) fun h => ⟨nonblank_of_ext (ext_join _ _) h.1, h.2⟩
  | false =>
    rw [if_neg Bool.false_ne_true]
    refine Or.inr ⟨?_, List.append_ne_nil_of_right_ne_nil _ hls⟩
    rcases h with ⟨hcur, _⟩ | ⟨hcur, _⟩
    · exact join_nonblank_right _ _ (wf_of_onlySp _ hcur) hbl
    · exact nonblank_of_ext (ext_join _ _) hcur

/-- what the property speaks about in a node: is it a directive, which physical lines -/
def nview (nd : Node) : Bool × List Nat := (nd.isDir, nd.lines)

theorem groupAux_code (gacc : List LL) (ll : LL) (out : List LL) (h : ll.isDir = false) :
    groupAux gacc (ll :: out) = groupAux (gacc ++ [ll]) out := by
  simp [groupAux_cons, LL.isDirective, h]

/-- a `#` line whose first token is `##` is code for `FileParser.is_directive` -/
theorem groupAux_paste (gacc : List LL) (ll : LL) (out : List LL) (h : startsPaste ll.text = true) :
    groupAux gacc (ll :: out) = groupAux (gacc ++ [ll]) out := by
  unfold startsPaste at h
  simp [groupAux_cons, LL.isDirective, h]

theorem flush_view : ∀ (gacc : List LL), (∀ ll ∈ gacc, ll.lines ≠ []) →
    (if gacc.isEmpty then [] else [mkCode gacc]).map nview = flushGroup (countedOf gacc)
  | [], _ => rfl
  | ll :: g, h => by
    -- the group has a logical line, and that one a physical line
    obtain ⟨a, t, e⟩ := List.exists_cons_of_ne_nil (h ll List.mem_cons_self)
    show [(false, ll.lines ++ countedOf g)] = flushGroup (ll.lines ++ countedOf g)
    rw [e]; rfl

theorem groupAux_dir (gacc : List LL) (ls : List Nat) (t : List Char) (out : List LL)
    (h : ∀ ll ∈ gacc, ll.lines ≠ []) (hp : startsPaste t = false) :
    (groupAux gacc (⟨ls, t, true⟩ :: out)).map nview =
      flushGroup (countedOf gacc) ++ (true, ls) :: (groupAux [] out).map nview := by
  unfold startsPaste at hp
  simp only [groupAux_cons, LL.isDirective, hp, Bool.not_false, Bool.and_self, if_true, List.map_append, List.map_cons]
  rw [flush_view gacc h]
  rfl

theorem nonempty_snoc (gacc : List LL) (ll : LL) (hg : ∀ x ∈ gacc, x.lines ≠ []) (h : ll.lines ≠ []) :
    ∀ x ∈ gacc ++ [ll], x.lines ≠ [] :=
  fun x hx => (List.mem_append.mp hx).elim (hg x) fun hx => List.mem_singleton.mp hx ▸ h

/-- the flush of the open logical line joins the open code group -/
theorem groupAux_flush {k : LCfg} (h : k.Open) (gacc : List LL) (hg : ∀ ll ∈ gacc, ll.lines ≠ []) :
    ∃ g, (∀ out, groupAux gacc (fEndOut k ++ out) = groupAux g out) ∧ countedOf g = countedOf gacc ++ k.lines ∧
      ∀ ll ∈ g, ll.lines ≠ [] := by
  rcases h with ⟨ho, hl⟩ | ⟨hb, hl⟩
  · rw [fEndOut_onlySp k ho, hl, List.append_nil]
    exact ⟨gacc, fun _ => rfl, rfl, hg⟩
  · rw [fEndOut_nonblank k hb]
    exact ⟨gacc ++ [_], fun _ => groupAux_code _ _ _ rfl, by simp [countedOf], nonempty_snoc gacc _ hg hl⟩

/-- what is known about the open logical line (`curr_line`, its `lines`) in front of a physical line -/
def CurInv (m : RF) (cur : OSL) (lines : List Nat) : Prop :=
  (cur.OnlySp ∧ lines = []) ∨ (cur.blank = false ∧ lines ≠ [] ∧ m ≠ .code)

theorem curInv_init (m : RF) : CurInv m {} [] := Or.inl ⟨onlySp_empty, rfl⟩

/-- along the run of the reference, with no line of finding class F-C17-1: the iterations of `fortran_file_source` from the
    open logical line `cur` / `lines`, then its flush, then `FileParser`'s grouping with the open code group `gacc`, yield the
    groups of `refNodesAux` -/
theorem RefRun.groups {n : Nat} {s : FSt} {m : RF} {ls : List (List Char)} {r : List (Bool × Bool)} {cls : List CL}
    (h : RefRun n s m ls r cls) : ∀ (cur : OSL) (lines : List Nat) (gacc : List LL),
    (∀ x ∈ r, x.2 = false) → LCfg.Open ⟨s, cur, lines⟩ → (∀ ll ∈ gacc, ll.lines ≠ []) →
    (groupAux gacc ((fRun ⟨s, cur, lines⟩ cls).2 ++ fEndOut (fRun ⟨s, cur, lines⟩ cls).1)).map nview =
      refNodesAux n (countedOf gacc ++ lines) ls r := by
  induction h with
  | nil _ =>
    intro cur lines gacc _ ho hg
    obtain ⟨g, e, hc, hg'⟩ := groupAux_flush ho gacc hg
    show (groupAux gacc ([] ++ fEndOut ⟨_, cur, lines⟩)).map nview = flushGroup _
    rw [List.nil_append, ← List.append_nil (fEndOut _), e, ← hc]
    exact flush_view g hg'
  | @dir n s l ls r _ t hd ht hpaste _ ih =>
    intro cur lines gacc hk ho hg
    have hk' : ∀ x ∈ r, x.2 = false := fun x hx => hk x (List.mem_cons_of_mem _ hx)
    obtain ⟨g, e, hc, hg'⟩ := groupAux_flush ho gacc hg
    rw [fRun_cons, fStep_dir ⟨s, cur, lines⟩ ⟨[n + 1], t⟩ ht, List.append_assoc, List.append_assoc, e, ← hc, refNodesAux_cons, hd, Bool.true_and,
      List.singleton_append]
    cases hpl : isPasteLine l with
    | false =>
      rw [groupAux_dir g _ _ _ hg' (hpaste.trans hpl), ih {} [] [] hk' (open_fresh _) nofun]
      rfl
    | true =>
      -- first token `##`: the line is counted text of the surrounding run
      rw [groupAux_paste g _ _ (hpaste.trans hpl)]
      exact (ih {} [] _ hk' (open_fresh _) (nonempty_snoc g _ hg' (List.cons_ne_nil _ _))).trans (by simp [countedOf])
  | blank hd _ ih =>
    intro cur lines gacc hk ho hg
    simpa [refNodesAux_cons, hd] using ih cur lines gacc (fun x hx => hk x (List.mem_cons_of_mem _ hx)) ho hg
  | @code n s m l ls r _ rl hd hnd l2 g1 hcfs _ ih =>
    intro cur lines gacc hk ho hg
    have hk' : ∀ x ∈ r, x.2 = false := fun x hx => hk x (List.mem_cons_of_mem _ hx)
    have l2 := l2 (hk (rl.counted, rl.k) (List.mem_cons_self ..))
    -- the open logical line after this physical line
    have hpost := ho.push (collapse l) [n + 1] (List.cons_ne_nil _ _) fun hb => g1 (by rw [← l2, hb]; rfl)
    have hacc : (if rl.counted = true then countedOf gacc ++ lines ++ [n + 1] else countedOf gacc ++ lines) =
        countedOf gacc ++ (LCfg.push ⟨s, cur, lines⟩ (collapse l) [n + 1]).lines := by
      rw [LCfg.push_lines, l2]; cases rl.counted <;> simp
    rw [refNodesAux_cons, hd, Bool.false_and, if_neg Bool.false_ne_true, hacc, fRun_cons]
    by_cases hnext : rl.next = .code
    · -- the statement ends here: the logical line, if any, joins the open group
      obtain ⟨g, e, hc, hg'⟩ := groupAux_flush hpost gacc hg
      rw [fStep_end ⟨s, cur, lines⟩ ⟨[n + 1], collapse l⟩ hnd fun hc => hcfs.mp hc hnext, List.append_assoc, e, ← hc]
      simpa using ih {} [] g hk' (open_fresh _) hg'
    · rw [fStep_cont ⟨s, cur, lines⟩ ⟨[n + 1], collapse l⟩ hnd (hcfs.mpr hnext), List.nil_append]
      exact ih _ _ gacc hk' hpost hg

/-- physical lines `n+1 …` scanned by the reference from mode `m`; the Fortran pass over
    what the C pass makes of them, started in a related cleaner state with the open logical line `cur` / `lines`, followed by
    `FileParser`'s grouping with the open code group `gacc`, yields the groups of `refNodesAux` -/
theorem run_groups (ls : List (List Char)) : ∀ (n : Nat) (s : FSt) (m : RF) (r : List (Bool × Bool))
    (cur : OSL) (lines : List Nat) (gacc lls : List LL),
    RlF s m → isLineStart m = true → (∀ l ∈ ls, LineOK l) → refLines m ls = some r → (∀ x ∈ r, x.2 = false) →
    CurInv m cur lines → (∀ ll ∈ gacc, ll.lines ≠ []) →
    fLoop s cur lines (cpass n ls) = .ok lls →
    (groupAux gacc lls).map nview = refNodesAux n (countedOf gacc ++ lines) ls r := by
  intro n s m r cur lines gacc lls hR hm hok h hk hci hg hf
  obtain ⟨_, rfl⟩ := (fLoop_eq_ok (cpass n ls) ⟨s, cur, lines⟩ lls).mp hf
  exact (refRun_of_ref ls n s m r hR hm hok h).groups cur lines gacc hk (hci.imp id fun h => ⟨h.1, h.2.1⟩) hg

/-- for every text the reference accepts, with no line of finding class F-C17-1,
    the nodes `FileParser` builds over what `fortran_file_source` yields (it does not raise: `RefRun.counted`) are the
    groups of `Spec/FortranNodes.lean` -/
theorem groups_of_ok (text : String) (r : List (Bool × Bool)) (h : refText text = some r)
    (hk : ∀ x ∈ r, x.2 = false) (lls : List LL) (hs : fortranSource text = .ok lls) :
    (group lls).map nview = refNodes text := by
  obtain ⟨hs', hrun⟩ := fortranSource_of_refText text r h
  obtain ⟨_, rfl⟩ := (fLoop_eq_ok _ {} lls).mp (hs'.symm.trans hs)
  have := hrun.groups {} [] [] hk (open_fresh _) nofun
  unfold refNodes group
  rw [h]
  simpa [countedOf] using this

theorem flushGroup_nonempty : ∀ (acc : List Nat), ∀ g ∈ flushGroup acc, g.2 ≠ []
  | [] => nofun
  | a :: as => fun _ hg => List.mem_singleton.mp hg ▸ List.cons_ne_nil a as

/-- every group of the specification holds at least one line -/
theorem refNodesAux_nonempty (ls : List (List Char)) : ∀ (n : Nat) (acc : List Nat) (r : List (Bool × Bool)),
    ∀ g ∈ refNodesAux n acc ls r, g.2 ≠ [] := by
  intro n acc r
  fun_induction refNodesAux n acc ls r with
  | case1 =>
    rename_i ih
    intro g hg
    rcases List.mem_append.mp hg with hg | hg
    · exact flushGroup_nonempty _ g hg
    · rcases List.mem_cons.mp hg with rfl | hg
      · exact List.cons_ne_nil _ _
      · exact ih g hg
  | case2 => rename_i ih; exact ih
  | case3 => exact flushGroup_nonempty _

theorem refNodes_nonempty (text : String) : ∀ g ∈ refNodes text, g.2 ≠ [] := by
  intro g hg
  unfold refNodes at hg
  split at hg
  · exact refNodesAux_nonempty _ _ _ _ g hg
  · cases hg

end CbiVerif.Fortran
