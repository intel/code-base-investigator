import CbiVerif.Model.Exclude
import CbiVerif.Model.FindInc
import CbiVerif.Model.FindInst
import CbiVerif.Lemmas.SourceChars
/-! # File maps whose texts are given by their characters

The multi-file engines fetch the text of a file from a file map during the run, so the `_ofList` lemma of the parser cannot be
applied where the text stands.  Instead the function that reads the map is rewritten, entry by entry of the map
(`Lemmas/LexChars.lean`, third form): `parseAsFS_cons` for the engine of `Model/Exclude.lean` (field `parseAs` of `Exclude.sem`
and of `FindInst.semPP`), `parseOne_cons` with `prepare_eq` for the up-front parse of `FindInst.findI`, `parseAll_cons` for
`Inc.find` / `Inc.findSpec`.  An evaluation rewrites every reader of the map that its statement runs: a reader left as it is
parses the `String`s, and the kernel then does both. -/
namespace CbiVerif.Exclude
open CbiVerif.PP

/-- `parseText` on the characters of the text (C family: `parseFileL`) -/
def parseTextL (cl : LClass) (cs : List Char) : Except Err Parsed := do
  let nodes ← match cl with
    | .c => parseFileL cs
    | .fortran => do let rows ← fFileSource (String.ofList cs); nodesOfRows rows
    | .asm => nodesOfRows (asmRows (String.ofList cs))
  let t ← buildTree nodes
  return (nodes.toArray, t)

theorem parseText_ofList (cl : LClass) (cs : List Char) : parseText cl (String.ofList cs) = parseTextL cl cs := by
  cases cl <;> simp only [parseText, parseTextL, parseFile_ofList]

theorem parseAsFS_cons (f : String) (cs : List Char) (fs : FSMap) :
    parseAsFS ((f, String.ofList cs) :: fs) = fun cl g => if f == g then parseTextL cl cs else parseAsFS fs cl g := by
  funext cl g
  unfold parseAsFS FSMap.get
  rw [List.find?_cons]
  cases f == g
  · rfl
  · exact parseText_ofList cl cs

end CbiVerif.Exclude

namespace CbiVerif.FindInst
open CbiVerif.PP CbiVerif.Exclude

theorem parseOne_eq (fs : FSMap) (f : String) :
    parseOne fs f = match parseAsFS fs .c f with | .ok _ => .ok () | .error e => .error e := by
  unfold parseOne PState.insertFile parseAsFS
  cases hg : fs.get f with
  | none => simp
  | some text =>
    unfold parseText
    cases hp : parseFile text with
    | error e => simp [hp, bind, Except.bind]
    | ok nodes =>
      cases hb : buildTree nodes with
      | error e => simp [hp, hb, bind, Except.bind]
      | ok t => simp [hp, hb, bind, Except.bind, pure, Except.pure]

theorem parseOne_cons (g : String) (cs : List Char) (fs : FSMap) :
    parseOne ((g, String.ofList cs) :: fs) = fun f =>
      if g == f then (match parseTextL .c cs with | .error e => .error e | .ok _ => .ok ()) else parseOne fs f := by
  funext f
  rw [parseOne_eq, parseAsFS_cons, parseOne_eq]
  dsimp only
  cases g == f
  · rfl
  · cases parseTextL .c cs <;> rfl

/-- `prepare` in terms of the parse function, for rewriting the latter -/
theorem prepare_eq (fs : FSMap) (l : List String) :
    prepare fs l = l.foldr (fun f r => match parseOne fs f with | .error e => .error e | .ok _ => r) (.ok ()) := by
  induction l with
  | nil => rfl
  | cons f l ih => rw [prepare, List.foldr_cons, ih]; rfl

end CbiVerif.FindInst

namespace CbiVerif.Inc
open CbiVerif.PP

/-- `directiveOf` on the characters of a logical line -/
def directiveOfL (cs : List Char) (line : Nat) : Option Warn.Directive :=
  let toks := tokenizeL (cs.length + 1) cs false []
  match parseDirectiveT toks [line] with
  | .ok n =>
    some { line := line, recognised := n.kind != .unrecognized, ntokens := toks.length,
           name := (toks[1]?.map (·.spell)).getD "", spelling := spellingOf toks }
  | .error _ => none

theorem directiveOf_ofList (cs : List Char) (line : Nat) : directiveOf (String.ofList cs) line = directiveOfL cs line := by
  rw [directiveOf, directiveOfL, parseDirective_ofList, tokenize_ofList]; rfl

/-- `directivesOfText` on the characters of the text -/
def directivesOfTextL (cs : List Char) : List Warn.Directive :=
  match cFileSourceL (splitLines.go (cs.length + 1) cs [] []) with
  | .ok (lls, _, _) => lls.filterMap fun ll => if isDirectiveLine ll.cat ll.text then directiveOfL ll.text ll.start else none
  | .error _ => []

theorem directivesOfText_ofList (cs : List Char) : directivesOfText (String.ofList cs) = directivesOfTextL cs := by
  rw [directivesOfText, directivesOfTextL, cFileSource_eq, splitLines_ofList]
  cases cFileSourceL (splitLines.go (cs.length + 1) cs [] []) with
  | error e => rfl
  | ok r =>
    simp only [Except.map, List.filterMap_map, Function.comp_def, LLine.isDirective, LLineL.toLLine, String.toList_ofList,
      directiveOf_ofList]

/-- `parseOne` on the characters of the text -/
def parseOneL (cs : List Char) : Except Err Parsed := do
  let nodes ← parseFileL cs
  let _ ← buildTree nodes
  return { nodes := nodes.toArray
           lbls := labels nodes
           directives := directivesOfTextL cs }

theorem parseOne_ofList (cs : List Char) : parseOne (String.ofList cs) = parseOneL cs := by
  rw [parseOne, parseOneL, parseFile_ofList, directivesOfText_ofList]

theorem parseAll_cons (f : String) (cs : List Char) (files : FSMap) (links : List (String × String)) :
    parseAll ⟨(f, String.ofList cs) :: files, links⟩ = (f, parseOneL cs) :: parseAll ⟨files, links⟩ := by
  rw [parseAll, List.map_cons]
  exact congrArg (fun p => (f, p) :: _) (parseOne_ofList cs)

end CbiVerif.Inc
