import CbiVerif.Lemmas.CLexSpec
import CbiVerif.Lemmas.CLexPart
/-! # C05: the loop of `c_file_source` against the reference, for a whole text

`LoopInv` relates the pending logical line of `c_file_source` (buffer, counted lines) to the pending segment of the
reference's survivors: the buffer is its one-space normalisation, the lines are its counted lines.  One physical line keeps
it (`LoopInv.line`); `SrcOK` says logical line by logical line what the loop produces: a surviving newline ends the
pending one (`SrcOK.nl`), the end of the file flushes it (`SrcOK.last`); `srcLoop_segments` is the induction over the
physical lines that puts the three together.  What is said about a well-formed text (`lines_flags`, `logical_eq`,
`source_ok` and through it `Props/C05.lean`) is read off `SrcOK`. -/
namespace CbiVerif.CLexSim
open CbiVerif.CClean CbiVerif.CLexRef CbiVerif.CText

/-- F-C05-2 does not occur on the line scanned as `sc` -/
def K2free (sc : Scan) : Prop := anyLitWs (renderAll sc.out) = true → anyVisible (renderAll sc.out) = true

/-- F-C05-2 excluded for the text ⇒ excluded for every line -/
theorem k2_lines (cnt : Nat) (rs : List RawLine) : ∀ (s : DState) (n : Nat) (scs : List Scan) (pre : List Surv),
    scanPer s (n + 1) rs = some scs → (∀ sc ∈ scs, sc.k1 = false) → (∀ r ∈ rs, plainLine r = true) →
    (∀ x ∈ pre, x.lineNo < n + 1) → n + rs.length ≤ cnt →
    k2Of cnt (pre ++ scs.flatMap (·.out)) = false → ∀ sc ∈ scs, K2free sc := by
  induction rs with
  | nil =>
    intro s n scs pre h _ _ _ _ _
    cases h; simp
  | cons r rs ih =>
    intro s n scs pre h hk hp hpre hcnt hk2
    obtain ⟨sc, rest, hd, hr, rfl⟩ := scanPer_cons h
    obtain ⟨t1, t2, _⟩ := line_out s (n + 1) r sc hd (hk sc (by simp)) (hp r (by simp))
    simp only [List.length_cons] at hcnt
    have hk' : ∀ y ∈ rest, y.k1 = false := fun y hy => hk y (by simp [hy])
    have hp' : ∀ y ∈ rs, plainLine y = true := fun y hy => hp y (by simp [hy])
    have hge := tags_range rs sc.st (n + 1) rest hr hk' hp'
    intro x hx
    rcases List.mem_cons.mp hx with rfl | hx
    · -- the line itself: nothing else survives on line `n + 1`
      unfold K2free
      rw [anyLitWs_renderAll _ t2, anyVisible_renderAll _ t2]
      intro hlit
      have h2 := List.any_eq_false.mp hk2 (n + 1) (List.mem_range'_1.mpr (by omega))
      simp only [List.flatMap_cons, List.any_append, any_litWhiteOn_same _ _ t1, hlit, any_nonWhiteOn_same _ _ t1,
        any_nonWhiteOn_ne pre (n + 1) (fun y hy => by have := hpre y hy; omega),
        any_nonWhiteOn_ne (rest.flatMap (·.out)) (n + 1) (fun y hy => by have := hge y hy; omega)] at h2
      simpa using h2
    · refine ih sc.st (n + 1) rest (pre ++ sc.out) hr hk' hp' ?_ (by omega)
        (by simpa [List.flatMap_cons, List.append_assoc] using hk2) x hx
      exact List.forall_mem_append.mpr
        ⟨fun y hy => by have := hpre y hy; omega, fun y hy => by have := t1 y hy; omega⟩

/-! ## physical lines: only the last one can lack its newline -/

def nlOK : List RawLine → Bool
  | [] => true
  | [_] => true
  | r :: rs => r.nl && nlOK rs

theorem nlOK_cons_true (b : List Char) (rs : List RawLine) (h : nlOK rs = true) : nlOK (⟨b, true⟩ :: rs) = true := by
  cases rs with
  | nil => rfl
  | cons r rs' => exact h

theorem rawLinesAux_nlOK (t : List Char) : ∀ cur, nlOK (rawLinesAux t cur) = true := by
  induction t with
  | nil =>
    intro cur
    show nlOK (if cur.isEmpty then [] else [⟨cur.reverse, false⟩]) = true
    split <;> rfl
  | cons c cs ih =>
    intro cur
    show nlOK (if c == '\n' then ⟨cur.reverse, true⟩ :: rawLinesAux cs [] else rawLinesAux cs (c :: cur)) = true
    split
    · exact nlOK_cons_true _ _ (ih [])
    · exact ih _

theorem noFinal_cons (r : RawLine) (rs : List RawLine) (h : noFinalBackslash (r :: rs) = true) :
    noFinalBackslash rs = true := by
  cases rs with
  | nil => rfl
  | cons r2 rs2 => exact h

theorem noFinal_last (r : RawLine) (h : noFinalBackslash [r] = true) : (toPLine r).continued = false := by
  have h1 : (!CClean.endsBackslash r.body) = true := h
  rw [Bool.not_eq_true'] at h1
  simp [toPLine, h1]

theorem badFinal_false (ls : List RawLine) (h1 : nlOK ls = true) (h2 : noFinalBackslash ls = true) : badFinal ls = false := by
  induction ls with
  | nil => rfl
  | cons r rs ih =>
    cases rs with
    | nil =>
      have : (!CClean.endsBackslash r.body) = true := h2
      rw [Bool.not_eq_true'] at this
      simp [badFinal, this]
    | cons r2 rs2 =>
      have h1' : (r.nl && nlOK (r2 :: rs2)) = true := h1
      rw [Bool.and_eq_true] at h1'
      have := ih h1'.2 h2
      simp only [badFinal, List.any_cons] at this ⊢
      simp [h1'.1, this]

/-- everything the text-level theorems need, extracted from `wf`, `¬k1`, `¬k2` -/
structure TextFacts (ls : List RawLine) (scs : List Scan) : Prop where
  scan : scanPer {} 1 ls = some scs
  k1 : ∀ sc ∈ scs, sc.k1 = false
  k2 : ∀ sc ∈ scs, K2free sc
  last : (lastSt {} scs).mode = .code
  plain : ∀ r ∈ ls, plainLine r = true
  nofinal : noFinalBackslash ls = true

theorem text_facts (ls : List RawLine) (hwf : wfLines ls = true) (hk1 : (resultLines ls).k1 = false)
    (hk2 : (resultLines ls).k2 = false) : ∃ scs, TextFacts ls scs ∧ scanLines ls = some ⟨lastSt {} scs, scs.flatMap (·.out), scs.any (·.k1)⟩ := by
  unfold wfLines at hwf
  simp only [Bool.and_eq_true] at hwf
  obtain ⟨⟨hnf, hpl⟩, hsc⟩ := hwf
  have hscan : scanLines ls = (scanPer {} 1 ls).map fun scs => ⟨lastSt {} scs, scs.flatMap (·.out), scs.any (·.k1)⟩ :=
    decomment_splice ls {} 1
  cases hper : scanPer {} 1 ls with
  | none => rw [hscan, hper] at hsc; simp at hsc
  | some scs =>
    rw [hper] at hscan
    simp only [Option.map_some] at hscan
    rw [hscan] at hsc
    simp only [beq_iff_eq] at hsc
    unfold resultLines at hk1 hk2
    rw [hscan] at hk1 hk2
    simp only at hk1 hk2
    have hk1' : ∀ sc ∈ scs, sc.k1 = false := by
      intro sc hsc'
      rw [List.any_eq_false] at hk1
      simpa using hk1 sc hsc'
    have hplain : ∀ r ∈ ls, plainLine r = true := by
      intro r hr
      rw [List.all_eq_true] at hpl
      exact hpl r hr
    refine ⟨scs, ⟨hper, hk1', ?_, hsc, hplain, hnf⟩, hscan⟩
    exact k2_lines ls.length ls {} 0 scs [] hper hk1' hplain (by simp) (by omega) (by simpa using hk2)

/-- the state of the loop of `c_file_source` before physical line `n + 1`, against the scanner state `s` and
    the survivors `seg` of the pending logical line -/
structure LoopInv (cnt n : Nat) (s : DState) (acc : Acc) (seg : List Surv) : Prop where
  noSlash : s.mode ≠ .sqSl
  buf : acc.cur.toC = ({} : CBuf).addAll (renderAll seg)
  lines : acc.lines = linesOf cnt seg
  segOK : SegOK n seg
  lit : BufInv (anyVisible (renderAll seg)) (app false (renderAll seg)).2 s.mode = true

theorem LoopInv.fresh (cnt n k : Nat) {s : DState} (h : s.mode = .code) : LoopInv cnt n s { start := k } [] :=
  ⟨by simp [h], rfl, (linesOf_nil cnt).symm, SegOK.nil n, by simp [BufInv, h, DMode.inLiteral]⟩

/-- one physical line: the cleaner follows the scanner, and the line joins the pending logical line -/
theorem LoopInv.line {cnt n : Nat} {s : DState} {acc : Acc} {seg : List Surv} (inv : LoopInv cnt n s acc seg)
    {r : RawLine} {sc : Scan} {ends : Bool} {body : List Surv} (f : LineFacts s (n + 1) r sc ends body)
    (hb : ∀ x ∈ body, x.lineNo = n + 1 ∧ x.plain = true) (hk2 : K2free sc) (hsq : sc.st.mode ≠ .sqSl)
    (hn : n + 1 ≤ cnt) (d : Bool) :
    ∃ d', (procLine (absStack d s.mode) (toPLine r)).1 = absStack d' sc.st.mode ∧
      (procLine (absStack d s.mode) (toPLine r)).2.2 = ends ∧ (ends = true → d' = false) ∧
      LoopInv cnt (n + 1) sc.st
        { cur := acc.cur.join (procLine (absStack d s.mode) (toPLine r)).2.1, start := acc.start,
          lines := if !(procLine (absStack d s.mode) (toPLine r)).2.1.blank then acc.lines ++ [n + 1] else acc.lines }
        (seg ++ body) := by
  obtain ⟨d', p1, p2, p3, p4⟩ := line_sim d s.mode sc.st.mode (toPLine r) (renderAll body) ends f.ref
    (by simp [holdL, inv.noSlash]) (by simp [holdL, hsq])
  obtain ⟨l1, l2, l3⟩ := line_buf (renderAll seg) f.ref inv.segOK.lead inv.lit
  rw [← renderAll_append] at l1 l3
  have hpl : ∀ x ∈ body, x.plain = true := fun x hx => (hb x hx).2
  refine ⟨d', p1, p3, p4, hsq, ?_, ?_, ⟨List.forall_mem_append.mpr ⟨inv.segOK.plain, hpl⟩,
    List.forall_mem_append.mpr ⟨inv.segOK.noNl, f.noNl⟩,
    List.forall_mem_append.mpr ⟨(inv.segOK.mono (Nat.le_succ n)).range, fun x hx => by rw [(hb x hx).1]; omega⟩, l1⟩, l3⟩
  · show (acc.cur.join _).toC = _
    rw [toC_join, p2, inv.buf, join_addAll _ _ (by rw [addAll_empty]; exact l2), ← CBuf.addAll_append,
      renderAll_append]
  · -- the physical line is counted iff something visible survives on it
    have hcount : (!(procLine (absStack d s.mode) (toPLine r)).2.1.blank) = body.any (fun x => !x.isWhite) := by
      rw [blank_toC, p2, ← anyVisible_renderAll body hpl]
      exact counted_iff _ (by rw [← renderAll_nl body ends (n + 1), ← f.out]; exact hk2)
    show (if _ then _ else _) = _
    rw [hcount, linesOf_append cnt n _ _ (fun x hx => (inv.segOK.range x hx).2) (fun x hx => by rw [(hb x hx).1]; omega),
      linesOf_line cnt (n + 1) body (fun x hx => (hb x hx).1) (by omega) hn, ← inv.lines]
    split <;> simp

/-- one past the physical line of each surviving newline: where the logical lines stop -/
def lineEnds (out : List Surv) : List Nat := (out.filter Surv.isNl).map (·.lineNo + 1)

theorem lineEnds_body (body out : List Surv) (h : ∀ x ∈ body, x.isNl = false) : lineEnds (body ++ out) = lineEnds out := by
  rw [lineEnds, List.filter_append, List.filter_eq_nil_iff.mpr fun x hx => by simp [h x hx]]; rfl

/-- what the loop must produce when `seg` has survived of the pending logical line and the reference lets `out` survive on
    the remaining lines: the logical lines are the segments (counted lines, buffer), each begins where the one before
    stops, the first at `start`; the cleaner ends at top level; all counted lines together -/
structure SrcOK (cnt start : Nat) (res : List LLine × Stack) (out seg : List Surv) : Prop where
  rows : res.1.map (fun l => (l.lines, l.parts.map (·.1))) =
    (segmentsAll out seg.reverse).map (fun sg => (linesOf cnt sg, (({} : CBuf).addAll (renderAll sg)).parts))
  spans : res.1.map (fun l => (l.start, l.stop)) = (start :: lineEnds out).zip (lineEnds out ++ [cnt + 1])
  top : res.2 = [.top]
  segs : ∀ sg ∈ segmentsAll out seg.reverse, SegOK cnt sg
  counted : res.1.flatMap (·.lines) = linesOf cnt (seg ++ out)
  cat : ∀ l ∈ res.1, l.cat = catOf (l.parts.map (·.1))

theorem SrcOK_body {cnt start : Nat} {res : List LLine × Stack} {body out seg : List Surv}
    (hn : ∀ x ∈ body, x.isNl = false) (h : SrcOK cnt start res out (seg ++ body)) : SrcOK cnt start res (body ++ out) seg := by
  have e : segmentsAll (body ++ out) seg.reverse = segmentsAll out (seg ++ body).reverse := by
    rw [segmentsAll_body body _ _ hn, List.reverse_append]
  exact ⟨e ▸ h.rows, (lineEnds_body body out hn).symm ▸ h.spans, h.top, e ▸ h.segs, List.append_assoc .. ▸ h.counted, h.cat⟩

theorem SrcOK.last {cnt : Nat} {s : DState} {acc : Acc} {seg : List Surv} (inv : LoopInv cnt cnt s acc seg) :
    SrcOK cnt acc.start ([⟨acc.start, cnt + 1, acc.lines, acc.cur.parts, acc.cur.category⟩], [.top]) [] seg := by
  refine ⟨?_, rfl, rfl, ?_, by simp [inv.lines], fun l hl => by rw [List.mem_singleton.mp hl]; rfl⟩
  · rw [segmentsAll_nil, List.reverse_reverse, List.map_cons, List.map_cons, ← inv.lines, ← inv.buf]; rfl
  · simpa [segmentsAll_nil] using inv.segOK

theorem SrcOK.nl {cnt m : Nat} {s : DState} {acc : Acc} {seg : List Surv} (inv : LoopInv cnt m s acc seg) (hm : m ≤ cnt)
    {rest : List LLine × Stack} {out : List Surv} (i : SrcOK cnt (m + 1) rest out []) (hge : ∀ x ∈ out, m < x.lineNo) :
    SrcOK cnt acc.start (⟨acc.start, m + 1, acc.lines, acc.cur.parts, acc.cur.category⟩ :: rest.1, rest.2)
      (.nl m :: out) seg := by
  refine ⟨?_, ?_, i.top, ?_, ?_, ?_⟩
  · rw [segmentsAll_nl, List.reverse_reverse, List.map_cons, List.map_cons, i.rows, ← inv.lines, ← inv.buf]; rfl
  · simp only [List.map_cons, i.spans]; rfl
  · intro sg hs
    rw [segmentsAll_nl, List.reverse_reverse] at hs
    rcases List.mem_cons.mp hs with rfl | hs
    · exact inv.segOK.mono hm
    · exact i.segs sg hs
  · simp only [List.flatMap_cons, i.counted, List.nil_append, inv.lines]
    rw [← linesOf_nl cnt m, ← linesOf_append cnt m]
    · simp
    · exact List.forall_mem_append.mpr
        ⟨fun x hx => (inv.segOK.range x hx).2, fun x hx => by rw [List.mem_singleton.mp hx]; exact Nat.le_refl _⟩
    · exact hge
  · intro l hl
    rcases List.mem_cons.mp hl with rfl | hl
    · rfl
    · exact i.cat l hl

theorem srcLoop_segments (cnt : Nat) (rs : List RawLine) : ∀ (s : DState) (n : Nat) (scs : List Scan),
    scanPer s (n + 1) rs = some scs → (∀ sc ∈ scs, sc.k1 = false) → (∀ sc ∈ scs, K2free sc) →
    (lastSt s scs).mode = .code → (∀ r ∈ rs, plainLine r = true) → noFinalBackslash rs = true →
    n + rs.length = cnt → ∀ (d : Bool) (acc : Acc) (seg : List Surv), LoopInv cnt n s acc seg → (rs = [] → d = false) →
    SrcOK cnt acc.start (srcLoop (absStack d s.mode) acc n (rs.map toPLine)) (scs.flatMap (·.out)) seg := by
  induction rs with
  | nil =>
    intro s n scs h _ _ hlast _ _ hcnt d acc seg inv hd
    cases h
    have hlast : s.mode = .code := hlast
    obtain rfl : n = cnt := hcnt
    rw [List.map_nil, srcLoop_nil, hd rfl, hlast]
    exact SrcOK.last inv
  | cons r rs ih =>
    intro s n scs h hk1 hk2 hlast hplain hnf hcnt d acc seg inv hd
    obtain ⟨sc, rest, hdec, hrest, rfl⟩ := scanPer_cons h
    obtain ⟨hk1s, hk1r⟩ := List.forall_mem_cons.mp hk1
    obtain ⟨hk2s, hk2r⟩ := List.forall_mem_cons.mp hk2
    obtain ⟨hpr, hplain'⟩ := List.forall_mem_cons.mp hplain
    have hlast : (lastSt sc.st rest).mode = .code := hlast
    simp only [List.length_cons] at hcnt
    have ih := ih sc.st (n + 1) rest hrest hk1r hk2r hlast hplain' (noFinal_cons r rs hnf) (by omega)
    obtain ⟨ends, body, f⟩ := line_ref s (n + 1) r sc hdec hpr
    obtain ⟨d', p1, p3, p4, inv'⟩ := inv.line f
      (f.body hk1s (decomment_plain _ s sc hdec (lineItems_plain (n + 1) r hpr)))
      hk2s (noSlash_end f inv.noSlash hrest hk1r hlast) (by omega) d
    -- the last physical line ends its logical line
    have hend : rs = [] → ends = true := by
      intro hrs
      subst hrs
      cases hrest
      exact (refLine_ends f.ref).mpr ⟨noFinal_last r hnf, hlast⟩
    simp only [List.map_cons, List.flatMap_cons]
    rw [f.out, List.append_assoc]
    apply SrcOK_body f.noNl
    simp only [srcLoop_cons, p3, p1]
    cases hends : ends with
    | false => exact ih d' _ _ inv' fun h => p4 (hends ▸ hend h)
    | true =>
      exact SrcOK.nl inv' (by omega)
        (ih d' { start := n + 2 } [] (LoopInv.fresh cnt (n + 1) (n + 2) ((refLine_ends f.ref).mp hends).2) fun _ => p4 hends)
        fun x hx => (tags_range rs sc.st (n + 1) rest hrest hk1r hplain' x hx).1

theorem cFileSourceLines_all (ls : List RawLine) (h : badFinal ls = false) :
    (cFileSourceLines ls).all = (srcLoop [.top] {} 0 (ls.map toPLine)).1 := by
  simp [cFileSourceLines, h]

/-! ## a well-formed text outside F-C05-1/2 -/

/-- the model's result in terms of the reference's segments (BLANK logical lines included) -/
theorem model_eq_segments (ls : List RawLine) (scs : List Scan) (f : TextFacts ls scs) (hnl : nlOK ls = true) :
    (cFileSourceLines ls).err = none ∧
    SrcOK ls.length 1 ((cFileSourceLines ls).all, [.top]) (scs.flatMap (·.out)) [] := by
  have hbad : badFinal ls = false := badFinal_false ls hnl f.nofinal
  have h := srcLoop_segments ls.length ls {} 0 scs f.scan f.k1 f.k2 f.last f.plain f.nofinal (by omega) false {} []
    (LoopInv.fresh _ 0 1 rfl) (fun _ => rfl)
  have habs : absStack false ({} : DState).mode = [.top] := rfl
  rw [habs] at h
  refine ⟨?_, by rw [cFileSourceLines_all ls hbad]; exact { h with top := rfl }⟩
  unfold cFileSourceLines
  simp [hbad, h.top, hasErr]

theorem filter_map_pair {α β γ : Type} (p : α → Bool) (g : α → γ) (q : β → Bool) (h : β → γ) :
    ∀ (A : List α) (B : List β), A.map (fun a => (p a, g a)) = B.map (fun b => (q b, h b)) →
      (A.filter p).map g = (B.filter q).map h := by
  intro A
  induction A with
  | nil => intro B hB; cases B with
    | nil => rfl
    | cons b bs => simp at hB
  | cons a as ih =>
    intro B hB
    cases B with
    | nil => simp at hB
    | cons b bs =>
      simp only [List.map_cons, List.cons.injEq, Prod.mk.injEq] at hB
      obtain ⟨⟨h1, h2⟩, h3⟩ := hB
      have := ih bs h3
      simp only [List.filter_cons, ← h1]
      cases p a
      · simpa using this
      · simp [this, h2]

section
variable {cnt start : Nat} {res : List LLine × Stack} {out seg : List Surv} (h : SrcOK cnt start res out seg)
include h

theorem SrcOK.lines_rows :
    res.1.map (fun l => (l.yielded, l.startsHashHash, l.cat == Cat.cppDirective, l.lines)) =
      (segmentsAll out seg.reverse).map
        (fun sg => (!(linesOf cnt sg).isEmpty, CLexRef.startsHashHash sg, startsHash sg, linesOf cnt sg)) := by
  have e := congrArg (List.map fun p : List Nat × List Cls =>
    (catOf p.2 != Cat.blank, hashHash p.2, catOf p.2 == Cat.cppDirective, p.1)) h.rows
  rw [List.map_map, List.map_map] at e
  refine Eq.trans (List.map_congr_left fun l hl => ?_) (e.trans (List.map_congr_left fun sg hs => ?_))
  · simp only [Function.comp, LLine.yielded, LLine.startsHashHash, h.cat l hl]
  · have hs := h.segs sg hs
    simp only [Function.comp, hs.cat, hs.hashHash, catV_blank, Option.isSome_map, ← hs.counted, catV_directive]

theorem SrcOK.yielded_iff : ∀ l ∈ res.1, l.yielded = !l.lines.isEmpty := by
  intro l hl
  have := List.mem_map_of_mem (f := fun l : LLine => (l.yielded, l.startsHashHash, l.cat == Cat.cppDirective, l.lines)) hl
  rw [h.lines_rows] at this
  obtain ⟨sg, _, he⟩ := List.mem_map.mp this
  simp only [Prod.mk.injEq] at he
  rw [← he.1, ← he.2.2.2]

/-- a BLANK logical line holds no counted line -/
theorem SrcOK.yielded_lines : (res.1.filter LLine.yielded).flatMap (·.lines) = res.1.flatMap (·.lines) :=
  (flatMap_filter_of_nil LLine.yielded (·.lines) _ fun l hl hy => by
    have := h.yielded_iff l hl
    rw [hy] at this
    simpa using this.symm).symm

end

/-- the logical lines as `parse_file` sees them (`FileParser.is_directive`, counted lines) are the
    specification's: a yielded line is a directive iff its first token is `#` -/
theorem SrcOK.logical {cnt start : Nat} {res : List LLine × Stack} {out : List Surv} (h : SrcOK cnt start res out []) :
    (res.1.filter LLine.yielded).map (fun l => (l.isDirective, l.lines)) = logicalOf cnt out := by
  have e := congrArg (List.map fun t : Bool × Bool × Bool × List Nat => (t.1, t.2.2.1 && !t.2.1, t.2.2.2)) h.lines_rows
  simp only [List.map_map, Function.comp_def] at e
  rw [filter_map_pair LLine.yielded (fun l => (l.isDirective, l.lines))
    (fun sg => !(linesOf cnt sg).isEmpty) (fun sg => (CLexRef.isDirective sg, linesOf cnt sg)) _ _ e]
  -- an empty last segment holds no counted line
  obtain ⟨tl, htl, hcases⟩ := segmentsAll_spec out []
  unfold logicalOf
  rw [List.reverse_nil, htl, List.filter_append, List.filter_map, List.map_append]
  rcases hcases with rfl | rfl
  · simp [Function.comp_def]
  · simp [linesOf_nil, Function.comp_def]

theorem lines_flags (ls : List RawLine) (scs : List Scan) (f : TextFacts ls scs) (hnl : nlOK ls = true) :
    (cFileSourceLines ls).all.map (fun l => (l.yielded, l.startsHashHash)) =
      (segmentsAll (scs.flatMap (·.out)) []).map
        (fun seg => (!(linesOf ls.length seg).isEmpty, CLexRef.startsHashHash seg)) := by
  have e := congrArg (List.map fun t : Bool × Bool × Bool × List Nat => (t.1, t.2.1))
    (model_eq_segments ls scs f hnl).2.lines_rows
  simpa only [List.map_map, Function.comp_def, List.reverse_nil] using e

theorem logical_eq (ls : List RawLine) (scs : List Scan) (f : TextFacts ls scs) (hnl : nlOK ls = true) :
    ((cFileSourceLines ls).all.filter LLine.yielded).map (fun l => (l.isDirective, l.lines)) =
      logicalOf ls.length (scs.flatMap (·.out)) := (model_eq_segments ls scs f hnl).2.logical

/-- a well-formed text outside F-C05-1/2: the survivors `out` of the reference scanner, from which the specification
    reads the counted and the logical lines, and what `c_file_source` makes of them -/
theorem source_ok (t : List Char) (hwf : CLexRef.wf t = true) (hk1 : CLexRef.k1 t = false) (hk2 : CLexRef.k2 t = false) :
    ∃ out, CLexRef.countedLines t = linesOf (rawLines t).length out ∧
      CLexRef.logical t = logicalOf (rawLines t).length out ∧ (cFileSource t).err = none ∧
      SrcOK (rawLines t).length 1 ((cFileSource t).all, [.top]) out [] := by
  obtain ⟨scs, f, hscan⟩ := text_facts (rawLines t) hwf hk1 hk2
  obtain ⟨herr, hsrc⟩ := model_eq_segments (rawLines t) scs f (rawLinesAux_nlOK t [])
  refine ⟨_, ?_, ?_, herr, hsrc⟩
  · unfold CLexRef.countedLines CLexRef.result resultLines; rw [hscan]
  · unfold CLexRef.logical CLexRef.result resultLines; rw [hscan]

/-- everything the reference lets survive on each logical line, as buffer actions -/
def expectE (acc : List REmit) : List LD → List (List REmit)
  | [] => [acc]
  | d :: ds => if d.ends then (acc ++ d.es) :: expectE [] ds else expectE (acc ++ d.es) ds

theorem expectE_segmentsAll (rs : List RawLine) : ∀ (s : DState) (n : Nat) (scs : List Scan) (cur : List Surv),
    scanPer s (n + 1) rs = some scs → (∀ sc ∈ scs, sc.k1 = false) → (∀ r ∈ rs, plainLine r = true) →
    expectE (renderAll cur.reverse) (scs.map ldOf) = (segmentsAll (scs.flatMap (·.out)) cur).map renderAll := by
  induction rs with
  | nil =>
    intro s n scs cur h _ _
    cases h; rfl
  | cons r rs ih =>
    intro s n scs cur h hk hp
    obtain ⟨sc, rest, hd, hr, rfl⟩ := scanPer_cons h
    obtain ⟨_, _, ends, body, hout, hnonl, hld⟩ := line_out s (n + 1) r sc hd (hk sc (by simp)) (hp r (by simp))
    have hk' : ∀ y ∈ rest, y.k1 = false := fun y hy => hk y (by simp [hy])
    have hp' : ∀ y ∈ rs, plainLine y = true := fun y hy => hp y (by simp [hy])
    have hacc : renderAll (body.reverse ++ cur).reverse = renderAll cur.reverse ++ renderAll body := by
      simp [List.reverse_append, renderAll_append]
    simp only [List.map_cons, hld, expectE, List.flatMap_cons]
    rw [hout, List.append_assoc, segmentsAll_body body _ cur hnonl, ← hacc]
    cases ends with
    | true => exact congrArg (_ :: ·) (ih sc.st (n + 1) rest [] hr hk' hp')
    | false => exact ih sc.st (n + 1) rest (body.reverse ++ cur) hr hk' hp'

theorem expectE_segments (rs : List RawLine) : ∀ (s : DState) (n : Nat) (scs : List Scan) (cur : List Surv),
    scanPer s (n + 1) rs = some scs → (∀ sc ∈ scs, sc.k1 = false) → (∀ r ∈ rs, plainLine r = true) →
    ∀ e ∈ expectE (renderAll cur.reverse) (scs.map ldOf),
      e = [] ∨ ∃ seg ∈ segments (scs.flatMap (·.out)) cur, renderAll seg = e := by
  intro s n scs cur h hk hp e he
  rw [expectE_segmentsAll rs s n scs cur h hk hp] at he
  obtain ⟨seg, hseg, rfl⟩ := List.mem_map.mp he
  -- `segmentsAll` lists the segments and, at the end of the text, possibly an empty one
  obtain ⟨tl, htl, hcases⟩ := segmentsAll_spec (scs.flatMap (·.out)) cur
  rw [htl, List.mem_append] at hseg
  rcases hseg with hseg | hseg
  · exact Or.inr ⟨seg, hseg, rfl⟩
  · rcases hcases with rfl | rfl
    · cases hseg
    · rw [List.mem_singleton.mp hseg]; exact Or.inl rfl

end CbiVerif.CLexSim
