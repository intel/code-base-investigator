import CbiVerif.Model.DbPath
import CbiVerif.Spec.DbResolve
import CbiVerif.Lemmas.ListFacts
/-! Helper lemmas for C13.  A spelled path is read through `isabs` and `comps`, its components other than the empty one and
`.`: the loop of `normpath`, the walk of the specification and `PurePosixPath.name` see nothing else.  Each operation is
described by what it does to the two: `join` with a relative path appends the components (`comps_join`), `normpath`
keeps the leading slashes and normalises the components (`initialSlashes_normpath`, `comps_normpath`, with
`normStep_spec` for one iteration of its loop), and `resolve base p` walks `comps p` (`resolve_eq`).  The
specification's splitter, extension and source-file test are shown to be the model's.  A load succeeds iff the words of
every command can be read, and then returns what the entries yield one after the other (`entryRes`, `loadList_ok_iff`). -/
namespace CbiVerif.DbPath
open CbiVerif.DbResolve (Loc Seg segOf segments walk step resolve isAbsolute chunks locOf extension isSourceSpelling dirLoc rootLoc)

theorem split_nil : split [] = [[]] := rfl

theorem split_slash (cs : Str) : split ('/' :: cs) = [] :: split cs := by simp [split]

theorem split_ne_nil (p : Str) : split p ≠ [] := by
  cases p with
  | nil => simp [split]
  | cons c cs => rw [split]; split <;> (try split) <;> simp

theorem split_append_slash (a b : Str) : split (a ++ '/' :: b) = split a ++ split b := by
  induction a with
  | nil => simp [split]
  | cons c a ih =>
    obtain ⟨x, xs, e⟩ := List.exists_cons_of_ne_nil (split_ne_nil a)
    by_cases h : c = '/' <;> simp [split, h, ih, e]

theorem split_noslash {x : Str} (h : '/' ∉ x) : split x = [x] := by
  induction x with
  | nil => rfl
  | cons c x ih =>
    rw [List.mem_cons, not_or] at h
    simp [split, Ne.symm h.1, ih h.2]

theorem split_mem_noslash (p : Str) : ∀ c ∈ split p, '/' ∉ c := by
  induction p with
  | nil => simp [split]
  | cons a p ih =>
    obtain ⟨x, xs, e⟩ := List.exists_cons_of_ne_nil (split_ne_nil p)
    by_cases h : a = '/'
    · simpa [split, h] using ih
    · have h' : ¬ '/' = a := fun e => h e.symm
      simp_all [split]

/-! ## the spec's splitter is the model's splitter -/

theorem chunks_eq (acc p : Str) (h : '/' ∉ acc) : chunks acc p = split (acc.reverse ++ p) := by
  induction p generalizing acc with
  | nil => simp [chunks, split_noslash, h]
  | cons c cs ih =>
    by_cases hc : c = '/'
    · subst hc; simp [chunks, split_append_slash, split_noslash, h, ih [] ]
    · simp [chunks, hc, ih (c :: acc) (by simp [h, Ne.symm hc])]

theorem segments_eq (p : Str) : segments p = (split p).map segOf := by
  simp [segments, chunks_eq]

theorem isAbsolute_eq (p : Str) : isAbsolute p = isabs p := by
  match p with
  | [] => rfl
  | c :: cs => by_cases h : c = '/' <;> simp [isAbsolute, isabs, h]

/-! ## the components that count -/

def comps (p : Str) : List Str := (split p).filter fun c => !(c = [] ∨ c = dot)

theorem comps_nil : comps [] = [] := by simp [comps, split]

theorem comps_append_slash (a b : Str) : comps (a ++ '/' :: b) = comps a ++ comps b := by
  simp [comps, split_append_slash]

theorem comps_replicate (n : Nat) (x : Str) : comps (List.replicate n '/' ++ x) = comps x := by
  induction n with
  | zero => rfl
  | succ n ih => rw [List.replicate_succ, List.cons_append, ← List.nil_append ('/' :: _), comps_append_slash, ih, comps_nil]; rfl

theorem mem_comps {p c : Str} (h : c ∈ comps p) : c ≠ [] ∧ c ≠ dot ∧ '/' ∉ c := by
  obtain ⟨hs, hk⟩ := List.mem_filter.mp h
  have hk : ¬ (c = [] ∨ c = dot) := by simpa using hk
  exact ⟨fun e => hk (.inl e), fun e => hk (.inr e), split_mem_noslash p c hs⟩

theorem foldl_comps {β : Type} (f : β → Str → β) (hf : ∀ b, f b [] = b ∧ f b dot = b) (p : Str) (b : β) :
    (split p).foldl f b = (comps p).foldl f b := by
  rw [comps, List.foldl_filter]
  congr 1; funext b c
  by_cases hc : c = [] ∨ c = dot
  · rcases hc with rfl | rfl <;> simp [hf]
  · simp [hc]

/-! ## walking -/

def walkComps (start : Loc) (l : List Str) : Loc := walk start (l.map segOf)

theorem walk_append (loc : Loc) (a b : List Seg) : walk loc (a ++ b) = walk (walk loc a) b :=
  List.foldl_append

theorem walk_nil (loc : Loc) : walk loc [] = loc := rfl

theorem walk_cons (loc : Loc) (s : Seg) (r : List Seg) : walk loc (s :: r) = walk (step loc s) r := rfl

theorem walkComps_append (loc : Loc) (a b : List Str) : walkComps loc (a ++ b) = walkComps (walkComps loc a) b := by
  simp [walkComps, walk_append]

theorem walkComps_snoc (loc : Loc) (a : List Str) (c : Str) : walkComps loc (a ++ [c]) = step (walkComps loc a) (segOf c) :=
  walkComps_append loc a [c]

theorem segOf_nil : segOf [] = .cur := rfl
theorem segOf_dot : segOf dot = .cur := rfl
theorem segOf_dotdot : segOf dotdot = .up := rfl

theorem walk_segments (start : Loc) (p : Str) : walk start (segments p) = walkComps start (comps p) := by
  simp only [segments_eq, walk, walkComps, List.foldl_map]
  exact foldl_comps _ (fun _ => ⟨rfl, rfl⟩) p start

theorem resolve_eq (base : Loc) (p : Str) :
    resolve base p = walkComps (if isabs p then [] else base) (comps p) := by
  rw [resolve, isAbsolute_eq, walk_segments]

theorem resolve_abs {p : Str} (h : isabs p = true) (b1 b2 : Loc) : resolve b1 p = resolve b2 p := by
  simp [resolve_eq, h]

theorem resolve_nil (base : Loc) : resolve base [] = base := rfl

theorem resolve_dot (base : Loc) : resolve base dot = base := rfl

/-! ## the normpath stack -/

def Proper (c : Str) : Prop := c ≠ [] ∧ c ≠ dot ∧ c ≠ dotdot ∧ '/' ∉ c

theorem segOf_proper {c : Str} (h : Proper c) : segOf c = .name c := by
  obtain ⟨h1, h2, h3, _⟩ := h
  simp only [dot, dotdot] at h2 h3
  simp [segOf, h1, h2, h3]

theorem dotdot_not_proper : ¬ Proper dotdot := fun h => h.2.2.1 rfl

/-- shape of `new_comps` (reversed, head = last component): a `..` stands on `..`s only, and only in a
relative path; every other component is a proper name -/
def StkNF (rooted : Bool) : List Str → Prop
  | [] => True
  | t :: r => StkNF rooted r ∧ (Proper t ∨ t = dotdot ∧ rooted = false ∧ ∀ u ∈ r.head?, u = dotdot)

/-- one iteration of the loop keeps the normal form and is one step of the walk (from `/` when the path is absolute:
there `..` stays) -/
theorem normStep_spec {rooted : Bool} {stk : List Str} {c : Str} {start : Loc} (hs : rooted = true → start = [])
    (h : StkNF rooted stk) (hc : '/' ∉ c) :
    StkNF rooted (normStep rooted stk c) ∧
    walkComps start (normStep rooted stk c).reverse = step (walkComps start stk.reverse) (segOf c) := by
  unfold normStep
  by_cases h1 : c = [] ∨ c = dot
  · rw [if_pos h1]; exact ⟨h, by rcases h1 with rfl | rfl <;> rfl⟩
  rw [if_neg h1]
  by_cases h2 : c ≠ dotdot
  · rw [if_pos h2, List.reverse_cons, walkComps_snoc]
    exact ⟨⟨h, .inl ⟨fun e => h1 (.inl e), fun e => h1 (.inr e), h2, hc⟩⟩, rfl⟩
  rw [if_neg h2]
  obtain rfl : c = dotdot := Classical.byContradiction h2
  match stk, h with
  | [], _ => cases rooted <;> simp [StkNF, hs, walkComps, walk, step, segOf_dotdot]
  | t :: r, h =>
    dsimp only
    by_cases ht : t = dotdot
    · rw [if_pos ht, List.reverse_cons, walkComps_snoc]
      exact ⟨⟨h, .inr ⟨rfl, (h.2.resolve_left (ht ▸ dotdot_not_proper)).2.1, by simp [ht]⟩⟩, rfl⟩
    · rw [if_neg ht, List.reverse_cons, walkComps_snoc, segOf_proper (h.2.resolve_right (fun e => ht e.1)), segOf_dotdot]
      exact ⟨h.1, by simp [step]⟩

theorem fold_normStep {rooted : Bool} {start : Loc} (hs : rooted = true → start = []) (cs : List Str) {stk : List Str}
    (h : StkNF rooted stk) (hc : ∀ c ∈ cs, '/' ∉ c) :
    StkNF rooted (cs.foldl (normStep rooted) stk) ∧
    walkComps start (cs.foldl (normStep rooted) stk).reverse = walkComps (walkComps start stk.reverse) cs := by
  induction cs generalizing stk with
  | nil => exact ⟨h, rfl⟩
  | cons c cs ih =>
    obtain ⟨h1, h2⟩ := normStep_spec hs h (hc c (by simp))
    obtain ⟨h3, h4⟩ := ih h1 fun x hx => hc x (List.mem_cons_of_mem _ hx)
    exact ⟨h3, by rw [List.foldl_cons, h4, h2]; rfl⟩

/-- a stack in normal form is rebuilt by the loop from its own components (idempotence) -/
theorem fold_of_NF {rooted : Bool} {stk : List Str} (h : StkNF rooted stk) :
    stk.reverse.foldl (normStep rooted) [] = stk := by
  induction stk with
  | nil => rfl
  | cons t r ih =>
    rw [List.reverse_cons, List.foldl_append, ih h.1]
    rcases h.2 with ⟨h1, h2, h3, _⟩ | ⟨rfl, rfl, hd⟩
    · simp [normStep, h1, h2, h3]
    · cases r with
      | nil => rfl
      | cons u r => obtain rfl := hd u rfl; rfl

theorem NF_mem {rooted : Bool} {stk : List Str} (h : StkNF rooted stk) : ∀ c ∈ stk, c ≠ [] ∧ c ≠ dot ∧ '/' ∉ c := by
  induction stk with
  | nil => simp
  | cons t r ih =>
    intro c hc
    rcases List.mem_cons.mp hc with rfl | hc
    · rcases h.2 with hp | ⟨rfl, _⟩
      · exact ⟨hp.1, hp.2.1, hp.2.2.2⟩
      · decide
    · exact ih h.1 c hc

/-! ## initial slashes -/

theorem initialSlashes_le (p : Str) : initialSlashes p ≤ 2 := by
  unfold initialSlashes; split <;> (try split) <;> omega

theorem initialSlashes_isabs (p : Str) : (initialSlashes p != 0) = isabs p := by
  unfold initialSlashes; split <;> (try split) <;> simp_all

theorem isabs_slash (x : Str) : isabs ('/' :: x) = true := rfl

theorem isabs_cons_ne {c : Char} (x : Str) (h : c ≠ '/') : isabs (c :: x) = false := by
  simp [isabs, h]

theorem isabs_of_head {x : Str} (h : x.head? ≠ some '/') : isabs x = false := by
  rw [← isAbsolute_eq]; simpa [isAbsolute] using h

theorem initialSlashes_replicate {n : Nat} (hn : n ≤ 2) {x : Str} (hx : isabs x = false) :
    initialSlashes (List.replicate n '/' ++ x) = n := by
  obtain rfl | rfl | rfl : n = 0 ∨ n = 1 ∨ n = 2 := by omega
  all_goals simp [initialSlashes, List.replicate, isabs_slash, hx]

/-! ## the loop of `normpath` -/

theorem normComps_eq (p : Str) : normComps p = ((comps p).foldl (normStep (initialSlashes p != 0)) []).reverse := by
  rw [normComps, foldl_comps _ fun _ => ⟨by simp [normStep], by simp [normStep]⟩]

theorem normComps_NF (p : Str) : StkNF (initialSlashes p != 0) (normComps p).reverse := by
  rw [normComps_eq, List.reverse_reverse]
  exact (fold_normStep (start := []) (stk := []) (fun _ => rfl) _ trivial fun c hc => (mem_comps hc).2.2).1

theorem normComps_mem (p : Str) : ∀ c ∈ normComps p, c ≠ [] ∧ c ≠ dot ∧ '/' ∉ c :=
  fun c hc => NF_mem (normComps_NF p) c (List.mem_reverse.mpr hc)

theorem walk_normComps (p : Str) {start : Loc} (hs : isabs p = true → start = []) :
    walkComps start (normComps p) = walkComps start (comps p) := by
  rw [normComps_eq]
  exact (fold_normStep (stk := []) (fun h => hs (initialSlashes_isabs p ▸ h)) _ trivial fun c hc => (mem_comps hc).2.2).2

/-! ## what `normpath` returns -/

/-- the result of `normpath` for `n` leading slashes and the final components `l` -/
def render (n : Nat) (l : List Str) : Str :=
  let out := List.replicate n '/' ++ joinSlash l
  if out = [] then dot else out

theorem normpath_eq (p : Str) : normpath p = render (initialSlashes p) (normComps p) := by
  unfold normpath; split
  · subst p; rfl
  · rfl

theorem normpath_nil : normpath [] = dot := rfl

theorem normpath_dot : normpath dot = dot := by decide

theorem joinSlash_head (x : Str) (r : List Str) (hx : x ≠ []) : (joinSlash (x :: r)).head? = x.head? := by
  match x, r with
  | _, [] => rfl
  | a :: x, y :: r => rfl

section
variable {l : List Str} (h : ∀ c ∈ l, c ≠ [] ∧ c ≠ dot ∧ '/' ∉ c)
include h

theorem comps_joinSlash : comps (joinSlash l) = l := by
  induction l with
  | nil => exact comps_nil
  | cons x r ih =>
    obtain ⟨h1, h2, h3⟩ := h x (by simp)
    have one : comps x = [x] := by simp [comps, split_noslash h3, h1, h2]
    cases r with
    | nil => exact one
    | cons y r => rw [joinSlash, comps_append_slash, one, ih fun c hc => h c (List.mem_cons_of_mem _ hc)]; rfl

theorem isabs_joinSlash : isabs (joinSlash l) = false := by
  match l, h with
  | [], _ => rfl
  | x :: r, h =>
    obtain ⟨h1, _, h3⟩ := h x (by simp)
    exact isabs_of_head (joinSlash_head x r h1 ▸ fun e => h3 (List.mem_of_head? e))

/-- the text after the slashes is `joinSlash l`, or `.` when there is nothing at all: that case is split here, once -/
theorem render_eq (n : Nat) : ∃ x, render n l = List.replicate n '/' ++ x ∧ isabs x = false ∧ comps x = l := by
  by_cases ho : List.replicate n '/' ++ joinSlash l = []
  · obtain ⟨hn, hj⟩ := List.append_eq_nil_iff.mp ho
    refine ⟨dot, by simp [render, hn, hj], rfl, ?_⟩
    rw [← comps_joinSlash h, hj]; rfl
  · exact ⟨joinSlash l, by simp [render, ho], isabs_joinSlash h, comps_joinSlash h⟩

theorem initialSlashes_render {n : Nat} (hn : n ≤ 2) : initialSlashes (render n l) = n := by
  obtain ⟨x, e, hx, _⟩ := render_eq h n
  rw [e]; exact initialSlashes_replicate hn hx

theorem comps_render (n : Nat) : comps (render n l) = l := by
  obtain ⟨x, e, _, hx⟩ := render_eq h n
  rw [e, comps_replicate, hx]

end

/-! ## what `normpath p` denotes: the slashes of `p`, its components normalised; hence its laws -/

theorem initialSlashes_normpath (p : Str) : initialSlashes (normpath p) = initialSlashes p := by
  rw [normpath_eq]; exact initialSlashes_render (normComps_mem p) (initialSlashes_le p)

theorem comps_normpath (p : Str) : comps (normpath p) = normComps p := by
  rw [normpath_eq]; exact comps_render (normComps_mem p) _

theorem isabs_normpath (p : Str) : isabs (normpath p) = isabs p := by
  rw [← initialSlashes_isabs, initialSlashes_normpath, initialSlashes_isabs]

theorem resolve_normpath (base : Loc) (p : Str) : resolve base (normpath p) = resolve base p := by
  rw [resolve_eq, isabs_normpath, comps_normpath, resolve_eq]
  exact walk_normComps p fun h => by simp [h]

theorem normComps_normpath (p : Str) : normComps (normpath p) = normComps p := by
  have := fold_of_NF (normComps_NF p)
  rw [List.reverse_reverse] at this
  rw [normComps_eq, initialSlashes_normpath, comps_normpath, this, List.reverse_reverse]

/-! ## join -/

/-- what `posixpath.join` puts between `a` and a relative path -/
def sep (a : Str) : Str := if a.isEmpty || endsSlash a then [] else ['/']

theorem join_abs {b : Str} (a : Str) (h : isabs b = true) : join a b = b := by simp [join, h]

theorem join_rel {b : Str} (a : Str) (h : isabs b = false) : join a b = a ++ (sep a ++ b) := by
  simp only [join, h, sep, Bool.false_eq_true, if_false]; split <;> simp

theorem endsSlash_iff {a : Str} (h : endsSlash a = true) : ∃ a', a = a' ++ ['/'] :=
  List.getLast?_eq_some_iff.mp (by simpa [endsSlash] using h)

theorem endsSlash_append (a : Str) {b : Str} (h : b ≠ []) : endsSlash (a ++ b) = endsSlash b := by
  obtain ⟨b', x, rfl⟩ := (ListFacts.eq_nil_or_snoc b).resolve_left h
  simp [endsSlash, ← List.append_assoc]

theorem sep_nil : sep [] = [] := rfl

theorem sep_concat (a : Str) (x : Char) : sep (a ++ [x]) = if x = '/' then [] else ['/'] := by
  simp [sep, endsSlash]

theorem sep_append (a : Str) {b : Str} (hb : b ≠ []) : sep (a ++ b) = sep b := by
  simp [sep, endsSlash_append a hb, hb]

theorem sep_sep (a : Str) : sep (a ++ sep a) = [] := by
  rcases ListFacts.eq_nil_or_snoc a with rfl | ⟨a', x, rfl⟩
  · rfl
  · rw [sep_concat]
    split
    · rw [List.append_nil, sep_concat]; simp [*]
    · rw [sep_concat]; rfl

theorem isabs_append {a : Str} (b : Str) (h : a ≠ []) : isabs (a ++ b) = isabs a := by
  match a, h with
  | c :: a, _ => by_cases hc : c = '/' <;> simp [isabs, hc]

theorem isabs_join_rel (b : Str) {c : Str} (hc : isabs c = false) : isabs (join b c) = isabs b := by
  rw [join_rel b hc]
  by_cases hb : b = []
  · subst hb; exact hc
  · exact isabs_append _ hb

theorem comps_join (a : Str) {b : Str} (hb : isabs b = false) : comps (join a b) = comps a ++ comps b := by
  rw [join_rel a hb]
  rcases ListFacts.eq_nil_or_snoc a with rfl | ⟨a', x, rfl⟩
  · rw [comps_nil]; rfl
  rw [sep_concat]
  by_cases hx : x = '/'
  · subst hx; simp [comps_append_slash, comps_nil]
  · rw [if_neg hx]; exact comps_append_slash (a' ++ [x]) b

theorem resolve_join (base : Loc) (a b : Str) : resolve base (join a b) = resolve (resolve base a) b := by
  by_cases hb : isabs b = true
  · rw [join_abs a hb]; exact resolve_abs hb _ _
  rw [Bool.not_eq_true] at hb
  rw [resolve_eq, comps_join a hb, walkComps_append, isabs_join_rel a hb, ← resolve_eq, resolve_eq _ b, hb]
  rfl

/-! ## abspath -/

/-- `join` makes the test itself: it returns an absolute second argument -/
theorem abspath_eq (cwd p : Str) : abspath cwd p = normpath (join cwd p) := by
  unfold abspath; split
  next hp => rw [join_abs cwd hp]
  · rfl

theorem resolve_abspath {cwd : Str} (hcwd : isabs cwd = true) (base : Loc) (p : Str) :
    resolve base (abspath cwd p) = resolve (locOf cwd) p := by
  rw [abspath_eq, resolve_normpath, resolve_join]; congr 1; exact resolve_abs hcwd _ _

theorem isabs_abspath {cwd : Str} (hcwd : isabs cwd = true) (p : Str) : isabs (abspath cwd p) = true := by
  rw [abspath_eq, isabs_normpath]
  cases hp : isabs p
  · rw [isabs_join_rel cwd hp]; exact hcwd
  · rw [join_abs cwd hp]; exact hp

/-! ## extension of a name: the spec's `extension` is the model's `suffixOfName` -/

theorem rfindDot_nodot (l : Str) (k : Nat) (acc : Option Nat) (h : '.' ∉ l) : rfindDot l k acc = acc := by
  induction l generalizing k acc with
  | nil => rfl
  | cons c l ih =>
    rw [List.mem_cons, not_or] at h
    rw [rfindDot, if_neg (Ne.symm h.1)]; exact ih _ _ h.2

theorem rfindDot_append (a b : Str) (k : Nat) (acc : Option Nat) :
    rfindDot (a ++ b) k acc = rfindDot b (k + a.length) (rfindDot a k acc) := by
  induction a generalizing k acc with
  | nil => rfl
  | cons c a ih => rw [List.cons_append, rfindDot, ih, rfindDot, List.length_cons]; congr 1; omega

theorem rfindDot_dot (pre post : Str) (k : Nat) (acc : Option Nat) (h : '.' ∉ post) :
    rfindDot (pre ++ '.' :: post) k acc = some (k + pre.length) := by
  rw [rfindDot_append, rfindDot, if_pos rfl, rfindDot_nodot _ _ _ h]

theorem last_dot (l : Str) : '.' ∉ l ∨ ∃ pre post, l = pre ++ '.' :: post ∧ '.' ∉ post := by
  by_cases h : '.' ∈ l
  · obtain ⟨as, bs, e, has⟩ := List.eq_append_cons_of_mem (List.mem_reverse.mpr h)
    exact .inr ⟨bs.reverse, as.reverse, by simpa using congrArg List.reverse e, by simpa using has⟩
  · exact .inl h

theorem suffix_nil : suffixOfName [] = [] := rfl

theorem suffix_dotdot : suffixOfName dotdot = [] := by decide

theorem suffixOfName_dot (pre post : Str) (h : '.' ∉ post) :
    suffixOfName (pre ++ '.' :: post) = if 0 < pre.length ∧ 0 < post.length then '.' :: post else [] := by
  simp [suffixOfName, rfindDot_dot pre post 0 none h]

theorem takeWhile_nodot {a : Str} (h : '.' ∉ a) (r : Str) :
    (a.reverse ++ r).takeWhile (· ≠ '.') = a.reverse ++ r.takeWhile (· ≠ '.') :=
  List.takeWhile_append_of_pos fun x hx => by
    have : x ≠ '.' := fun e => h (e ▸ List.mem_reverse.mp hx)
    simpa using this

theorem extension_dot (pre post : Str) (h : '.' ∉ post) :
    extension (pre ++ '.' :: post) = if 0 < pre.length ∧ 0 < post.length then '.' :: post else [] := by
  have ht : ((pre ++ '.' :: post).reverse).takeWhile (· ≠ '.') = post.reverse := by
    rw [List.reverse_append, List.reverse_cons, List.append_assoc, takeWhile_nodot h]; simp
  simp only [extension, ht, List.length_reverse, List.length_append, List.length_cons, List.reverse_reverse,
    List.reverse_eq_nil_iff]
  by_cases h1 : pre = [] <;> by_cases h2 : post = [] <;> simp [h1, h2, List.length_pos_iff]
  omega

theorem extension_eq (l : Str) : extension l = suffixOfName l := by
  rcases last_dot l with h | ⟨pre, post, rfl, h⟩
  · have ht := takeWhile_nodot h []
    rw [List.append_nil, List.takeWhile_nil, List.append_nil] at ht
    rw [extension, suffixOfName, rfindDot_nodot l 0 none h]
    simp only [ht, if_true]
  · rw [extension_dot pre post h, suffixOfName_dot pre post h]

/-! ## `is_source_file` on the spelling -/

theorem segOf_eq_cur_iff (c : Str) : segOf c = .cur ↔ (c = [] ∨ c = dot) := by
  unfold segOf dot
  split
  next h => simp [h]
  next h => split <;> simp [h]

theorem filter_segments (p : Str) : (segments p).filter (· ≠ .cur) = (comps p).map segOf := by
  rw [segments_eq, comps, List.filter_map]
  congr 1
  apply List.filter_congr
  intro c _
  simp [segOf_eq_cur_iff]

theorem not_source_empty : CbiVerif.Gen.sourceExts.contains (String.ofList []) = false := by decide +kernel

theorem isSource_eq (file : Str) : isSource file = isSourceSpelling file := by
  unfold isSource isSourceSpelling
  rw [filter_segments, List.getLast?_map]
  show CbiVerif.Gen.sourceExts.contains (String.ofList (suffixOfName ((comps file).getLast?.getD []))) = _
  cases hl : (comps file).getLast? with
  | none => exact not_source_empty
  | some c =>
    obtain ⟨h1, h2, h3⟩ := mem_comps (List.mem_of_getLast? hl)
    simp only [Option.getD_some, Option.map_some]
    by_cases hd : c = dotdot
    · subst hd; exact not_source_empty
    · rw [segOf_proper ⟨h1, h2, hd, h3⟩]
      exact congrArg _ (congrArg _ (extension_eq c).symm)

/-! ## the name a spelling ends in is the last component of the location -/

theorem resolve_last (base : Loc) (file n : Str) (h : CbiVerif.DbResolve.spelledName file = some n) :
    (resolve base file).getLast? = some n := by
  unfold CbiVerif.DbResolve.spelledName at h
  rw [filter_segments, List.getLast?_map] at h
  cases hl : (comps file).getLast? with
  | none => simp [hl] at h
  | some c =>
    obtain ⟨l, e⟩ := List.getLast?_eq_some_iff.mp hl
    have hc : segOf c = .name n := by
      rw [hl, Option.map_some] at h
      split at h <;> simp_all
    rw [resolve_eq, e, walkComps_snoc, hc]
    simp [step]

/-! ## load_database -/

theorem filedir_loc {cwd : Str} (hcwd : isabs cwd = true) (root : Str) (d : Option Str) :
    resolve (locOf cwd) (filedir cwd root d) = dirLoc (rootLoc cwd root) d := by
  cases d with
  | none => rfl
  | some d =>
    simp only [filedir, dirLoc, rootLoc]
    split
    next hd => exact resolve_abs hd _ _
    · rw [resolve_abspath hcwd, resolve_join]

theorem entryPath_eq (cwd root : Str) (c : Cmd) :
    entryPath cwd root c = abspath cwd (join (filedir cwd root c.directory) c.file) := by
  unfold entryPath
  split
  next h => rw [join_abs _ h]
  · rfl

/-- what the loop body of `load_database` yields for a command whose words can be read (no words for one whose words cannot) -/
def entryRes {α : Type} (cwd root : Str) (ex : Str → Bool) (parse : List Str → List (α × List Str)) (c : Cmd) :
    List (Out α) × List Log :=
  let argv := c.argv.toOption.getD []
  if argv.isEmpty || !isSource c.file then ([], [])
  else if !ex (entryPath cwd root c) then ([], [.missing (entryPath cwd root c)])
  else ((parse argv).map fun (a, incs) =>
    ⟨entryPath cwd root c, incs.map fun f => abspath cwd (join (filedir cwd root c.directory) f), a⟩, [])

theorem entryOut_eq {α : Type} (cwd root : Str) (ex : Str → Bool) (parse : List Str → List (α × List Str)) (c : Cmd) :
    entryOut cwd root ex parse c = c.argv.map fun _ => entryRes cwd root ex parse c := by
  unfold entryOut entryRes
  cases c.argv with
  | error e => rfl
  | ok argv => cases h1 : (argv.isEmpty || !isSource c.file) <;> cases h2 : ex (entryPath cwd root c) <;> simp [Except.map, Except.toOption, h1, h2]

theorem loadList_ok_iff {α : Type} (cwd root : Str) (ex : Str → Bool) (parse : List Str → List (α × List Str)) (db : List Cmd)
    (r : List (Out α) × List Log) :
    loadList cwd root ex parse db = .ok r ↔ (∀ c ∈ db, ∃ argv, c.argv = .ok argv) ∧
      r = (db.flatMap fun c => (entryRes cwd root ex parse c).1, db.flatMap fun c => (entryRes cwd root ex parse c).2) := by
  induction db generalizing r with
  | nil => simp [loadList, eq_comm]
  | cons c cs ih =>
    rw [loadList, entryOut_eq, List.forall_mem_cons, List.flatMap_cons, List.flatMap_cons]
    cases c.argv with
    | error e => exact iff_of_false nofun fun h => nomatch h.1.1
    | ok argv =>
      cases h : loadList cwd root ex parse cs with
      | error e => exact iff_of_false nofun fun ⟨⟨_, hc⟩, _⟩ => nomatch h ▸ (ih _).mpr ⟨hc, rfl⟩
      | ok r' =>
        obtain ⟨h1, rfl⟩ := (ih r').mp h
        exact ⟨fun e => ⟨⟨⟨argv, rfl⟩, h1⟩, (Except.ok.inj e).symm⟩, fun ⟨_, e⟩ => e ▸ rfl⟩

theorem loadList_append (cwd root : Str) (ex : Str → Bool) {α : Type} (parse : List Str → List (α × List Str)) (xs ys : List Cmd) :
    loadList cwd root ex parse (xs ++ ys) =
      match loadList cwd root ex parse xs with
      | .error e => .error e
      | .ok (o, l) => match loadList cwd root ex parse ys with
        | .error e => .error e
        | .ok (os, ls) => .ok (o ++ os, l ++ ls) := by
  induction xs with
  | nil => simp only [List.nil_append, loadList]; cases loadList cwd root ex parse ys <;> rfl
  | cons c cs ih =>
    simp only [List.cons_append, loadList, ih]
    cases entryOut cwd root ex parse c with
    | error e => rfl
    | ok r =>
      cases loadList cwd root ex parse cs with
      | error e => rfl
      | ok r1 => cases loadList cwd root ex parse ys <;> simp [List.append_assoc]

/-- `itemOK` read back, for whatever the schema tables hold: an object whose listed properties, where present, have the
listed types, that has the required keys and all keys of one `anyOf` alternative -/
theorem itemOK_inv {it : JV} (h : itemOK it = true) : ∃ kvs, it = .obj kvs ∧
    (∀ kt ∈ CbiVerif.Gen.dbSchemaProps, ∀ v, JV.get? kvs kt.1 = some v →
      (if kt.2 == "string" then v.isStr else v.isStrArr) = true) ∧
    (∀ k ∈ CbiVerif.Gen.dbSchemaRequired, (JV.get? kvs k).isSome = true) ∧
    (CbiVerif.Gen.dbSchemaAnyOf.isEmpty = true ∨
      ∃ req ∈ CbiVerif.Gen.dbSchemaAnyOf, ∀ k ∈ req, (JV.get? kvs k).isSome = true) := by
  unfold itemOK at h
  split at h
  · next kvs =>
    simp only [Bool.and_eq_true, Bool.or_eq_true, List.all_eq_true, List.any_eq_true] at h
    refine ⟨kvs, rfl, fun kt hkt v hv => ?_, h.1.2, h.2⟩
    have := h.1.1 kt hkt
    rwa [hv] at this
  · cases h

end CbiVerif.DbPath
