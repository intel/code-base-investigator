import CbiVerif.Model.FLoopCells
/-!
The recursive model `fLoop` of `Model/FSource.lean` (the function the theorems of `Props/C17.lean` are about and the
driver executes) is the iteration of the one-step function `fStep`, followed by `fEndOut` / `fEndOk` — for all inputs.
-/
namespace CbiVerif.Fortran

theorem fLoop_nil (k : LCfg) :
    fLoop k.s k.cur k.lines [] = if fEndOk k then .ok (fEndOut k) else .error .notTop := rfl

theorem fLoop_cons (k : LCfg) (cl : CL) (rest : List CL) :
    fLoop k.s k.cur k.lines (cl :: rest) =
      (fLoop (fStep k cl).1.s (fStep k cl).1.cur (fStep k cl).1.lines rest).map ((fStep k cl).2 ++ ·) := by
  change (if isDirText cl.text then _ else _) = _
  unfold fStep
  by_cases hd : isDirText cl.text = true
  · simp only [hd, if_true]
  · simp only [hd, if_false, Bool.false_eq_true]
    by_cases hc : ((procLine k.s cl.text).1.stack.head? == some Mode.cfs) = true
    · simp only [hc, if_true, List.nil_append]
      cases fLoop (procLine k.s cl.text).1 (k.cur.join (procLine k.s cl.text).2)
        (if (procLine k.s cl.text).2.blank = true then k.lines else k.lines ++ cl.lines) rest <;> rfl
    · simp only [hc, if_false, Bool.false_eq_true]

theorem fRun_cons (k : LCfg) (cl : CL) (rest : List CL) :
    fRun k (cl :: rest) = ((fRun (fStep k cl).1 rest).1, (fStep k cl).2 ++ (fRun (fStep k cl).1 rest).2) := rfl

theorem fLoop_eq_run (cls : List CL) : ∀ k : LCfg,
    fLoop k.s k.cur k.lines cls =
      if fEndOk (fRun k cls).1 then .ok ((fRun k cls).2 ++ fEndOut (fRun k cls).1) else .error .notTop := by
  induction cls with
  | nil => exact fLoop_nil
  | cons cl rest ih =>
    intro k
    rw [fLoop_cons, ih (fStep k cl).1, fRun_cons]
    by_cases h : fEndOk (fRun (fStep k cl).1 rest).1 = true
    · simp only [h, if_true, Except.map, List.append_assoc]
    · simp only [h, if_false, Bool.false_eq_true, Except.map]

theorem fLoop_eq_ok (cls : List CL) (k : LCfg) (lls : List LL) :
    fLoop k.s k.cur k.lines cls = .ok lls ↔
      (fRun k cls).1.s.stack = [.top] ∧ lls = (fRun k cls).2 ++ fEndOut (fRun k cls).1 := by
  rw [fLoop_eq_run, fEndOk]
  by_cases he : (fRun k cls).1.s.stack = [.top]
  · simp only [he, beq_self_eq_true, if_true, Except.ok.injEq, true_and]; exact eq_comm
  · simp [he]

theorem fPass_eq_run (cls : List CL) :
    fPass cls = if fEndOk (fRun {} cls).1 then .ok ((fRun {} cls).2 ++ fEndOut (fRun {} cls).1) else .error .notTop :=
  fLoop_eq_run cls {}

end CbiVerif.Fortran
