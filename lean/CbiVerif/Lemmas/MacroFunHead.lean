import CbiVerif.Lemmas.MacroStrRef
/-! # C03, function-like macros: what a scan meets at the head of a token list

`scanRef`, `scanFit`, `scanCost` and their variants for `#` / `##` all decide in the same way what happens to the first token of
`a :: as`: it stays (painted if its name is disabled), it is an enabled object-like macro name, or it is an enabled function-like
macro name followed by a complete call.  `headOf` names that decision, and `scanRef_cons` … state the scans in terms of it, so that
a proof about a scan has these three cases. -/
namespace CbiVerif.MX
open CbiVerif.PP

inductive Head
  /-- not expanded: `a'` is emitted and the scan goes on behind it; `ok` is `false` only for the name of a function-like macro that
      ends the list or is followed by `(` without a complete call (which takes the run out of every fragment) -/
  | stay (a' : Tok) (ok : Bool)
  | obj (m : Macro)
  /-- the scan goes on with `rest`, the tokens after the closing parenthesis -/
  | call (m : Macro) (ps : List String) (args : List (List Tok)) (rest : List Tok)

/-- case distinction with the head last, so that a function of `headOf …` can be read off an equation -/
def Head.elim {β : Sort u} (stay : Tok → Bool → β) (obj : Macro → β)
    (call : Macro → List String → List (List Tok) → List Tok → β) : Head → β
  | .stay a' ok => stay a' ok
  | .obj m => obj m
  | .call m ps args rest => call m ps args rest

def headOf (tbl : Table) (D : NoExp) (a : Tok) (as : List Tok) : Head :=
  if a.kind != .ident then .stay a true
  else if !a.expandable || D.contains (some a.text) then .stay (paint a) true
  else
    match tbl.get a.text with
    | none => .stay a true
    | some m =>
      match m.args with
      | none => .obj m
      | some ps =>
        match callOf as with
        | none => .stay a (match as with | x :: _ => dtext x != "(" | [] => false)
        | some (args, rest) => .call m ps args rest

/-- the right-hand side is the shape in which every scan is defined -/
theorem headOf_elim {β : Sort u} (g : Head → β) (tbl : Table) (D : NoExp) (a : Tok) (as : List Tok) :
    g (headOf tbl D a as) =
      if a.kind != .ident then g (.stay a true)
      else if !a.expandable || D.contains (some a.text) then g (.stay (paint a) true)
      else
        match tbl.get a.text with
        | none => g (.stay a true)
        | some m =>
          match m.args with
          | none => g (.obj m)
          | some ps =>
            match callOf as with
            | none => g (.stay a (match as with | x :: _ => dtext x != "(" | [] => false))
            | some (args, rest) => g (.call m ps args rest) := by
  unfold headOf
  split
  · rfl
  split
  · rfl
  split
  · rfl
  split
  · rfl
  split <;> rfl

theorem headOf_stay {tbl : Table} {D : NoExp} {a : Tok} {as : List Tok} {a' : Tok} (h : headOf tbl D a as = .stay a' true) :
    (a.kind ≠ .ident ∧ a' = a) ∨
    a.kind = .ident ∧
      ((!a.expandable || D.contains (some a.text)) = true ∧ a' = paint a ∨
       (!a.expandable || D.contains (some a.text)) = false ∧ a' = a ∧
        (tbl.get a.text = none ∨
         ∃ m ps x xs, tbl.get a.text = some m ∧ m.args = some ps ∧ as = x :: xs ∧ (dtext x != "(") = true)) := by
  revert h
  fun_cases headOf tbl D a as
  case case1 hk => rintro ⟨⟩; exact .inl ⟨by simpa using hk, rfl⟩
  case case2 hk hq => rintro ⟨⟩; exact .inr ⟨by simpa using hk, .inl ⟨hq, rfl⟩⟩
  case case3 hk hq hm => rintro ⟨⟩; exact .inr ⟨by simpa using hk, .inr ⟨Bool.eq_false_iff.mpr hq, rfl, .inl hm⟩⟩
  case case5 hk hq m hm ps ha _ =>
    cases as with
    | nil => exact nofun
    | cons x xs =>
      intro h
      injection h with h1 h2
      exact .inr ⟨by simpa using hk, .inr ⟨Bool.eq_false_iff.mpr hq, h1.symm, .inr ⟨m, ps, x, xs, hm, ha, rfl, h2⟩⟩⟩
  all_goals exact nofun

theorem headOf_obj {tbl : Table} {D : NoExp} {a : Tok} {as : List Tok} {m : Macro} (h : headOf tbl D a as = .obj m) :
    (a.kind != .ident) = false ∧ (!a.expandable || D.contains (some a.text)) = false ∧ tbl.get a.text = some m ∧ m.args = none := by
  revert h
  fun_cases headOf tbl D a as
  case case4 hk hq m' hm ha => rintro ⟨⟩; exact ⟨Bool.eq_false_iff.mpr hk, Bool.eq_false_iff.mpr hq, hm, ha⟩
  all_goals exact nofun

theorem headOf_call {tbl : Table} {D : NoExp} {a : Tok} {as : List Tok} {m : Macro} {ps : List String} {args : List (List Tok)}
    {rest : List Tok} (h : headOf tbl D a as = .call m ps args rest) :
    (a.kind != .ident) = false ∧ (!a.expandable || D.contains (some a.text)) = false ∧ tbl.get a.text = some m ∧
      m.args = some ps ∧ callOf as = some (args, rest) := by
  revert h
  fun_cases headOf tbl D a as
  case case6 hk hq m' hm ps' ha args' rest' hc =>
    rintro ⟨⟩; exact ⟨Bool.eq_false_iff.mpr hk, Bool.eq_false_iff.mpr hq, hm, ha, hc⟩
  all_goals exact nofun

section
variable (tbl : Table) (ex : NoExp → List Tok → List Tok) (fit : NoExp → List Tok → Bool) (cost : NoExp → List Tok → Nat)
  (n : Nat) (D : NoExp) (a : Tok) (as : List Tok)

theorem scanRef_cons : scanRef tbl ex (n + 1) D (a :: as) =
    (headOf tbl D a as).elim (fun a' _ => a' :: scanRef tbl ex n D as)
      (fun m => ex (some m.name :: D) (fixpw m.replacement a.pw) ++ scanRef tbl ex n D as)
      (fun m ps args rest =>
        ex (some m.name :: D) (fixpw (substRef ps (args.map (ex (none :: D))) m.replacement) a.pw) ++ scanRef tbl ex n D rest) :=
  Eq.symm (headOf_elim _ tbl D a as)

theorem scanFit_cons : scanFit tbl ex fit (n + 1) D (a :: as) =
    (a.text != "defined" &&
      (headOf tbl D a as).elim (fun _ ok => ok && scanFit tbl ex fit n D as)
        (fun m => fit (some m.name :: D) (fixpw m.replacement a.pw) && scanFit tbl ex fit n D as)
        (fun m ps args rest =>
          decide (ps.length ≤ args.length) && args.all (fit (none :: D)) &&
          fit (some m.name :: D) (fixpw (substRef ps (args.map (ex (none :: D))) m.replacement) a.pw) &&
          scanFit tbl ex fit n D rest)) :=
  congrArg (a.text != "defined" && ·) (Eq.symm (headOf_elim _ tbl D a as))

theorem scanCost_cons : scanCost tbl ex cost (n + 1) D (a :: as) =
    (headOf tbl D a as).elim (fun _ _ => 1 + scanCost tbl ex cost n D as)
      (fun m => cost (some m.name :: D) (fixpw m.replacement a.pw) + 2 + scanCost tbl ex cost n D as)
      (fun m ps args rest =>
        (args.map fun x => cost (none :: D) x + 2).sum +
        cost (some m.name :: D) (fixpw (substRef ps (args.map (ex (none :: D))) m.replacement) a.pw) + 2 +
        scanCost tbl ex cost n D rest) :=
  Eq.symm (headOf_elim _ tbl D a as)

theorem scanRefS_cons : scanRefS tbl ex (n + 1) D (a :: as) =
    (headOf tbl D a as).elim (fun a' _ => a' :: scanRefS tbl ex n D as)
      (fun m => ex (some m.name :: D) (fixpw m.replacement a.pw) ++ scanRefS tbl ex n D as)
      (fun m _ args rest =>
        match replRef m (ex (none :: D)) args with
        | none => a :: scanRefS tbl ex n D as
        | some repl => ex (some m.name :: D) (fixpw repl a.pw) ++ scanRefS tbl ex n D rest) :=
  Eq.symm (headOf_elim _ tbl D a as)

theorem scanFitS_cons : scanFitS tbl ex fit (n + 1) D (a :: as) =
    (a.text != "defined" &&
      (headOf tbl D a as).elim (fun _ ok => ok && scanFitS tbl ex fit n D as)
        (fun m => fit (some m.name :: D) (fixpw m.replacement a.pw) && scanFitS tbl ex fit n D as)
        (fun m _ args rest =>
          match replRef m (ex (none :: D)) args with
          | none => false
          | some repl =>
            !m.variadic && args.all (fit (none :: D)) && fit (some m.name :: D) (fixpw repl a.pw) && scanFitS tbl ex fit n D rest)) :=
  congrArg (a.text != "defined" && ·) (Eq.symm (headOf_elim _ tbl D a as))

theorem scanCostS_cons : scanCostS tbl ex cost (n + 1) D (a :: as) =
    (headOf tbl D a as).elim (fun _ _ => 1 + scanCostS tbl ex cost n D as)
      (fun m => cost (some m.name :: D) (fixpw m.replacement a.pw) + 2 + scanCostS tbl ex cost n D as)
      (fun m _ args rest =>
        match replRef m (ex (none :: D)) args with
        | none => 1 + scanCostS tbl ex cost n D as
        | some repl =>
          (args.map fun x => cost (none :: D) x + 2).sum + cost (some m.name :: D) (fixpw repl a.pw) + 2 +
          scanCostS tbl ex cost n D rest) :=
  Eq.symm (headOf_elim _ tbl D a as)

end

/-! ## a complete call: the argument collection `splitArgs` on a plain token list (its step, the induction along a successful run,
what it leaves) and `callOf` -/
theorem splitArgs_cons (tok : Tok) (r : List Tok) (args : List (List Tok)) (cur : List Tok) (depth : Nat) :
    splitArgs (tok :: r) args cur depth =
      if dtext tok == "," && depth == 1 then splitArgs r (args ++ [cur]) [] depth
      else if dtext tok == "(" then splitArgs r args (cur ++ [tok]) (depth + 1)
      else if dtext tok == ")" then
        if depth == 1 then some (args ++ [cur], r)
        else splitArgs r args (cur ++ [tok]) (depth - 1)
      else splitArgs r args (cur ++ [tok]) depth := rfl

/-- a property of (tokens to read, complete arguments, current argument) that every step of `splitArgs` leads back to holds at
    the start of a successful run, if it holds where the run ends -/
theorem splitArgs_rec {P : List Tok → List (List Tok) → List Tok → Prop} {args' : List (List Tok)} {rest : List Tok}
    (comma : ∀ tok r args cur, P r (args ++ [cur]) [] → P (tok :: r) args cur)
    (grow : ∀ tok r args cur, P r args (cur ++ [tok]) → P (tok :: r) args cur)
    (close : ∀ tok args cur, args' = args ++ [cur] → P (tok :: rest) args cur) :
    ∀ (r : List Tok) (args : List (List Tok)) (cur : List Tok) (depth : Nat), splitArgs r args cur depth = some (args', rest) →
      P r args cur := by
  intro r args cur depth h
  fun_induction splitArgs r args cur depth with
  | case1 => cases h
  | case2 _ _ _ _ _ _ ih => exact comma _ _ _ _ (ih h)
  | case4 =>
    obtain ⟨rfl, rfl⟩ := Prod.mk.inj (Option.some.inj h)
    exact close _ _ _ rfl
  | _ => rename_i ih; exact grow _ _ _ _ (ih h)

theorem splitArgs_append (Q : List Tok) : ∀ (r : List Tok) (args : List (List Tok)) (cur : List Tok) (depth : Nat)
    (args' : List (List Tok)) (rest : List Tok), splitArgs r args cur depth = some (args', rest) →
    splitArgs (r ++ Q) args cur depth = some (args', rest ++ Q) := by
  intro r args cur depth args' rest h
  fun_induction splitArgs r args cur depth with
  | case1 => cases h
  | case2 _ _ _ _ _ h1 ih => rw [List.cons_append, splitArgs_cons, if_pos h1]; exact ih h
  | case3 _ _ _ _ _ h1 h2 ih => rw [List.cons_append, splitArgs_cons, if_neg h1, if_pos h2]; exact ih h
  | case4 _ _ _ _ _ h1 h2 h3 h4 =>
    obtain ⟨rfl, rfl⟩ := Prod.mk.inj (Option.some.inj h)
    rw [List.cons_append, splitArgs_cons, if_neg h1, if_neg h2, if_pos h3, if_pos h4]
  | case5 _ _ _ _ _ h1 h2 h3 h4 ih => rw [List.cons_append, splitArgs_cons, if_neg h1, if_neg h2, if_pos h3, if_neg h4]; exact ih h
  | case6 _ _ _ _ _ h1 h2 h3 ih => rw [List.cons_append, splitArgs_cons, if_neg h1, if_neg h2, if_neg h3]; exact ih h

theorem splitArgs_length (r : List Tok) (args : List (List Tok)) (cur : List Tok) (depth : Nat) (args' : List (List Tok))
    (rest : List Tok) (h : splitArgs r args cur depth = some (args', rest)) : rest.length < r.length :=
  splitArgs_rec (P := fun r _ _ => rest.length < r.length) (fun _ _ _ _ h => Nat.lt_succ_of_lt h) (fun _ _ _ _ h => Nat.lt_succ_of_lt h)
    (fun _ _ _ _ => Nat.lt_succ_self _) r args cur depth h

theorem callOf_some {as : List Tok} {args : List (List Tok)} {rest : List Tok} (h : callOf as = some (args, rest)) :
    ∃ lp r, as = lp :: r ∧ dtext lp = "(" ∧ splitArgs r [] [] 1 = some (args, rest) := by
  cases as with
  | nil => cases h
  | cons lp r =>
    rw [callOf] at h
    split at h
    · exact ⟨lp, r, rfl, by simpa using ‹(dtext lp == "(") = true›, h⟩
    · cases h

theorem callOf_length (ts : List Tok) (args : List (List Tok)) (rest : List Tok) (h : callOf ts = some (args, rest)) :
    rest.length + 2 ≤ ts.length := by
  obtain ⟨lp, r, rfl, -, hsp⟩ := callOf_some h
  exact Nat.succ_le_succ (splitArgs_length _ _ _ _ _ _ hsp)

end CbiVerif.MX
