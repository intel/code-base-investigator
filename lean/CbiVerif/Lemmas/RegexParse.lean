import CbiVerif.Spec.RegexPrio
/-! every expression the pattern parser answers lies in the fragment of the priority theorem -/
namespace CbiVerif.Regex

def FrameOk (f : Frame) : Prop := (∀ x ∈ f.cur, inFragment x.1 = true) ∧ (∀ a ∈ f.alts, inFragment a = true)

theorem inFragment_seqOf (l : List Re) : inFragment (seqOf l) = l.all inFragment := by
  induction l with
  | nil => rfl
  | cons a t ih =>
    cases t with
    | nil => exact (Bool.and_true _).symm
    | cons b t => rw [List.all_cons, ← ih]; rfl

theorem inFragment_altOf (l : List Re) : inFragment (altOf l) = l.all inFragment := by
  induction l with
  | nil => rfl
  | cons a t ih =>
    cases t with
    | nil => exact (Bool.and_true _).symm
    | cons b t => rw [List.all_cons, ← ih]; rfl

theorem cur_seq_ok {f : Frame} (hf : FrameOk f) : inFragment (seqOf (f.cur.reverse.map (·.1))) = true := by
  rw [inFragment_seqOf, List.all_eq_true]
  intro r hr
  obtain ⟨x, hx, rfl⟩ := List.mem_map.mp hr
  exact hf.1 x (List.mem_reverse.mp hx)

theorem close_ok {f : Frame} (hf : FrameOk f) : inFragment f.close = true := by
  have hbody : inFragment (altOf ((seqOf (f.cur.reverse.map (·.1)) :: f.alts).reverse)) = true := by
    rw [inFragment_altOf, List.all_eq_true]
    intro r hr
    rcases List.mem_cons.mp (List.mem_reverse.mp hr) with rfl | hr
    · exact cur_seq_ok hf
    · exact hf.2 r hr
  unfold Frame.close
  cases f.kind <;> exact hbody

theorem push_ok {f : Frame} (hf : FrameOk f) {r : Re} (hr : inFragment r = true) (q : Bool) : FrameOk (f.push r q) :=
  ⟨List.forall_mem_cons.mpr ⟨hr, hf.1⟩, hf.2⟩

theorem empty_ok (k : Option Nat) : FrameOk { kind := k } := ⟨by simp, by simp⟩

theorem quantify_ok (c : Char) {r : Re} (hn : nullable r = false) (hr : inFragment r = true) : inFragment (quantify c r) = true := by
  have key : (!nullable r && inFragment r) = true := by rw [hn, hr]; rfl
  unfold quantify
  split
  · exact key
  · split
    · exact key
    · exact hr

theorem parseLoop_inFragment : ∀ (fuel : Nat) (s : List Char) (f : Frame) (stack : List Frame) (ng : Nat) (res : Re × Nat),
    FrameOk f → (∀ g ∈ stack, FrameOk g) → parseLoop fuel s f stack ng = .ok res → inFragment res.1 = true := by
  intro fuel s f stack ng res
  -- one case for every branch of the parser, in the order of its definition
  fun_induction parseLoop fuel s f stack ng <;> intro hf hs h
  -- a branch that refuses the pattern answers no expression
  all_goals try (cases h; done)
  · -- end of the pattern
    cases h; exact close_ok hf
  · -- `(?:`
    next ih => exact ih (empty_ok none) (List.forall_mem_cons.mpr ⟨hf, hs⟩) h
  · -- `(`
    next ih => exact ih (empty_ok _) (List.forall_mem_cons.mpr ⟨hf, hs⟩) h
  · -- `)`: the closed frame becomes an atom of the one below
    next ih => exact ih (push_ok (List.forall_mem_cons.mp hs).1 (close_ok hf) true) (List.forall_mem_cons.mp hs).2 h
  · -- `|`
    next ih => exact ih ⟨nofun, List.forall_mem_cons.mpr ⟨cur_seq_ok hf, hf.2⟩⟩ hs h
  · -- `[`, the set refused
    next hi _ => rw [hi] at h; cases h
  · -- `[`
    next hi _ ih => rw [hi] at h; exact ih (push_ok hf rfl true) hs h
  · -- `\d` and the like
    next ih => exact ih (push_ok hf rfl true) hs h
  · -- an escaped character
    next ih => exact ih (push_ok hf rfl true) hs h
  · -- `.`
    next ih => exact ih (push_ok hf rfl true) hs h
  · -- `$`
    next ih => exact ih (push_ok hf rfl false) hs h
  · -- a quantifier: its operand is the last atom, which lies in the fragment and is not nullable
    next r cur' hcur hnull ih =>
    obtain ⟨hr, hc⟩ := List.forall_mem_cons.mp (hcur ▸ hf.1)
    exact ih ⟨List.forall_mem_cons.mpr ⟨quantify_ok _ (by simpa using hnull) hr, hc⟩, hf.2⟩ hs h
  · -- a literal
    next ih => exact ih (push_ok hf rfl true) hs h

end CbiVerif.Regex
