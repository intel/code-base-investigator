import CbiVerif.Model.CCleanCells
import CbiVerif.Generated.CCleanTable
/-!
# The hand-written `c_cleaner` model against the table regenerated from `process()`

`Generated/CCleanTable.lean` is produced on every run by `tools/gen/cleaner.py`, which *executes* the real
`c_cleaner.process` / `logical_newline` of the checkout on every (reachable stack, buffer category,
character) cell and records the successor stack and what is done to the line buffer; the character
partition is computed from the observed behaviour of every ASCII character.  This file decodes the table's
vocabulary (state numbers = discovery order, class numbers = order of the smallest member) and states the
finite comparisons as `Bool` functions closed by kernel `decide`.  `Props/C05Table.lean` holds the theorems.
-/
namespace CbiVerif.CClean.Regen
open CbiVerif.CClean

theorem mem_allCls (k : Cls) : k ∈ allCls := by cases k <;> simp [allCls]

def lookup (row : List (List Entry)) (b : Bool) (k : Cls) : Option Entry :=
  (row[b.toNat]?).bind (·[clsIdx k]?)

/-- one row = one reachable stack: the model's `step` gives the recorded entry for both buffer categories
    and all nine model classes -/
def rowOK (row : List Nat × List (List Entry)) : Bool :=
  encode (decode row.1) == row.1 &&
  [false, true].all fun b => allCls.all fun k => lookup row.2 b k == some (entryOf k (step (decode row.1) b k))

theorem stepRows_ok : Gen.CCleanTable.step.all rowOK = true := by decide +kernel

def nlRowOK (row : List Nat × Entry) : Bool :=
  encode (decode row.1) == row.1 && row.2 == entryOf .other (logicalNewline (decode row.1))

theorem newlineRows_ok : Gen.CCleanTable.newline.all nlRowOK = true := by decide +kernel

/-- the reachable stacks, one per row -/
def keys : List (List Nat) := Gen.CCleanTable.step.map (·.1)

/-- the table is closed: it starts at `[TOPLEVEL]`, and every successor stack is again a row -/
def closedOK : Bool :=
  keys.contains [0] && Gen.CCleanTable.newline.map (·.1) == keys &&
  (Gen.CCleanTable.step.all fun row => row.2.all fun es => es.all fun e => e.1 || keys.contains e.2.1) &&
  (Gen.CCleanTable.newline.all fun row => row.2.1 || keys.contains row.2.2.1)

theorem closed_ok : closedOK = true := by decide +kernel

/-- every probed character is classified by the model as the code classifies it -/
def classOK (p : Nat × Nat) : Bool := clsIdx (classify (Char.ofNat p.1)) == p.2

theorem classes_ok : Gen.CCleanTable.charClass.all classOK = true := by decide +kernel

theorem ascii_listed : (Gen.CCleanTable.charClass.take 128).map (·.1) = List.range 128 := by decide +kernel

theorem shape_ok : Gen.CCleanTable.stateNames.length = 9 ∧ Gen.CCleanTable.classReps = [0, 9, 34, 35, 39, 42, 47, 92] := by decide +kernel

/-! ## `c_file_source` on one physical line, `one_space_line.category` / `join` -/

def lineRowOK (row : List Nat × List (List Nat × LineEntry)) : Bool :=
  encode (decode row.1) == row.1 && row.2.all fun p => p.2 == lineObs (decode row.1) (chars p.1)

theorem lineRows_ok : Gen.CCleanTable.lines.all lineRowOK = true := by decide +kernel

/-- the same stacks as in the step table, and for each the same bodies: nothing, one character of every
    class, the same followed by a backslash -/
def lineShapeOK : Bool :=
  Gen.CCleanTable.lines.map (·.1) == keys &&
  Gen.CCleanTable.lines.all fun row => row.2.map (·.1) ==
    [] :: (Gen.CCleanTable.classReps.map fun r => [r]) ++ (Gen.CCleanTable.classReps.map fun r => [r, 92])

theorem lineShape_ok : lineShapeOK = true := by decide +kernel

def catRowOK (p : List Nat × Nat) : Bool := catCode (catOf ((chars p.1).map classify)) == p.2

theorem catRows_ok : Gen.CCleanTable.category.all catRowOK = true := by decide +kernel

def joinRowOK (p : List Nat × Bool × List Nat × Bool × List Nat × Bool) : Bool :=
  let r := Buf.join ⟨(chars p.1).map pchar, p.2.1⟩ ⟨(chars p.2.2.1).map pchar, p.2.2.2.1⟩
  r.text.map Char.toNat == p.2.2.2.2.1 && r.trailing == p.2.2.2.2.2

theorem joinRows_ok : Gen.CCleanTable.join.all joinRowOK = true := by decide +kernel

end CbiVerif.CClean.Regen
