import CbiVerif.Model.Setmap
import CbiVerif.Model.Coverage
/-! helper lemmas for C06: the setmap operations (`add`, `get`, `has`, `total`, `merge`), each read through `get`, `has`,
`total` and the distinctness of the keys; `add` under a map of the keys that is injective where it matters (`add_map_key`,
`foldl_add_map_key`); the folds that fill a setmap (`addNodes`, an instance of one fold of `add`, and
`getSetmap` over it); the coverage split of a file's nodes (`Cov.split_eq`) -/
namespace CbiVerif.SM

theorem add_cons (e : Key × Nat) (rest : Setmap) (k : Key) (n : Nat) :
    add (e :: rest) k n = if e.1 = k then (e.1, e.2 + n) :: rest else e :: add rest k n := rfl

theorem get_cons (e : Key × Nat) (rest : Setmap) (k : Key) :
    get (e :: rest) k = (if e.1 = k then e.2 else 0) + get rest k := rfl

theorem has_cons (e : Key × Nat) (rest : Setmap) (k : Key) :
    has (e :: rest) k = (decide (e.1 = k) || has rest k) := rfl

theorem total_cons (e : Key × Nat) (rest : Setmap) : total (e :: rest) = e.2 + total rest := rfl

theorem get_add (sm : Setmap) (k : Key) (n : Nat) (k' : Key) :
    get (add sm k n) k' = get sm k' + (if k = k' then n else 0) := by
  induction sm with
  | nil => exact Nat.add_comm _ _
  | cons e rest ih =>
    rw [add_cons]
    by_cases h : e.1 = k
    · rw [if_pos h, get_cons, get_cons, ← h]
      by_cases h2 : e.1 = k'
      · rw [if_pos h2, if_pos h2, if_pos h2, Nat.add_right_comm]
      · rw [if_neg h2, if_neg h2, if_neg h2]; rfl
    · rw [if_neg h, get_cons, get_cons, ih, Nat.add_assoc]

theorem has_add (sm : Setmap) (k : Key) (n : Nat) (k' : Key) :
    has (add sm k n) k' = (has sm k' || decide (k = k')) := by
  induction sm with
  | nil => exact Bool.or_comm _ _
  | cons e rest ih =>
    rw [add_cons]
    by_cases h : e.1 = k
    · rw [if_pos h, has_cons, has_cons, ← h, Bool.or_right_comm, Bool.or_self]
    · rw [if_neg h, has_cons, has_cons, ih, Bool.or_assoc]

theorem total_add (sm : Setmap) (k : Key) (n : Nat) : total (add sm k n) = total sm + n := by
  induction sm with
  | nil => exact Nat.add_comm _ _
  | cons e rest ih =>
    rw [add_cons]
    by_cases h : e.1 = k
    · rw [if_pos h, total_cons, total_cons, Nat.add_right_comm]
    · rw [if_neg h, total_cons, total_cons, ih, Nat.add_assoc]

theorem keys_add (sm : Setmap) (k : Key) (n : Nat) :
    keys (add sm k n) = if k ∈ keys sm then keys sm else keys sm ++ [k] := by
  induction sm with
  | nil => rfl
  | cons e rest ih =>
    rw [add_cons]
    by_cases h : e.1 = k
    · rw [if_pos h, if_pos (h ▸ List.mem_cons_self)]; rfl
    · rw [if_neg h]
      show e.1 :: keys (add rest k n) = if k ∈ e.1 :: keys rest then e.1 :: keys rest else e.1 :: keys rest ++ [k]
      by_cases hk : k ∈ keys rest
      · rw [ih, if_pos hk, if_pos (List.mem_cons_of_mem _ hk)]
      · rw [ih, if_neg hk, if_neg fun hc => (List.mem_cons.mp hc).elim (fun e => h e.symm) hk]; rfl

theorem nodup_add (sm : Setmap) (k : Key) (n : Nat) (h : (keys sm).Nodup) : (keys (add sm k n)).Nodup := by
  rw [keys_add]
  split
  · exact h
  · rename_i hk
    exact List.nodup_append.mpr ⟨h, List.pairwise_singleton _ k,
      fun a ha b hb => List.mem_singleton.mp hb ▸ fun hab => hk (hab ▸ ha)⟩

theorem has_iff_mem_keys (sm : Setmap) (k : Key) : has sm k = true ↔ k ∈ keys sm := by
  induction sm with
  | nil => exact ⟨fun h => (nomatch h), fun h => (nomatch h)⟩
  | cons e rest ih =>
    rw [has_cons, Bool.or_eq_true, decide_eq_true_eq, ih, eq_comm]
    exact List.mem_cons.symm

theorem get_eq_sum (sm : Setmap) (k : Key) : get sm k = (sm.map fun e => if e.1 = k then e.2 else 0).sum := by
  induction sm with
  | nil => rfl
  | cons e rest ih => exact congrArg (_ + ·) ih

theorem get_of_not_mem (sm : Setmap) (k : Key) (h : k ∉ keys sm) : get sm k = 0 := by
  induction sm with
  | nil => rfl
  | cons e rest ih =>
    rw [get_cons, if_neg fun (he : e.1 = k) => h (he ▸ List.mem_cons_self), ih fun hr => h (List.mem_cons_of_mem _ hr)]

theorem get_of_mem (sm : Setmap) (h : (keys sm).Nodup) {e : Key × Nat} (he : e ∈ sm) : get sm e.1 = e.2 := by
  induction sm with
  | nil => cases he
  | cons e0 rest ih =>
    obtain ⟨hnot, hnd⟩ := List.nodup_cons.mp (show (e0.1 :: keys rest).Nodup from h)
    rw [get_cons]
    rcases List.mem_cons.mp he with rfl | he
    · rw [if_pos rfl, get_of_not_mem rest _ hnot]; rfl
    · rw [if_neg fun (hk : e0.1 = e.1) => hnot (hk ▸ List.mem_map_of_mem he), Nat.zero_add]
      exact ih hnd he

/-- the sum of the rows over the (distinct) keys is the total: every line is in exactly one row -/
theorem total_eq_sum_get (sm : Setmap) (h : (keys sm).Nodup) : total sm = ((keys sm).map (get sm)).sum := by
  induction sm with
  | nil => rfl
  | cons e rest ih =>
    have hn : e.1 ∉ keys rest ∧ (keys rest).Nodup := List.nodup_cons.mp h
    have hmap : (keys rest).map (get (e :: rest)) = (keys rest).map (get rest) :=
      List.map_congr_left fun k hk => by rw [get_cons, if_neg fun (he : e.1 = k) => hn.1 (he ▸ hk), Nat.zero_add]
    show total (e :: rest) = (get (e :: rest) e.1 :: (keys rest).map (get (e :: rest))).sum
    rw [total_cons, ih hn.2, List.sum_cons, hmap, get_cons, if_pos rfl, get_of_not_mem rest e.1 hn.1]; rfl

/-! ### a fold of `add` over any list -/

theorem get_foldl_add {α : Type} (key : α → Key) (val : α → Nat) (xs : List α) (s : Setmap) (k : Key) :
    get (xs.foldl (fun s x => add s (key x) (val x)) s) k
      = get s k + (xs.map fun x => if key x = k then val x else 0).sum := by
  induction xs generalizing s with
  | nil => rfl
  | cons x xs ih => rw [List.foldl_cons, ih, get_add, Nat.add_assoc]; rfl

theorem has_foldl_add {α : Type} (key : α → Key) (val : α → Nat) (xs : List α) (s : Setmap) (k : Key) :
    has (xs.foldl (fun s x => add s (key x) (val x)) s) k = (has s k || xs.any fun x => decide (key x = k)) := by
  induction xs generalizing s with
  | nil => exact (Bool.or_false _).symm
  | cons x xs ih => rw [List.foldl_cons, ih, has_add, Bool.or_assoc]; rfl

theorem total_foldl_add {α : Type} (key : α → Key) (val : α → Nat) (xs : List α) (s : Setmap) :
    total (xs.foldl (fun s x => add s (key x) (val x)) s) = total s + (xs.map val).sum := by
  induction xs generalizing s with
  | nil => rfl
  | cons x xs ih => rw [List.foldl_cons, ih, total_add, Nat.add_assoc]; rfl

theorem nodup_foldl_add {α : Type} (key : α → Key) (val : α → Nat) (xs : List α) (s : Setmap)
    (h : (keys s).Nodup) : (keys (xs.foldl (fun s x => add s (key x) (val x)) s)).Nodup := by
  induction xs generalizing s with
  | nil => exact h
  | cons x xs ih => exact ih _ (nodup_add s _ _ h)

theorem mem_keys_add (sm : Setmap) (k : Key) (n : Nat) (k' : Key) : k' ∈ keys (add sm k n) ↔ k' ∈ keys sm ∨ k = k' := by
  rw [← has_iff_mem_keys, has_add, Bool.or_eq_true, has_iff_mem_keys, decide_eq_true_eq]

theorem mem_keys_foldl_add {α : Type} (key : α → Key) (val : α → Nat) (xs : List α) (s : Setmap) (k : Key) :
    k ∈ keys (xs.foldl (fun s x => add s (key x) (val x)) s) ↔ k ∈ keys s ∨ ∃ x ∈ xs, key x = k := by
  rw [← has_iff_mem_keys, has_foldl_add, Bool.or_eq_true, has_iff_mem_keys, List.any_eq_true]
  simp only [decide_eq_true_eq]

/-! ### `add` under a map of the keys -/

/-- `add` commutes with a map of the keys that keeps the added key apart from the other keys of the dict -/
theorem add_map_key (σ : Key → Key) (sm : Setmap) (k : Key) (n : Nat) (h : ∀ k' ∈ keys sm, σ k' = σ k → k' = k) :
    add (sm.map fun e => (σ e.1, e.2)) (σ k) n = (add sm k n).map fun e => (σ e.1, e.2) := by
  induction sm with
  | nil => rfl
  | cons e rest ih =>
    obtain ⟨he, hrest⟩ := List.forall_mem_cons.mp h
    rw [List.map_cons, add_cons, add_cons, ih hrest]
    by_cases hk : e.1 = k
    · rw [if_pos hk, if_pos (congrArg σ hk)]; rfl
    · rw [if_neg hk, if_neg fun hh => hk (he hh)]; rfl

/-- so does a fold of `add`, with the same insertion order, when `σ` is injective on the keys in sight (`P`) -/
theorem foldl_add_map_key {α : Type} (σ : Key → Key) (P : Key → Prop) (hσ : ∀ a b, P a → P b → σ a = σ b → a = b)
    (key : α → Key) (val : α → Nat) (xs : List α) (hx : ∀ x ∈ xs, P (key x)) (s : Setmap) (hs : ∀ k ∈ keys s, P k) :
    xs.foldl (fun s x => add s (σ (key x)) (val x)) (s.map fun e => (σ e.1, e.2)) =
      (xs.foldl (fun s x => add s (key x) (val x)) s).map fun e => (σ e.1, e.2) := by
  induction xs generalizing s with
  | nil => rfl
  | cons x xs ih =>
    obtain ⟨hk, hx⟩ := List.forall_mem_cons.mp hx
    rw [List.foldl_cons, List.foldl_cons, add_map_key σ s _ _ fun k' hk' => hσ _ _ (hs k' hk') hk]
    exact ih hx _ fun k' hk' => ((mem_keys_add ..).mp hk').elim (hs k') (· ▸ hk)

theorem get_merge (d s : Setmap) (k : Key) : get (merge d s) k = get d k + get s k :=
  (get_foldl_add (fun e : Key × Nat => e.1) (fun e => e.2) s d k).trans (congrArg _ (get_eq_sum s k).symm)

theorem has_merge (d s : Setmap) (k : Key) : has (merge d s) k = (has d k || has s k) := by
  refine (has_foldl_add (fun e : Key × Nat => e.1) (fun e => e.2) s d k).trans (congrArg _ ?_)
  induction s with
  | nil => rfl
  | cons e rest ih => exact congrArg (_ || ·) ih

theorem total_merge (d s : Setmap) : total (merge d s) = total d + total s :=
  total_foldl_add (fun e : Key × Nat => e.1) (fun e => e.2) s d

theorem nodup_merge (d s : Setmap) (h : (keys d).Nodup) : (keys (merge d s)).Nodup :=
  nodup_foldl_add (fun e : Key × Nat => e.1) (fun e => e.2) s d h

def nodeSum (ns : List NodeRec) (k : Key) : Nat := (ns.map fun n => if n.plats = k then n.numLines else 0).sum

theorem get_addNodes (s : Setmap) (ns : List NodeRec) (k : Key) : get (addNodes s ns) k = get s k + nodeSum ns k :=
  get_foldl_add (fun n : NodeRec => n.plats) (fun n => n.numLines) ns s k

theorem has_addNodes (s : Setmap) (ns : List NodeRec) (k : Key) :
    has (addNodes s ns) k = (has s k || ns.any fun n => decide (n.plats = k)) :=
  has_foldl_add (fun n : NodeRec => n.plats) (fun n => n.numLines) ns s k

theorem total_addNodes (s : Setmap) (ns : List NodeRec) :
    total (addNodes s ns) = total s + (ns.map (·.numLines)).sum :=
  total_foldl_add (fun n : NodeRec => n.plats) (fun n => n.numLines) ns s

theorem nodup_addNodes (s : Setmap) (ns : List NodeRec) (h : (keys s).Nodup) : (keys (addNodes s ns)).Nodup :=
  nodup_foldl_add (fun n : NodeRec => n.plats) (fun n => n.numLines) ns s h

/-- the loop of `getSetmap`, started from any dict -/
theorem foldl_addNodes_eq (fs : List FileRec) (s : Setmap) :
    fs.foldl (fun s f => if f.link then s else addNodes s f.nodes) s =
      ((fs.filter fun f => !f.link).flatMap (·.nodes)).foldl (fun s n => add s n.plats n.numLines) s := by
  rw [List.foldl_flatMap, List.foldl_filter]
  exact congrArg (fun g => fs.foldl g s) (funext fun s => funext fun f => by cases f.link <;> rfl)

theorem getSetmap_eq_foldl (fs : List FileRec) :
    getSetmap fs = ((fs.filter fun f => !f.link).flatMap (·.nodes)).foldl (fun s n => add s n.plats n.numLines) [] :=
  foldl_addNodes_eq fs []

theorem nodup_keys_getSetmap (fs : List FileRec) : (keys (getSetmap fs)).Nodup :=
  getSetmap_eq_foldl fs ▸ nodup_foldl_add _ _ _ [] List.nodup_nil

theorem sum_map_flatMap {α β : Type} (g : α → List β) (w : β → Nat) (l : List α) :
    ((l.flatMap g).map w).sum = (l.map fun a => ((g a).map w).sum).sum := by
  induction l with
  | nil => rfl
  | cons a l ih => rw [List.flatMap_cons, List.map_append, List.sum_append, ih]; rfl

theorem nodeSum_eq_countP (ns : List NodeRec) (k : Key) (h : ∀ n ∈ ns, n.numLines = n.lines.length) :
    nodeSum ns k = ((ns.flatMap fun n => n.lines.map fun l => (l, n.plats)).countP fun p => p.2 = k) := by
  induction ns with
  | nil => rfl
  | cons n ns ih =>
    rw [List.flatMap_cons, List.countP_append, ← ih fun m hm => h m (List.mem_cons_of_mem _ hm), List.countP_map]
    refine congrArg (· + nodeSum ns k) ?_
    show (if n.plats = k then n.numLines else 0) = _
    by_cases hk : n.plats = k
    · rw [if_pos hk, h n List.mem_cons_self]
      exact (List.countP_eq_length.mpr fun a _ => decide_eq_true hk).symm
    · rw [if_neg hk]
      exact (List.countP_eq_zero.mpr fun a _ => by simpa using hk).symm

theorem numLines_sum_eq_length (ns : List NodeRec) (h : ∀ n ∈ ns, n.numLines = n.lines.length) :
    (ns.map (·.numLines)).sum = (ns.flatMap fun n => n.lines.map fun l => (l, n.plats)).length := by
  induction ns with
  | nil => rfl
  | cons n ns ih =>
    rw [List.map_cons, List.sum_cons, List.flatMap_cons, List.length_append, List.length_map,
      ih fun m hm => h m (List.mem_cons_of_mem _ hm), h n List.mem_cons_self]

end CbiVerif.SM

namespace CbiVerif.Cov
open CbiVerif.SM

theorem split_fold (ns : List NodeRec) (s : Split) :
    ns.foldl (fun s n => if n.plats.isEmpty then { s with unused := s.unused ++ n.lines }
                         else { s with used := s.used ++ n.lines }) s
      = ⟨s.used ++ (ns.filter fun n => !n.plats.isEmpty).flatMap (·.lines),
         s.unused ++ (ns.filter fun n => n.plats.isEmpty).flatMap (·.lines)⟩ := by
  induction ns generalizing s with
  | nil => simp
  | cons n ns ih =>
    rw [List.foldl_cons, ih, List.filter_cons, List.filter_cons]
    cases n.plats.isEmpty <;>
      simp only [Bool.not_false, Bool.not_true, Bool.false_eq_true, if_true, if_false, List.flatMap_cons, List.append_assoc]

theorem split_eq (ns : List NodeRec) :
    split ns = ⟨(ns.filter fun n => !n.plats.isEmpty).flatMap (·.lines),
                (ns.filter fun n => n.plats.isEmpty).flatMap (·.lines)⟩ :=
  split_fold ns ⟨[], []⟩

end CbiVerif.Cov
