import CbiVerif.Lemmas.FindInc
/-! C18: unknown-directive warnings of an analysis = one batch per parsed file, each file parsed once. -/
namespace CbiVerif.Inc
open CbiVerif.PP (PNode Tok Table Entry Err)
open CbiVerif.Cond CbiVerif.MF CbiVerif.IncludeSearch

/-- the unknown-directive warnings parsing `f` gives rise to -/
def fileEvents (pfs : ParsedFS) (f : String) : List Warn.Event :=
  match pfs.get f with
  | some (.ok p) => Warn.directiveEvents f p.directives
  | _ => []

structure DInv (pfs : ParsedFS) (s : PState) : Prop where
  dwarns : s.dwarns = s.inserted.flatMap (fileEvents pfs)
  nodup : s.inserted.Nodup

theorem insertFile_dinv (pfs : ParsedFS) (s : PState) (f : String) (h : DInv pfs s) : DInv pfs (s.insertFile pfs f) := by
  fun_cases PState.insertFile s pfs f
  · exact h
  · exact ⟨h.dwarns, h.nodup⟩
  · exact ⟨h.dwarns, h.nodup⟩
  · rename_i hc p hg
    have hnot : f ∉ s.inserted := fun hm => hc (by simp [hm])
    exact ⟨by simp [h.dwarns, fileEvents, hg], List.nodup_append.mpr ⟨h.nodup, List.pairwise_singleton _ f,
      fun a ha b hb => by rw [List.mem_singleton.mp hb]; exact fun e => hnot (e ▸ ha)⟩⟩

theorem addAssoc_dframe (s : PState) (f : String) (i : Nat) (p : String) :
    (s.addAssoc f i p).dwarns = s.dwarns ∧ (s.addAssoc f i p).inserted = s.inserted :=
  ⟨(addAssoc_frame s f i p).2.2.1, (addAssoc_frame s f i p).2.2.2.1⟩

theorem DInv.record {pfs : ParsedFS} {s : PState} (h : DInv pfs s) (out : List Nat) (f p : String) :
    DInv pfs (out.foldl (fun s i => s.addAssoc f i p) s) := by
  obtain ⟨_, _, c, d, _⟩ := foldl_addAssoc_frame out s f p
  exact ⟨by rw [c, d]; exact h.dwarns, by rw [d]; exact h.nodup⟩

theorem dinv (m : Bool) (fs : FS) (pfs : ParsedFS) : Inv m fs pfs (fun w => DInv pfs w.st) (fun _ => True) where
  setErr _ h := ⟨h.dwarns, h.nodup⟩
  setPlat _ h _ := h
  lookup _ _ _ _ _ h := ⟨h.dwarns, h.nodup⟩
  insertFile f h := insertFile_dinv pfs _ f h
  record file out _ h := h.record out file _
  next _ _ _ _ _ _ _ _ _ _ _ := trivial

theorem find_dinv (fs : FS) (codebase : List String) (config : List (String × List Entry)) (fuel : Nat) :
    DInv (parseAll fs) (find fs codebase config fuel) :=
  (find_steps (R := fun _ _ => Diag fun w => DInv (parseAll fs) w.st) (Q := fun _ _ _ => True)
    (fun _ _ _ _ => (dinv true fs (parseAll fs)).steps) codebase fuel (h0 := ⟨rfl, List.nodup_nil⟩)
    (hins := fun s f h => insertFile_dinv _ s f h) (hset := fun _ _ h => ⟨h.dwarns, h.nodup⟩)
    (hin := fun _ _ _ _ h => ⟨rfl, h⟩) (hout := fun _ _ _ _ ⟨e, h⟩ => ⟨by rw [e], h⟩)
    (hroot := fun _ _ => trivial) (hforced := fun _ _ _ _ _ _ _ _ _ => trivial)).2

end CbiVerif.Inc
