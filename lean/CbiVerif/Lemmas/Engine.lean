import CbiVerif.Model.Exclude
/-! The multi-file engine of `Model/Exclude.lean` as an interface, and the one induction over it.

`Model/Exclude.lean` writes the recursion of `associate` through `#include` twice: over `XW` (parse cache, mixing
log, association state; a file is entered by `Sem.enter`) and over `Local` (association state only; `Sem.enterRef`).
The two copies differ in nothing but the state and the way a file is entered.  `Eng σ` names that difference and
lists the equations of the recursion over it; both copies of the model satisfy them by unfolding (`Sem.cached`,
`Sem.plain`).

`Lift.tree`, `Lift.forced`, `Lift.entry` are the only inductions over the engine: a run of any engine `E` *tracks*
the run of a cache-free engine `S2` from the same association state (`Tracks`), provided entering a file does
(`EnterOK`).  What the cache does to one entered file is then all that is left to prove about it
(`Lemmas/Exclude.lean`: any cache; `Lemmas/FindCacheMono.lean`: one language class); for two cache-free engines
the statement is the congruence of the engine in its semantics record (`Lemmas/FindEngines.lean`). -/
namespace CbiVerif.Exclude
open CbiVerif.PP

def afterEnter {σ : Type} (r : σ × Option (LClass × Parsed)) (k : LClass → Parsed → σ → σ) : σ :=
  match r with
  | (w1, none) => w1
  | (w1, some (cl, t)) => k cl t w1

/-- An engine: a state `σ` that holds an association state (`loc`, `set`), the way a file is entered in it, and the five
functions of the recursion with the equations that define them in `Model/Exclude.lean`, written over `loc`, `set` and
`enter`.  (The equations determine the functions; they are what the induction uses.) -/
structure Eng (σ : Type) where
  S : Sem
  loc : σ → Local
  set : σ → Local → σ
  enter : σ → String → Option LClass → σ × Option (LClass × Parsed)
  tree : Nat → String → LClass → Parsed → σ → σ
  visit : Nat → String → LClass → Array PNode → σ → PTree → σ
  list : Nat → String → LClass → Array PNode → σ → List PTree → σ
  forced : Nat → String → List String → σ → σ
  entry : Nat → String → Entry → σ → σ
  loc_set : ∀ w l, loc (set w l) = l
  tree_zero : ∀ file cl t w, tree 0 file cl t w = set w ((loc w).fail fuelErr)
  tree_succ : ∀ n file cl nodes trees w, tree (n + 1) file cl (nodes, trees) w =
    let w' := list n file cl nodes (set w { loc w with taken := [] }) trees
    set w' { loc w' with taken := (loc w).taken }
  visit_zero : ∀ file cl nodes w tr, visit 0 file cl nodes w tr = set w ((loc w).fail fuelErr)
  visit_succ : ∀ n file cl nodes w idx kids, visit (n + 1) file cl nodes w (.node idx kids) =
    match (loc w).err with
    | some _ => w
    | none =>
      match S.step file idx (nodes[idx]!) (loc w) with
      | (l, .stay) => set w l
      | (l, .descend) => list n file cl nodes (set w l) kids
      | (l, .incl g) => afterEnter (enter (set w l) g (some cl)) (tree n g)
  list_nil : ∀ n file cl nodes w, list n file cl nodes w [] = w
  list_zero : ∀ file cl nodes w t ts, list 0 file cl nodes w (t :: ts) = set w ((loc w).fail fuelErr)
  list_succ : ∀ n file cl nodes w t ts,
    list (n + 1) file cl nodes w (t :: ts) = list n file cl nodes (visit n file cl nodes w t) ts
  forced_nil : ∀ n dir w, forced n dir [] w = w
  forced_cons : ∀ n dir inc rest w, forced n dir (inc :: rest) w =
    match (loc w).err with
    | some _ => w
    | none =>
      match S.findInc (loc w).plat inc dir with
      | (none, p2) => forced n dir rest (set w { loc w with plat := p2 })
      | (some f, p2) =>
        afterEnter (enter (set w { loc w with plat := p2 }) f none) fun cl t w1 => forced n dir rest (tree n f cl t w1)
  entry_eq : ∀ n pname e w, entry n pname e w =
    match (loc w).err with
    | some _ => w
    | none =>
      match S.mkPlat pname e with
      | .error er => set w ((loc w).fail er)
      | .ok plat =>
        let wf := forced n (dirname e.file) e.includeFiles (set w { loc w with plat := plat, taken := [] })
        match (loc wf).err with
        | some _ => wf
        | none => afterEnter (enter wf e.file none) (tree n e.file)

/-! ### the two engines of the model -/

-- a `match` on a pair whose first component has the variable type `σ` is not, for the elaborator, the `match` of the
-- model's definitions at `σ := XW` or `Local` (the two are compiled with different parameters); it is turned into it
-- by cases, once per state type
theorem afterEnter_cached (r : XW × Option (LClass × Parsed)) (k : LClass → Parsed → XW → XW) :
    afterEnter r k = match r with
      | (w1, none) => w1
      | (w1, some (cl, t)) => k cl t w1 := by
  obtain ⟨w1, _ | ⟨cl, t⟩⟩ := r <;> rfl

theorem afterEnter_plain (r : Local × Option (LClass × Parsed)) (k : LClass → Parsed → Local → Local) :
    afterEnter r k = match r with
      | (l1, none) => l1
      | (l1, some (cl, t)) => k cl t l1 := by
  obtain ⟨l1, _ | ⟨cl, t⟩⟩ := r <;> rfl

/-- the engine with the parse cache -/
def Sem.cached (S : Sem) : Eng XW where
  S := S
  loc := (·.loc)
  set w l := { w with loc := l }
  enter := S.enter
  tree := assocTree S
  visit := visit S
  list := visitList S
  forced := runForced S
  entry := runEntry S
  loc_set _ _ := rfl
  tree_zero _ _ _ _ := rfl
  tree_succ _ _ _ _ _ _ := rfl
  visit_zero _ _ _ _ _ := rfl
  visit_succ _ _ _ _ _ _ _ := by simp only [afterEnter_cached]; rfl
  list_nil n _ _ _ _ := by cases n <;> rfl
  list_zero _ _ _ _ _ _ := rfl
  list_succ _ _ _ _ _ _ _ := rfl
  forced_nil _ _ _ := rfl
  forced_cons _ _ _ _ _ := by simp only [afterEnter_cached]; rfl
  entry_eq _ _ _ _ := by simp only [afterEnter_cached]; rfl

/-- the cache-free engine -/
def Sem.plain (S : Sem) : Eng Local where
  S := S
  loc := id
  set _ l := l
  enter := S.enterRef
  tree := assocTreeRef S
  visit := visitRef S
  list := visitListRef S
  forced := runForcedRef S
  entry := runEntryRef S
  loc_set _ _ := rfl
  tree_zero _ _ _ _ := rfl
  tree_succ _ _ _ _ _ _ := rfl
  visit_zero _ _ _ _ _ := rfl
  visit_succ _ _ _ _ _ _ _ := by simp only [afterEnter_plain]; rfl
  list_nil n _ _ _ _ := by cases n <;> rfl
  list_zero _ _ _ _ _ _ := rfl
  list_succ _ _ _ _ _ _ _ := rfl
  forced_nil _ _ _ := rfl
  forced_cons _ _ _ _ _ := by simp only [afterEnter_plain]; rfl
  entry_eq _ _ _ _ := by simp only [afterEnter_plain]; rfl

/-! ### runs that track a cache-free run -/

/-- what a statement about the runs of an engine speaks of: `J` is kept of the state besides the association state, `P`
of the `Platform` object; a state is `clean` while nothing has happened yet that makes its association
state differ from the cache-free engine's (dirt stays, so a run that ends clean was clean all along); `C` are the
language classes of the files that are walked -/
structure View (σ : Type) where
  J : σ → Prop
  P : Platform → Prop := fun _ => True
  clean : σ → Prop
  C : LClass → Prop := fun _ => True

section Lift
variable {σ : Type} (E : Eng σ) (S2 : Sem) (V : View σ)

def View.ok (w : σ) : Prop := V.J w ∧ V.P (E.loc w).plat

/-- from `w` the state `w'` is reached, where the cache-free engine reaches `l'` -/
def Tracks (w w' : σ) (l' : Local) : Prop :=
  V.ok E w' ∧ (V.clean w' → V.clean w ∧ E.loc w' = l')

/-- entering `g` with inherited class `inh` tracks `Sem.enterRef`, and yields a class in `C` -/
def EnterOK (g : String) (inh : Option LClass) : Prop :=
  ∀ w, V.J w →
    V.J (E.enter w g inh).1 ∧ (V.P (E.loc w).plat → V.P (E.loc (E.enter w g inh).1).plat) ∧
    (∀ cl t, (E.enter w g inh).2 = some (cl, t) → V.C cl) ∧
    (V.clean (E.enter w g inh).1 →
      V.clean w ∧ (E.loc (E.enter w g inh).1, (E.enter w g inh).2) = S2.enterRef (E.loc w) g inh)

/-- every file one of the `-include` names `incs` resolves to from `dir` can be entered at top level -/
def ForcedOK (dir : String) (incs : List String) : Prop :=
  ∀ inc ∈ incs, ∀ p f p2, V.P p → E.S.findInc p inc dir = (some f, p2) → EnterOK E S2 V f none

/-- what the induction needs: `set` does not touch what `J` and `clean` speak of; the two records have the same node step,
`-include` search and `Platform` construction, all of which keep `P`; a file entered from an includer of a class
in `C` is entered alike -/
structure Lift : Prop where
  J_set : ∀ w l, V.J w → V.J (E.set w l)
  clean_set : ∀ w l, V.clean (E.set w l) → V.clean w
  step_eq : E.S.step = S2.step
  find_eq : E.S.findInc = S2.findInc
  plat_eq : E.S.mkPlat = S2.mkPlat
  stepP : ∀ file idx nd l, V.P l.plat → V.P (E.S.step file idx nd l).1.plat
  findP : ∀ p inc dir, V.P p → V.P (E.S.findInc p inc dir).2
  mkP : ∀ pname e plat, E.S.mkPlat pname e = .ok plat → V.P plat
  inh : ∀ g cl, V.C cl → EnterOK E S2 V g (some cl)

variable {E S2 V}

theorem Tracks.same {w : σ} (hw : V.ok E w) : Tracks E V w w (E.loc w) :=
  ⟨hw, fun hc => ⟨hc, rfl⟩⟩

theorem Tracks.trans {w w1 w2 : σ} {l1 : Local} (F : Local → Local)
    (h1 : Tracks E V w w1 l1) (h2 : Tracks E V w1 w2 (F (E.loc w1))) : Tracks E V w w2 (F l1) := by
  refine ⟨h2.1, fun hc => ?_⟩
  obtain ⟨hc1, hl2⟩ := h2.2 hc
  obtain ⟨hc0, hl1⟩ := h1.2 hc1
  exact ⟨hc0, by rw [hl2, hl1]⟩

/-- `enter`, then `associate` on the entered tree, then `k`: an `#include` and the compiled file (`k` the
identity), an `-include` file (`k` the rest of the loop) -/
theorem Tracks.enter_then {n : Nat}
    (hA : ∀ file cl t w l, V.C cl → E.loc w = l → V.ok E w →
      Tracks E V w (E.tree n file cl t w) (assocTreeRef S2 n file cl t l))
    {g : String} {inh : Option LClass} (hE : EnterOK E S2 V g inh) (k : σ → σ) (kref : Local → Local)
    (hk : ∀ w1, V.ok E w1 → Tracks E V w1 (k w1) (kref (E.loc w1))) {w : σ} {l : Local} (hl : E.loc w = l)
    (hw : V.ok E w) :
    Tracks E V w (afterEnter (E.enter w g inh) fun cl t w1 => k (E.tree n g cl t w1))
      (match S2.enterRef l g inh with
        | (l1, none) => l1
        | (l1, some (cl, t)) => kref (assocTreeRef S2 n g cl t l1)) := by
  subst hl
  obtain ⟨h1, h2, h3, h4⟩ := hE w hw.1
  cases hr : E.enter w g inh with
  | mk w1 r =>
    rw [hr] at h1 h2 h3 h4
    cases r with
    | none =>
      refine ⟨⟨h1, h2 hw.2⟩, fun hc => ?_⟩
      obtain ⟨hc0, he⟩ := h4 hc
      rw [← he]
      exact ⟨hc0, rfl⟩
    | some ct =>
      obtain ⟨cl, t⟩ := ct
      have hT := hA g cl t w1 _ (h3 cl t rfl) rfl ⟨h1, h2 hw.2⟩
      have hK := hk _ hT.1
      refine ⟨hK.1, fun hc => ?_⟩
      obtain ⟨hc2, hl3⟩ := hK.2 hc
      obtain ⟨hc1, hl2⟩ := hT.2 hc2
      obtain ⟨hc0, he⟩ := h4 hc1
      rw [← he]
      exact ⟨hc0, hl3.trans (congrArg kref hl2)⟩

variable (h : Lift E S2 V)
include h

theorem Lift.set {w : σ} {l : Local} (hJ : V.J w) (hP : V.P l.plat) : Tracks E V w (E.set w l) l :=
  ⟨⟨h.J_set w l hJ, (E.loc_set w l).symm ▸ hP⟩, fun hc => ⟨h.clean_set w l hc, E.loc_set w l⟩⟩

/-- a step that starts by replacing the association state -/
theorem Lift.set_then {w w2 : σ} {l l2 : Local} (hJ : V.J w) (hP : V.P l.plat)
    (h2 : E.loc (E.set w l) = l → V.ok E (E.set w l) → Tracks E V (E.set w l) w2 l2) : Tracks E V w w2 l2 :=
  Tracks.trans (fun _ => l2) (h.set hJ hP) (h2 (E.loc_set w l) (h.set hJ hP).1)

-- stated for any `l` that is the association state of `w`: at `E.set w l` the statement about a callee then speaks of `l`
-- itself (`Lift.set_then`), where `Tracks.trans` has to be told the cache-free side as a function of the state in between
theorem Lift.tree : ∀ n,
    (∀ file cl t w l, V.C cl → E.loc w = l → V.ok E w →
      Tracks E V w (E.tree n file cl t w) (assocTreeRef S2 n file cl t l)) ∧
    (∀ file cl nodes w l tr, V.C cl → E.loc w = l → V.ok E w →
      Tracks E V w (E.visit n file cl nodes w tr) (visitRef S2 n file cl nodes l tr)) ∧
    (∀ file cl nodes w l ts, V.C cl → E.loc w = l → V.ok E w →
      Tracks E V w (E.list n file cl nodes w ts) (visitListRef S2 n file cl nodes l ts)) := by
  intro n
  induction n with
  | zero =>
    refine ⟨fun _ _ _ w _ _ hl hw => hl ▸ E.tree_zero .. ▸ h.set hw.1 hw.2,
      fun _ _ _ w _ _ _ hl hw => hl ▸ E.visit_zero .. ▸ h.set hw.1 hw.2, fun _ _ _ w _ ts _ hl hw => ?_⟩
    subst hl
    cases ts with
    | nil => exact E.list_nil .. ▸ Tracks.same hw
    | cons t ts => exact E.list_zero .. ▸ h.set hw.1 hw.2
  | succ n ih =>
    obtain ⟨ihA, ihV, ihL⟩ := ih
    refine ⟨?_, ?_, ?_⟩
    · intro file cl t w l hC hl hw
      subst hl
      obtain ⟨nodes, trees⟩ := t
      rw [E.tree_succ]
      simp only [assocTreeRef]
      have h1 := h.set_then (l := { E.loc w with taken := [] }) hw.1 hw.2 (ihL file cl nodes _ _ trees hC)
      exact Tracks.trans (fun l => { l with taken := (E.loc w).taken }) h1 (h.set h1.1.1 h1.1.2)
    · intro file cl nodes w l tr hC hl hw
      subst hl
      obtain ⟨idx, kids⟩ := tr
      rw [E.visit_succ]
      simp only [visitRef]
      cases (E.loc w).err with
      | some e => exact Tracks.same hw
      | none =>
        simp only [← h.step_eq]
        have hsP := h.stepP file idx (nodes[idx]!) (E.loc w) hw.2
        generalize E.S.step file idx (nodes[idx]!) (E.loc w) = r at hsP ⊢
        obtain ⟨loc, _ | _ | g⟩ := r
        · exact h.set hw.1 hsP
        · exact h.set_then hw.1 hsP (ihL file cl nodes _ _ kids hC)
        · exact h.set_then hw.1 hsP (Tracks.enter_then ihA (h.inh g cl hC) id id fun _ => Tracks.same)
    · intro file cl nodes w l ts hC hl hw
      subst hl
      cases ts with
      | nil => exact E.list_nil .. ▸ Tracks.same hw
      | cons t ts =>
        rw [E.list_succ]
        simp only [visitListRef]
        have hV := ihV file cl nodes w _ t hC rfl hw
        exact Tracks.trans (fun l => visitListRef S2 n file cl nodes l ts) hV (ihL file cl nodes _ _ ts hC rfl hV.1)

theorem Lift.forced (n : Nat) (dir : String) (incs : List String) : ∀ (w : σ) (l : Local), ForcedOK E S2 V dir incs →
    E.loc w = l → V.ok E w → Tracks E V w (E.forced n dir incs w) (runForcedRef S2 n dir incs l) := by
  induction incs with
  | nil => exact fun w _ _ hl hw => hl ▸ E.forced_nil .. ▸ Tracks.same hw
  | cons inc rest ih =>
    intro w l hF hl hw
    subst hl
    have hF' : ForcedOK E S2 V dir rest := fun i hi => hF i (List.mem_cons_of_mem _ hi)
    rw [E.forced_cons]
    simp only [runForcedRef]
    cases (E.loc w).err with
    | some e => exact Tracks.same hw
    | none =>
      simp only [← h.find_eq]
      have hfP := h.findP (E.loc w).plat inc dir hw.2
      cases hf : E.S.findInc (E.loc w).plat inc dir with
      | mk found p2 =>
        rw [hf] at hfP
        cases found with
        | none => exact h.set_then hw.1 hfP (ih _ _ hF')
        | some f =>
          exact h.set_then hw.1 hfP
            (Tracks.enter_then (h.tree n).1 (hF inc (List.mem_cons_self ..) _ f p2 hw.2 hf)
              (E.forced n dir rest) (runForcedRef S2 n dir rest) fun w1 => ih w1 _ hF' rfl)

/-- one database entry, from any `Platform` object -/
theorem Lift.entry (n : Nat) (pname : String) (e : Entry) (w : σ)
    (hF : ForcedOK E S2 V (dirname e.file) e.includeFiles) (hE : EnterOK E S2 V e.file none) (hJ : V.J w) :
    V.J (E.entry n pname e w) ∧
    (V.clean (E.entry n pname e w) → V.clean w ∧ E.loc (E.entry n pname e w) = runEntryRef S2 n pname e (E.loc w)) := by
  rw [E.entry_eq]
  simp only [runEntryRef]
  generalize hl : E.loc w = l0
  obtain ⟨a, ws, er, pl, tk⟩ := l0
  cases er with
  | some er => exact ⟨hJ, fun hc => ⟨hc, hl⟩⟩
  | none =>
    simp only [← h.plat_eq]
    cases hp : E.S.mkPlat pname e with
    | error er => exact ⟨h.J_set _ _ hJ, fun hc => ⟨h.clean_set _ _ hc, E.loc_set _ _⟩⟩
    | ok plat =>
      simp only []
      have h1 := h.set_then (l := ⟨a, ws, none, plat, []⟩) hJ (h.mkP pname e plat hp)
        (h.forced n (dirname e.file) e.includeFiles _ _ hF)
      generalize E.forced n (dirname e.file) e.includeFiles (E.set w ⟨a, ws, none, plat, []⟩) = wf at h1 ⊢
      -- the second half is a function of the state after the forced includes
      have h2 := Tracks.trans (w2 := match (E.loc wf).err with
          | some _ => wf
          | none => afterEnter (E.enter wf e.file none) (E.tree n e.file))
        (fun l => match l.err with
          | some _ => l
          | none =>
            match S2.enterRef l e.file none with
            | (l1, none) => l1
            | (l1, some (cl, t)) => assocTreeRef S2 n e.file cl t l1) h1 (by
          cases (E.loc wf).err with
          | some e2 => exact Tracks.same h1.1
          | none => exact Tracks.enter_then (h.tree n).1 hE id id (fun _ => Tracks.same) rfl h1.1)
      exact ⟨h2.1.1, h2.2⟩

end Lift

/-- the engine with the cache against the cache-free engine under the same record: all that is asked is that `J` and `clean`
speak of cache and mixing log only, and how a file is entered -/
theorem Lift.cached (S : Sem) {J clean : XW → Prop} {C : LClass → Prop} (hJ : ∀ w l, J w → J { w with loc := l })
    (hc : ∀ w l, clean { w with loc := l } → clean w)
    (inh : ∀ g cl, C cl → EnterOK S.cached S { J := J, clean := clean, C := C } g (some cl)) :
    Lift S.cached S { J := J, clean := clean, C := C } :=
  ⟨hJ, hc, rfl, rfl, rfl, fun _ _ _ _ _ => trivial, fun _ _ _ _ => trivial, fun _ _ _ _ => trivial, inh⟩

end CbiVerif.Exclude
