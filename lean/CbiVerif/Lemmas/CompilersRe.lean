import CbiVerif.Model.CompilersRe
import CbiVerif.Lemmas.RegexScan
/-! the shipped nvcc architecture pattern: what one match attempt computes, for every text -/
namespace CbiVerif.Compilers
open CbiVerif.Regex

/-- the parse of `(?:sm_|compute_)(\d+)` -/
def nvRe : Re :=
  .seq (.alt (lit "sm_".toList) (lit "compute_".toList)) (.group 1 (.plus (.cls false [.digit])))

theorem classTest_digit : classTest false [.digit] = Char.isDigit := by
  funext c
  simp [classTest, CItem.test]

/-- the digits group after the prefix, with the final continuation of a match attempt at a longer text `s` -/
theorem digits_fin (adv : Bool) (s r : List Char) (caps : Caps) (hl : r.length < s.length) :
    matchRe (.group 1 (.plus (.cls false [.digit]))) r caps (fin adv s) =
      (digitsAt r).map fun (dr : List Char × List Char) => (dr.2, (1, dr.1) :: caps) := by
  cases r with
  | nil => rfl
  | cons c t =>
    by_cases hc : c.isDigit = true
    · -- what is left after the digits is shorter than `s`, so the final continuation accepts it
      have hne : (t.dropWhile Char.isDigit).length ≠ s.length := by
        have := (List.dropWhile_suffix (l := t) Char.isDigit).length_le
        simp only [List.length_cons] at hl
        omega
      rw [group_plus_cls 1 false [.digit] c t caps (fin adv s)
        (t.dropWhile Char.isDigit, (1, c :: t.takeWhile Char.isDigit) :: caps) (by rw [classTest_digit]; exact hc)
        (by rw [classTest_digit]; simp [fin, hne])]
      simp [digitsAt, hc, List.takeWhile, List.dropWhile]
    · rw [group_plus_cls_none _ _ _ _ _ _ _ (by simpa [classTest_digit] using hc)]
      simp [digitsAt, hc]

theorem matchAt_nv (adv : Bool) (s : List Char) :
    matchAt nvRe adv s = (nvAt s).map fun (dr : List Char × List Char) => (dr.2, [(1, dr.1)]) := by
  simp only [matchAt, nvRe, matchRe_seq, matchRe_alt, matchRe_lit, nvAt]
  -- after a non-empty literal prefix the digits group sees a text shorter than `s` (`digits_fin`)
  cases h1 : stripPrefix "sm_".toList s with
  | none =>
    cases h2 : stripPrefix "compute_".toList s with
    | none => rfl
    | some r2 => simp only [digits_fin adv s r2 [] (stripPrefix_lt _ _ _ (by decide) h2), Option.none_or]
  | some r1 =>
    simp only [digits_fin adv s r1 [] (stripPrefix_lt _ _ _ (by decide) h1)]
    cases digitsAt r1 with
    | some x => rfl
    | none =>
      cases h2 : stripPrefix "compute_".toList s with
      | none => rfl
      | some r2 => simp only [digits_fin adv s r2 [] (stripPrefix_lt _ _ _ (by decide) h2), Option.map_none, Option.none_or]

end CbiVerif.Compilers
