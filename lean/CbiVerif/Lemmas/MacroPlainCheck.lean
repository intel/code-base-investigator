import CbiVerif.Lemmas.MacroObjSpec
/-! decidable checks of `PlainTok` / `PlainTbl` (hypotheses of `E_eq_prosser`) -/
namespace CbiVerif.MX
open CbiVerif.PP

def plainTokb (t : Tok) : Bool :=
  t.expandable && t.text != "##" && (t.kind != .ident || t.text != "defined")

theorem plainTok_of_check (t : Tok) (h : plainTokb t = true) : PlainTok t := by
  simp only [plainTokb, Bool.and_eq_true, Bool.or_eq_true, bne_iff_ne, ne_eq] at h
  refine ⟨h.1.1, h.1.2, ?_⟩
  intro hk
  rcases h.2 with h2 | h2
  · exact absurd hk h2
  · exact h2

def plainTblb (tbl : Table) : Bool := tblOKb tbl && tbl.all fun e => e.2.replacement.all plainTokb

theorem plainTbl_of_check (tbl : Table) (h : plainTblb tbl = true) : PlainTbl tbl := by
  simp only [plainTblb, Bool.and_eq_true] at h
  refine ⟨tblOK_of_check tbl h.1, ?_⟩
  intro n m hm t ht
  exact plainTok_of_check t (List.all_eq_true.mp (all_get h.2 hm) t ht)

end CbiVerif.MX
