import Std.Data.String.ToNat
import CbiVerif.Lemmas.WarnMsg
import CbiVerif.Lemmas.ListFacts
/-! Injectivity of template rendering: placeholders that are each followed by a separating literal character which the
placeholder's text cannot contain are determined by the rendered text. -/
namespace CbiVerif.WarnMsg
open CbiVerif.Warn CbiVerif.WarnTmpl

theorem split_unique (a a' x x' : List Char) (c : Char) (ha : c ∉ a) (ha' : c ∉ a')
    (hx : x.head? = some c) (hx' : x'.head? = some c) (h : a ++ x = a' ++ x') : a = a' ∧ x = x' := by
  -- `a` is what precedes the first `c` of `a ++ x`
  have cut : ∀ a x : List Char, c ∉ a → x.head? = some c → (a ++ x).takeWhile (· != c) = a := fun a x ha hx =>
    ListFacts.takeWhile_append_stop _ a x (List.all_eq_true.mpr fun y hy => bne_iff_ne.mpr fun hyc => ha (hyc ▸ hy))
      fun d hd => by rw [hx] at hd; cases hd; exact bne_self_eq_false c
  have haa : a = a' := by rw [← cut a x ha hx, h, cut a' x' ha' hx']
  subst haa
  exact ⟨rfl, List.append_cancel_left h⟩

theorem natL_digits (n : Nat) (c : Char) (h : c ∈ natL n) : c.isDigit = true := by
  have : natL n = Nat.toDigits 10 n := by
    show (Nat.repr n).toList = _
    exact Nat.toList_repr
  rw [this] at h
  exact Nat.isDigit_of_mem_toDigits (by decide) (by decide) h

theorem natL_inj (a b : Nat) (h : natL a = natL b) : a = b :=
  Nat.repr_injective (String.toList_injective h)

theorem sepFor_sound (a : Arg) (w : Nat) (c : Char) (e : Event) (h : sepFor a w c = true) (hp : fieldsPlain e = true) :
    c ∉ padLeft w (argText e a) := by
  simp only [fieldsPlain, Bool.and_eq_true, Bool.not_eq_true', List.contains_eq_mem, decide_eq_false_iff_not] at hp
  have num : ∀ n, c.isDigit = false → c ∉ natL n := fun n hc hm => by rw [natL_digits n c hm] at hc; cases hc
  cases a <;> simp only [sepFor, Bool.and_eq_true, beq_iff_eq, Bool.false_eq_true, Bool.not_eq_true'] at h
  all_goals obtain ⟨rfl, hc⟩ := h; rw [padLeft_zero]
  · exact hc ▸ hp.1
  · exact num _ hc
  · exact num _ hc
  · exact hc ▸ hp.2

/-- what `sepsOK` asks of a placeholder: whatever follows it in the message begins with a character that ends its text -/
theorem sepsOK_arg {a : Arg} {w : Nat} {t : List Piece} (h : sepsOK (.arg a w :: t) = true) :
    ∃ c, sepFor a w c = true ∧ (∀ (e : Event) (R : List Char), (renderT t e ++ R).head? = some c) ∧ sepsOK t = true := by
  match t, h with
  | .lit s :: t, h =>
    rw [sepsOK, Bool.and_eq_true] at h
    match hsl : s.toList, h.1 with
    | c :: _, hc => exact ⟨c, hc, fun e R => by simp [renderT_cons, pieceText, hsl], h.2⟩
  | [], h | .arg _ _ :: _, h => exact absurd h Bool.false_ne_true

/-- **generic injectivity**: a template accepted by `sepsOK`, rendered for two events with plain fields and
followed by arbitrary rests, determines the text of each of its placeholders and the rest -/
theorem sep_inj : (t : List Piece) → (e e' : Event) → sepsOK t = true → fieldsPlain e = true → fieldsPlain e' = true →
    (R R' : List Char) → renderT t e ++ R = renderT t e' ++ R' →
    (∀ a w, Piece.arg a w ∈ t → padLeft w (argText e a) = padLeft w (argText e' a)) ∧ R = R' := by
  intro t e e' hs hp hp'
  induction t with
  | nil => exact fun R R' h => ⟨nofun, h⟩
  | cons p t ih =>
    intro R R' h
    rw [renderT_cons, renderT_cons, List.append_assoc, List.append_assoc] at h
    cases p with
    | lit s =>
      obtain ⟨h1, h2⟩ := ih hs R R' (List.append_cancel_left h)
      exact ⟨fun a w hm => h1 a w (by simpa using hm), h2⟩
    | arg a w =>
      -- the separator `c` is not in the placeholder's text, so the text ends at the first `c`
      obtain ⟨c, hc, hd, hrest⟩ := sepsOK_arg hs
      obtain ⟨h1, h2⟩ := split_unique _ _ _ _ c (sepFor_sound a w c e hc hp) (sepFor_sound a w c e' hc hp') (hd e R) (hd e' R') h
      obtain ⟨h3, h4⟩ := ih hrest R R' h2
      exact ⟨fun a2 w2 hm => (List.mem_cons.mp hm).elim (fun hm => by cases hm; exact h1) (h3 a2 w2), h4⟩

/-- once the kind is fixed the `{kind}` placeholder is text -/
theorem renderT_instKind (t : List Piece) (e : Event) : renderT (instKind e.kind t) e = renderT t e := by
  fun_induction instKind e.kind t with
  | case1 => rfl
  | case2 t ih => simp [renderT_cons, ih]
  | case3 p t _ ih => rw [renderT_cons, renderT_cons, ih]

theorem sepsOK_sepPrefix (t : List Piece) : sepsOK (t.take (sepPrefixLen t)) = true := by
  fun_induction sepPrefixLen t with
  | case1 s t ih => rwa [Nat.add_comm, List.take_succ_cons, sepsOK]
  | case2 a w s t c _ hs hc ih =>
    rw [Nat.add_comm, List.take_succ_cons, List.take_succ_cons, sepsOK, hs]
    simpa [hc] using ih
  | _ => rfl

/-- two events of the same kind with plain fields and the same message agree on every placeholder among the pieces
`sepPrefixLen` counts (the template up to the literal after its last placeholder whose end is recognisable, its `{kind}`
made a literal), and on the rendering of the rest; `t` only names that template (callers pass `_ rfl`) -/
theorem inj_prefix (e1 e2 : Event) (hk : e1.kind = e2.kind) (hp1 : fieldsPlain e1 = true) (hp2 : fieldsPlain e2 = true)
    (h : renderX e1 = renderX e2) (t : List Piece) (ht : t = instKind e1.kind (template e1.kind)) :
    (∀ a w, Piece.arg a w ∈ t.take (sepPrefixLen t) → padLeft w (argText e1 a) = padLeft w (argText e2 a)) ∧
    renderT (t.drop (sepPrefixLen t)) e1 = renderT (t.drop (sepPrefixLen t)) e2 := by
  rw [renderX, renderX, ← renderT_instKind _ e1, ← renderT_instKind _ e2, ← hk, ← ht,
    ← List.take_append_drop (sepPrefixLen t) t, renderT_append, renderT_append] at h
  exact sep_inj _ e1 e2 (sepsOK_sepPrefix t) hp1 hp2 _ _ h

/-- hence on the text of a placeholder of the separated prefix, and of one that is all that follows the prefix -/
theorem inj_arg (e1 e2 : Event) (hk : e1.kind = e2.kind) (hp1 : fieldsPlain e1 = true) (hp2 : fieldsPlain e2 = true)
    (h : renderX e1 = renderX e2) (t : List Piece) (ht : t = instKind e1.kind (template e1.kind)) (a : Arg)
    (ha : Piece.arg a 0 ∈ t.take (sepPrefixLen t) ∨ t.drop (sepPrefixLen t) = [.arg a 0]) : argText e1 a = argText e2 a := by
  obtain ⟨h1, h2⟩ := inj_prefix e1 e2 hk hp1 hp2 h t ht
  rcases ha with ha | ha
  · simpa using h1 a 0 ha
  · simpa [ha, renderT] using h2

end CbiVerif.WarnMsg
