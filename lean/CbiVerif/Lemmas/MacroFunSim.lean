import CbiVerif.Lemmas.MacroStrSim
/-! # C03, function-like fragment: the stream-stack machine `MX.step` computes the recursive reference `Ref`

On a table whose function-like macros have no `#` / `##` / variadic parameter (`FunTbl`), `MacroFunction.replace` is the plain
parameter substitution `substRef`, so inside `fitsb` the reference `RefS` of `Lemmas/MacroStrRef.lean` is `Ref`, `fitsbS` holds and
`costS` is `cost` (`ref_plain`); the simulation is that of `Lemmas/MacroStrSim.lean`. -/
namespace CbiVerif.MX
open CbiVerif.PP

/-! ## `MacroFunction.replace` without `#` / `##` / variadic folding is plain substitution -/
theorem paramIdx_lt (ps : List String) (tok : Tok) (i : Nat) (h : paramIdx ps tok = some i) : i < ps.length := by
  unfold paramIdx at h
  split at h
  · exact (List.findIdx?_eq_some_iff_getElem.mp h).1
  · cases h

theorem substArgs_plain (ps : List String) (ia : List Arg) (eargs : List (List Tok)) : ∀ (repl : List Tok),
    (∀ tok ∈ repl, ∀ i, paramIdx ps tok = some i → ∃ a, ia[i]? = some a ∧ a.exp = some (eargs.getD i [])) →
    substArgs ps ia (repl.map (·, false)) = .ok (substRef ps eargs repl) := by
  intro repl
  induction repl with
  | nil => intro _; rfl
  | cons tok r ih =>
    intro h
    have ihr := ih (fun t ht => h t (List.mem_cons_of_mem _ ht))
    simp only [List.map_cons, substArgs, substRef, Bool.false_eq_true, if_false]
    cases hp : paramIdx ps tok with
    | none => simp only [ihr]
    | some i =>
      obtain ⟨a, hia, hexp⟩ := h tok (List.mem_cons_self ..) i hp
      simp only [hia, hexp, ihr]

theorem replaceFn_plain (m : Macro) (ps : List String) (ha : m.args = some ps) (hv : m.variadic = false) (hs : m.hasStrcat = false)
    (ia : List Arg) (eargs : List (List Tok))
    (h : ∀ tok ∈ m.replacement, ∀ i, paramIdx ps tok = some i → ∃ a, ia[i]? = some a ∧ a.exp = some (eargs.getD i [])) :
    replaceFn m ia = .ok (substRef ps eargs m.replacement) := by
  simp only [replaceFn, ha, hv, hs, Option.getD_some, Bool.false_eq_true, if_false, substArgs_plain ps ia eargs m.replacement h]

/-- `MacroFunction.replace` for a function-like, non-variadic macro with `#` / `##` -/
theorem replaceFn_strcat (m : Macro) (params : List String) (ia : List Arg) (hargs : m.args = some params)
    (hvar : m.variadic = false) (hcat : m.hasStrcat = true) :
    replaceFn m ia =
      match strcatPass params ia (m.replacement.length + 1) m.replacement [] false false false with
      | .error e => .error e
      | .ok res => substArgs params ia res := by
  unfold replaceFn
  simp only [hargs, Option.getD_some, hvar, Bool.false_eq_true, if_false, hcat, if_true]
  rfl

theorem argList_get (m : Macro) (ex : List Tok → List Tok) : ∀ (todo : List (List Tok)) (i0 i : Nat), i < todo.length →
    needs m (i0 + i) = true → ∃ a, (argList m ex todo i0)[i]? = some a ∧ a.exp = some ((todo.map ex).getD i []) := by
  intro todo
  induction todo with
  | nil => intro i0 i hi; cases hi
  | cons x r ih =>
    intro i0 i hi hn
    cases i with
    | zero => exact ⟨_, rfl, by rw [if_pos (show needs m i0 = true from hn)]; rfl⟩
    | succ j =>
      rw [← Nat.add_assoc, Nat.add_right_comm] at hn
      exact ih (i0 + 1) j (Nat.lt_of_succ_lt_succ hi) hn

theorem replRef_plain (tbl : Table) (hT : FunTbl tbl) (n : String) (m : Macro) (ps : List String) (hm : tbl.get n = some m)
    (ha : m.args = some ps) (ex : List Tok → List Tok) (args : List (List Tok)) (har : ps.length ≤ args.length) :
    replRef m ex args = some (substRef ps (args.map ex) m.replacement) := by
  obtain ⟨hv, hs⟩ := hT.plain n m ps hm ha
  rw [replRef, replaceFn_plain m ps ha hv hs _ (args.map ex) fun tok ht i hi =>
    argList_get m ex args 0 i (Nat.lt_of_lt_of_le (paramIdx_lt ps tok i hi) har)
      (by rw [Nat.zero_add]; exact hT.marked n m ps hm ha tok ht i hi)]

theorem scan_plain (tbl : Table) (hT : FunTbl tbl) (ex exS : NoExp → List Tok → List Tok) (fit fitS : NoExp → List Tok → Bool)
    (cost costS : NoExp → List Tok → Nat)
    (h : ∀ D ts, fit D ts = true → fitS D ts = true ∧ exS D ts = ex D ts ∧ costS D ts = cost D ts) :
    ∀ (n : Nat) (D : NoExp) (ts : List Tok), scanFit tbl ex fit n D ts = true →
      scanFitS tbl exS fitS n D ts = true ∧ scanRefS tbl exS n D ts = scanRef tbl ex n D ts ∧
      scanCostS tbl exS costS n D ts = scanCost tbl ex cost n D ts := by
  intro n
  induction n with
  | zero => intro D ts hf; exact ⟨hf, rfl, rfl⟩
  | succ n ih =>
    intro D ts hf
    cases ts with
    | nil => exact ⟨rfl, rfl, rfl⟩
    | cons a as =>
      rw [scanFit_cons, Bool.and_eq_true] at hf
      rw [scanFitS_cons, scanRefS_cons, scanCostS_cons, scanRef_cons, scanCost_cons, hf.1, Bool.true_and]
      replace hf := hf.2
      cases hh : headOf tbl D a as with
      | stay a' ok =>
        simp only [hh, Head.elim, Bool.and_eq_true] at hf ⊢
        obtain ⟨i1, i2, i3⟩ := ih D as hf.2
        exact ⟨⟨hf.1, i1⟩, by rw [i2], by rw [i3]⟩
      | obj m =>
        simp only [hh, Head.elim, Bool.and_eq_true] at hf ⊢
        obtain ⟨b1, b2, b3⟩ := h _ _ hf.1
        obtain ⟨i1, i2, i3⟩ := ih D as hf.2
        exact ⟨⟨b1, i1⟩, by rw [b2, i2], by rw [b3, i3]⟩
      | call m ps args rest =>
        obtain ⟨_, _, hm, hargs, _⟩ := headOf_call hh
        simp only [hh, Head.elim, Bool.and_eq_true, decide_eq_true_eq, List.all_eq_true] at hf ⊢
        obtain ⟨⟨⟨harity, hfa⟩, hfb⟩, hfr⟩ := hf
        have hmap : args.map (exS (none :: D)) = args.map (ex (none :: D)) :=
          List.map_congr_left fun x hx => (h _ _ (hfa x hx)).2.1
        have hsum : (args.map fun x => costS (none :: D) x + 2) = args.map fun x => cost (none :: D) x + 2 :=
          List.map_congr_left fun x hx => by rw [(h _ _ (hfa x hx)).2.2]
        obtain ⟨b1, b2, b3⟩ := h _ _ hfb
        obtain ⟨i1, i2, i3⟩ := ih D rest hfr
        simp only [replRef_plain tbl hT _ m ps hm hargs _ args harity, hmap, hsum, Bool.and_eq_true, List.all_eq_true,
          Bool.not_eq_true']
        exact ⟨⟨⟨⟨(hT.plain _ m ps hm hargs).1, fun x hx => (h _ _ (hfa x hx)).1⟩, b1⟩, i1⟩, by rw [b2, i2], by rw [b3, i3]⟩

theorem Ref_nil (tbl : Table) (d : Nat) (D : NoExp) : Ref tbl d D [] = [] := by cases d <;> rfl

theorem ref_plain (tbl : Table) (hT : FunTbl tbl) : ∀ (d : Nat) (D : NoExp) (ts : List Tok), fitsb tbl d D ts = true →
    fitsbS tbl d D ts = true ∧ RefS tbl d D ts = Ref tbl d D ts ∧ costS tbl d D ts = cost tbl d D ts := by
  intro d
  induction d with
  | zero => intro D ts hf; exact ⟨hf, rfl, rfl⟩
  | succ d ih => intro D ts hf; exact scan_plain tbl hT _ _ _ _ _ _ ih ts.length D ts hf

/-- top level: `expandWith` returns the reference whenever limit and fuel are large enough -/
theorem expandWith_fun (c : Cfg) (tbl : Table) (hadv : c.adv = true) (hT : FunTbl tbl) (d : Nat) (ts : List Tok)
    (hfit : fitsb tbl d [] ts = true) (hlim : d + 1 < c.lim) (fuel : Nat) (hfuel : cost tbl d [] ts + 2 ≤ fuel) :
    expandWith c tbl fuel ts = .ok (Ref tbl d [] ts) := by
  obtain ⟨hS, hR, hC⟩ := ref_plain tbl hT d [] ts hfit
  rw [← hR]
  exact expandWith_str c tbl hadv d ts hS hlim fuel (by rw [hC]; exact hfuel)

end CbiVerif.MX
