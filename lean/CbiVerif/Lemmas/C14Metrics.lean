import CbiVerif.Lemmas.C14Compose
import CbiVerif.Lemmas.OrderSort
import CbiVerif.Model.C14Metrics
/-!
Helper lemmas for `Props/C14Metrics.lean` (law-free floats): the metric lines of a dict; readings of `setmapOfTexts`.
-/
namespace CbiVerif.C14C
open CbiVerif.SM CbiVerif.C06C

theorem metricsOf_congr {F : Type} (ops : CbiVerif.Order.FloatOps F) {sm sm' : Setmap} (h : Metrics.Sim 1 id sm sm') :
    metricsOf ops sm = metricsOf ops sm' :=
  Order.metricLines_congr ops h (Order.mem_names_congr h)

theorem readTexts_eq {β : Type} (g : Setmap → β) (files : List SrcFile) (plats : List Plat) :
    readTexts g files plats = (analyse files plats).toOption.map fun fs => g (getSetmap fs) := by
  unfold readTexts setmapOfTexts; cases analyse files plats <;> rfl

theorem setmapOfTexts_closed (files : List SrcFile) (plats : List Plat) (h : Good files plats) :
    setmapOfTexts files plats = .ok (getSetmap (closed files plats)) :=
  setmapOfTexts_ok.mpr ⟨_, analyse_closed files plats h, rfl⟩

theorem readTexts_good {β : Type} (g : Setmap → β) (files : List SrcFile) (plats : List Plat) (h : Good files plats) :
    readTexts g files plats = some (g (getSetmap (closed files plats))) := by
  rw [readTexts_eq, analyse_closed files plats h]; rfl

theorem readTexts_bad {β : Type} (g : Setmap → β) (files : List SrcFile) (plats : List Plat) (h : ¬ Good files plats) :
    readTexts g files plats = none := by
  rw [readTexts_eq, analyse_not_good h]; rfl

theorem readTexts_of_ok {β : Type} {files : List SrcFile} {plats : List Plat} {sm : Setmap}
    (h : setmapOfTexts files plats = .ok sm) (g : Setmap → β) : readTexts g files plats = some (g sm) :=
  (readTexts_eq g files plats).trans (map_getSetmap_of_ok h g)

end CbiVerif.C14C
