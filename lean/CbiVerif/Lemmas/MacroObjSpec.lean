import CbiVerif.Lemmas.MacroObj
import CbiVerif.Spec.Prosser
/-! # C03 against the specification `Spec.Prosser.expand` (Prosser's hide-set algorithm): the translation

A model token as a token of the specification (`toSpec`), a table of the model as a table of the specification (`SpecOf`; `specTable`
for object-like tables), the hide set against the disabled names (`Agree`), and one iteration of the specification's loop at a token
that is copied or at the name of an object-like macro.  `PlainTok` / `PlainTbl` are the object-like fragment of the comparison
(any identifier, `None` included: finding D35 is repaired); the comparison itself is `expands_spec` (`Lemmas/MacroFunSpecB.lean`). -/
namespace CbiVerif.MX
open CbiVerif.PP
open CbiVerif.Spec.Prosser (T K Macros Unspec)

def kindOf (k : TKind) : K :=
  match k with
  | .ident => .id | .num => .num | .str => .str | .chr => .chr | _ => .punct

/-- a model token as a specification token with hide set `hs` -/
def toSpec (hs : List String) (t : Tok) : T := ⟨kindOf t.kind, spellTok t, t.pw, hs⟩

/-- the specification's table for a table of object-like macros -/
def specTable (tbl : Table) : Macros :=
  tbl.map fun e => ⟨e.1, none, false, e.2.replacement.map (toSpec [])⟩

/-- tokens the comparison is about: not yet painted, no `##` operator, not the identifier `defined` -/
def PlainTok (t : Tok) : Prop :=
  t.expandable = true ∧ t.text ≠ "##" ∧ (t.kind = .ident → t.text ≠ "defined")

structure PlainTbl (tbl : Table) : Prop where
  ok : TblOK tbl
  plain : ∀ n m, tbl.get n = some m → ∀ t ∈ m.replacement, PlainTok t

theorem spellTok_ident (t : Tok) (h : t.kind = .ident) : spellTok t = t.text := by simp [spellTok, h]

theorem spellTok_paint (t : Tok) : spellTok (paint t) = spellTok t := rfl

theorem kindOf_id (k : TKind) : (kindOf k == K.id) = (k == TKind.ident) := by cases k <;> decide

theorem specTable_get (tbl : Table) (n : String) :
    Macros.get (specTable tbl) n = (tbl.get n).map fun m => ⟨n, none, false, m.replacement.map (toSpec [])⟩ := by
  unfold Macros.get specTable Table.get
  rw [List.find?_map, Option.map_map]
  -- the entry found has the key `n`
  exact Option.map_congr fun e he => by
    have hp := List.find?_some he
    have hn : e.1 = n := beq_iff_eq.mp hp
    subst hn; rfl

/-- the specification's form of a macro of the model (none of them variadic) -/
def specMacro (n : String) (m : Macro) : Spec.Prosser.Macro := ⟨n, m.args, false, m.replacement.map (toSpec [])⟩

/-- `ms` holds, under every name, the translation of what `tbl` holds under it: all the comparison needs to know of `ms` -/
def SpecOf (ms : Macros) (tbl : Table) : Prop := ∀ n, Macros.get ms n = (tbl.get n).map (specMacro n)

theorem specOf_specTable (tbl : Table) (hobj : ∀ n m, tbl.get n = some m → m.args = none) : SpecOf (specTable tbl) tbl := by
  intro n
  rw [specTable_get]
  cases h : tbl.get n with
  | none => rfl
  | some m => rw [Option.map_some, Option.map_some, specMacro, hobj n m h]

/-- an object-like body without `##` is substituted by itself -/
theorem subst_plain (ex : List T → Except Unspec (List T)) (args : List (List T)) :
    ∀ (body : List T) (fuel : Nat) (os : List T) (pm : Bool), (∀ t ∈ body, Spec.Prosser.isP t "##" = false) → body.length < fuel →
      Spec.Prosser.subst ex none args fuel body os pm = .ok (os ++ body) := by
  intro body
  induction body with
  | nil =>
    intro fuel os pm _ hl
    obtain ⟨f, rfl⟩ : ∃ f, fuel = f + 1 := ⟨fuel - 1, by simp at hl; omega⟩
    simp [Spec.Prosser.subst]
  | cons t body ih =>
    intro fuel os pm hp hl
    obtain ⟨f, rfl⟩ : ∃ f, fuel = f + 1 := ⟨fuel - 1, by simp at hl; omega⟩
    have ht := hp t (by simp)
    have := ih f (os ++ [t]) false (fun x hx => hp x (by simp [hx])) (by simp at hl; omega)
    simp [Spec.Prosser.subst, ht, Spec.Prosser.pidx, this]

theorem union_nil_left (h : List String) : Spec.Prosser.union [] h = h := by
  simp [Spec.Prosser.union]

def Agree (D : NoExp) (hs : List String) : Prop := ∀ x, D.contains (some x) = hs.contains x

theorem union_contains (hs : List String) (n x : String) :
    (Spec.Prosser.union hs [n]).contains x = (hs.contains x || x == n) := by
  rw [Bool.eq_iff_iff]
  by_cases hx : x ∈ hs <;> simp [Spec.Prosser.union, hx]

theorem agree_step (D : NoExp) (hs : List String) (n : String) (h : Agree D hs) : Agree (some n :: D) (Spec.Prosser.union hs [n]) := by
  intro x
  rw [List.contains_cons, union_contains, h x, Bool.or_comm]
  simp

/-! one iteration of the specification's loop -/
theorem step_copy (ms : Macros) (f : Nat) (top : Bool) (t : T) (ts out : List T)
    (h1 : Spec.Prosser.isDefinedTok t = false) (h2 : (t.kind != K.id || t.hs.contains t.text) = true) :
    Spec.Prosser.expand ms (f + 1) top (t :: ts) out = Spec.Prosser.expand ms f top ts (out ++ [t]) := by
  simp only [Spec.Prosser.expand, h1, Bool.false_eq_true, if_false, h2, if_true]

theorem step_nomacro (ms : Macros) (f : Nat) (top : Bool) (t : T) (ts out : List T)
    (h1 : Spec.Prosser.isDefinedTok t = false) (h2 : (t.kind != K.id || t.hs.contains t.text) = false)
    (h3 : ms.get t.text = none) :
    Spec.Prosser.expand ms (f + 1) top (t :: ts) out = Spec.Prosser.expand ms f top ts (out ++ [t]) := by
  simp only [Spec.Prosser.expand, h1, Bool.false_eq_true, if_false, h2, h3]

theorem step_macro (ms : Macros) (f : Nat) (top : Bool) (t : T) (ts out : List T) (m : Spec.Prosser.Macro)
    (h1 : Spec.Prosser.isDefinedTok t = false) (h2 : (t.kind != K.id || t.hs.contains t.text) = false)
    (h3 : ms.get t.text = some m) (h4 : m.params = none) (h5 : ∀ x ∈ m.body, Spec.Prosser.isP x "##" = false) :
    Spec.Prosser.expand ms (f + 1) top (t :: ts) out
      = Spec.Prosser.expand ms f top
          (Spec.Prosser.setWs (m.body.map fun x => { x with hs := Spec.Prosser.union x.hs (Spec.Prosser.union t.hs [t.text]) }) t.ws ++ ts) out := by
  simp only [Spec.Prosser.expand, h1, Bool.false_eq_true, if_false, h2, h3, h4]
  rw [subst_plain _ _ m.body _ [] false h5 (Nat.lt_succ_self _)]
  simp

end CbiVerif.MX
