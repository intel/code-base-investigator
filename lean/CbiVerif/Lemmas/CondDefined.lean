import CbiVerif.Props.C02Text
import CbiVerif.Lemmas.MacroDefinedList
import CbiVerif.Lemmas.ExpandPP
import CbiVerif.Model.CondFragment
/-! # from the token-list reference `MX.ED` to the parse tree

`Lemmas/MacroDefinedList.lean` gives the expansion of a whole token list (object-like table, `defined` anywhere) as `MX.ED`.
Here: when the token list has the kinds and texts of the SOURCE tokens of a parse tree `a` (`renderSrc a`: `defined X`,
`defined ( X )`, identifiers, constants, operators, parentheses) and every identifier leaf is inside the fragment
(`CondFrag.leafOK`), then `ED` of it has the kinds and texts of `render env (substA s a)` — the token list the evaluator
theorem `C02.main_partial` is about — with `env` = "is a name of the table" and the macro names replaced by the trees their
expansions spell.  By induction on the tree, with an arbitrary continuation `rest` of the token list.

(Imports `Props/C02Text.lean` for `render_eq_renderSrc`.) -/
namespace CbiVerif.CondFrag
open CbiVerif.PP CbiVerif.Climb CbiVerif.CExpr CbiVerif.EvalBridge CbiVerif.MX

abbrev K (l : List Tok) : List (TKind × String) := l.map key

theorem K_cons {ts : List Tok} {k : TKind × String} {ks : List (TKind × String)} (h : K ts = k :: ks) :
    ∃ t ts', ts = t :: ts' ∧ key t = k ∧ K ts' = ks := List.map_eq_cons_iff.mp h
theorem K_append {ts : List Tok} {A B : List (TKind × String)} (h : K ts = A ++ B) :
    ∃ t1 t2, ts = t1 ++ t2 ∧ K t1 = A ∧ K t2 = B := List.map_eq_append_iff.mp h
theorem K_nil {ts : List Tok} (h : K ts = []) : ts = [] := List.map_eq_nil_iff.mp h

/-- `ts` is a piece of a token list the expander passes over on its own, whatever follows: `ED` gives tokens with the kinds and
    texts of `R` for it, and `defOK` and (under `p`) `noMacro` do not depend on it -/
def Seg (tbl : Table) (d : Nat) (p : Prop) (ts R : List Tok) : Prop :=
  ∀ rest, K (ED tbl (d + 1) (ts ++ rest)) = K R ++ K (ED tbl (d + 1) rest) ∧ defOK (ts ++ rest) = defOK rest ∧
    (p → noMacro tbl (ts ++ rest) = noMacro tbl rest)

theorem Seg.append {tbl : Table} {d : Nat} {p : Prop} {A B Ra Rb : List Tok}
    (hA : Seg tbl d p A Ra) (hB : Seg tbl d p B Rb) : Seg tbl d p (A ++ B) (Ra ++ Rb) := by
  intro rest
  obtain ⟨a1, a2, a3⟩ := hA (B ++ rest)
  obtain ⟨b1, b2, b3⟩ := hB rest
  rw [List.append_assoc]
  exact ⟨by rw [a1, b1]; simp only [K, List.map_append, List.append_assoc], by rw [a2, b2], fun h => by rw [a3 h, b3 h]⟩

/-- a segment that is the whole list -/
theorem Seg.whole {tbl : Table} {d : Nat} {p : Prop} {ts R : List Tok} (h : Seg tbl d p ts R) :
    K (ED tbl (d + 1) ts) = K R ∧ defOK ts = true ∧ (p → noMacro tbl ts = true) := by
  have h := h []
  simp only [List.append_nil, ED_nil, K, List.map_nil] at h
  exact h

theorem Seg.res {tbl : Table} {d : Nat} {p : Prop} {ts R R' : List Tok} (h : Seg tbl d p ts R) (hR : K R' = K R) :
    Seg tbl d p ts R' := fun rest => by rw [hR]; exact h rest

/-- a token that is not the operator `defined` is a segment, with its own expansion -/
theorem Seg.single (tbl : Table) (d : Nat) (p : Prop) (t : Tok) (hd : isDef t = false)
    (hp : p → (t.kind == .ident && t.expandable && (tbl.get t.text).isSome) = false) :
    Seg tbl d p [t] (E tbl (d + 1) [] [t]) := fun rest =>
  ⟨by rw [List.singleton_append, ED_other tbl _ t rest hd]; simp only [K, List.map_append], defOK_other t rest hd,
    fun h => by rw [List.singleton_append, noMacro_other tbl t rest hd, hp h]; rfl⟩

/-- a token that is no identifier is copied -/
theorem Seg.nonident (tbl : Table) (d : Nat) (p : Prop) (t t' : Tok) (hk : key t = key t') (hni : t'.kind ≠ .ident) :
    Seg tbl d p [t] [t'] := by
  have hni' : t.kind ≠ .ident := by rw [show t.kind = t'.kind from congrArg Prod.fst hk]; exact hni
  refine (Seg.single tbl d p t (by simp [isDef, hni']) fun _ => by simp [hni']).res ?_
  rw [E_nonident tbl d [] t [] hni', E_nil]
  simp only [K, List.map_cons, List.map_nil, hk]

/-- `Seg` for every token list with the kinds and texts of `A` and all tokens expandable: what is known of the lexed text
    (its `prev_white` flags depend on the layout) -/
def KSeg (tbl : Table) (d : Nat) (p : Prop) (A R : List Tok) : Prop :=
  ∀ ts, K ts = K A → (∀ t ∈ ts, t.expandable = true) → Seg tbl d p ts R

theorem KSeg.append {tbl : Table} {d : Nat} {p : Prop} {A B Ra Rb : List Tok}
    (hA : KSeg tbl d p A Ra) (hB : KSeg tbl d p B Rb) : KSeg tbl d p (A ++ B) (Ra ++ Rb) := by
  intro ts hK he
  obtain ⟨t1, t2, rfl, h1, h2⟩ := K_append (hK.trans (List.map_append ..))
  exact (hA t1 h1 fun t ht => he t (List.mem_append_left _ ht)).append (hB t2 h2 fun t ht => he t (List.mem_append_right _ ht))

theorem KSeg.nonident (tbl : Table) (d : Nat) (p : Prop) (t' : Tok) (hni : t'.kind ≠ .ident) : KSeg tbl d p [t'] [t'] := by
  intro ts hK _
  obtain ⟨t, ts', rfl, hk, hK'⟩ := K_cons hK
  rw [K_nil hK']
  exact Seg.nonident tbl d p t t' hk hni

theorem tok_eta (t : Tok) (n : String) (hk : key t = (.ident, n)) (he : t.expandable = true) : t = ⟨.ident, n, t.pw, true⟩ := by
  obtain ⟨k, x, p, e⟩ := t
  simp only [key, Prod.mk.injEq] at hk
  simp only at he
  simp [hk.1, hk.2, he]

theorem expandsTo_spec {tbl : Table} {n : String} {b : CExpr.Ast} (h : expandsTo tbl n b = true) (t : Tok)
    (hk : key t = (.ident, n)) (he : t.expandable = true) : ∃ r, cbiExpand tbl [t] = .ok r ∧ K r = K (renderSrc b) := by
  rw [tok_eta t n hk he]
  have hpw := List.all_eq_true.mp h t.pw (by cases t.pw <;> simp)
  split at hpw
  · exact ⟨_, ‹_›, beq_iff_eq.mp hpw⟩
  · cases hpw

theorem leafOK_cases {tbl : Table} {s : Sub} {n : String} (h : leafOK tbl s n = true) :
    n ≠ "defined" ∧ (tbl.get n = none ∧ s.get n = none ∨
      ∃ m b, tbl.get n = some m ∧ s.get n = some b ∧ noDefined b = true ∧ expandsTo tbl n b = true) := by
  simp only [leafOK, Bool.and_eq_true, bne_iff_ne, ne_eq] at h
  refine ⟨h.1, ?_⟩
  replace h := h.2
  split at h
  · exact .inl ⟨‹_›, ‹_›⟩
  · exact .inr ⟨_, _, ‹_›, ‹_›, Bool.and_eq_true_iff.mp h⟩
  · cases h

/-- an identifier leaf inside the fragment: copied when it is no macro name, otherwise replaced by tokens with the kinds and
    texts of the tree the substitution gives -/
theorem KSeg.ident_leaf (tbl : Table) (s : Sub) (n : String) (p : Prop) (hp : p → tbl.get n = none)
    (hobj : (TblOK tbl ∧ tbl.length + 2 < CbiVerif.Gen.maxLevel) ∨ tbl.get n = none)
    (hn : leafOK tbl s n = true) :
    KSeg tbl tbl.length p [identTok n] (render (envOf tbl) (substA s (.ident n))) := by
  intro ts hK he
  obtain ⟨t, ts', rfl, hk, hK'⟩ := K_cons hK
  rw [K_nil hK']
  replace he := he t (List.mem_cons_self ..)
  have htk : t.kind = .ident := congrArg Prod.fst hk
  have htt : t.text = n := congrArg Prod.snd hk
  obtain ⟨hnd, hcase⟩ := leafOK_cases hn
  refine (Seg.single tbl _ p t (by simp [isDef, htt, hnd]) fun h => by simp [htt, hp h]).res ?_
  obtain ⟨hm, hs⟩ | ⟨m, b, hm, hs, hnb, hx⟩ := hcase
  · rw [E_noMacro tbl _ [] t [] htk (by simp [he]) (htt ▸ hm), E_nil]
    simp only [substA, hs, Option.getD_none, render, toClimb, Climb.Ast.render, K, List.map_cons, List.map_nil]
    rw [hk]
  · obtain ⟨hT, hsz⟩ := hobj.resolve_right (by simp [hm])
    -- the model expander on the one-token list: by hypothesis, and by the object-like theorem
    obtain ⟨r, hr, hKr⟩ := expandsTo_spec hx t hk he
    rw [cbiExpand_obj tbl hT [t] (fun x hxm => by rw [List.mem_singleton.mp hxm, htt]; exact hnd) hsz] at hr
    cases hr
    simp only [substA, hs, Option.getD_some]
    rw [CbiVerif.C02.render_eq_renderSrc (envOf tbl) b hnb]
    exact hKr.symm

theorem isDefined_eq (tbl : Table) (n : String) : isDefined tbl n = (if envOf tbl n then "1" else "0") := by
  cases h : (tbl.get n).isSome <;> simp [isDefined, envOf, h]

theorem ident_ne_lparen (n : String) (h : CbiVerif.LexRT.identOK n.toList = true) : n ≠ "(" := by
  rintro rfl; exact absurd h (by decide)

/-- `defined X` / `defined ( X )` are segments: the number read from the table -/
theorem Seg.defd_plain (tbl : Table) (d : Nat) (p : Prop) (t x : Tok) (hd : isDef t = true) (hx : x.kind = .ident)
    (hxp : x.text ≠ "(") : Seg tbl d p [t, x] [defTok tbl x] := fun rest =>
  ⟨congrArg K (ED_plain tbl _ t x rest hd hxp), (defOK_plain t x rest hd hxp).trans (by simp [hx]),
    fun _ => noMacro_plain tbl t x rest hd hxp⟩

theorem Seg.defd_paren (tbl : Table) (d : Nat) (p : Prop) (t lp i rp : Tok) (hd : isDef t = true) (hlp : lp.text = "(")
    (hi : i.kind = .ident) (hrp : rp.text = ")") : Seg tbl d p [t, lp, i, rp] [defTok tbl i] := fun rest =>
  ⟨congrArg K (ED_paren tbl _ t lp i rp rest hd hlp), (defOK_paren t lp i rp rest hd hlp).trans (by simp [hi, hrp]),
    fun _ => noMacro_paren tbl t lp i rp rest hd hlp⟩

theorem key_defTok (tbl : Table) (x : Tok) : key (defTok tbl x) = key (definedTok (envOf tbl) x.text) := by
  simp only [defTok, MX.numTok, key, definedTok, EvalBridge.numTok, isDefined_eq]

theorem KSeg.defd (tbl : Table) (d : Nat) (p : Prop) (s : Sub) (n : String) (q : Bool) (hid : CbiVerif.LexRT.identOK n.toList = true) :
    KSeg tbl d p (renderSrc (.defd n q)) (render (envOf tbl) (substA s (.defd n q))) := by
  intro ts hK _
  cases q with
  | true =>
    obtain ⟨t1, r1, rfl, hk1, hK1⟩ := K_cons hK
    obtain ⟨t2, r2, rfl, hk2, hK2⟩ := K_cons hK1
    obtain ⟨t3, r3, rfl, hk3, hK3⟩ := K_cons hK2
    obtain ⟨t4, r4, rfl, hk4, hK4⟩ := K_cons hK3
    cases K_nil hK4
    simp only [key, identTok, lpTok, rpTok, Prod.mk.injEq] at hk1 hk2 hk3 hk4
    exact (Seg.defd_paren tbl d p t1 t2 t3 t4 ((isDef_iff t1).mpr hk1) hk2.2 hk3.1 hk4.2).res
      (congrArg (· :: []) (hk3.2 ▸ (key_defTok tbl t3).symm))
  | false =>
    obtain ⟨t1, r1, rfl, hk1, hK1⟩ := K_cons hK
    obtain ⟨t2, r2, rfl, hk2, hK2⟩ := K_cons hK1
    cases K_nil hK2
    simp only [key, identTok, Prod.mk.injEq] at hk1 hk2
    exact (Seg.defd_plain tbl d p t1 t2 ((isDef_iff t1).mpr hk1) hk2.1 (hk2.2 ▸ ident_ne_lparen n hid)).res
      (congrArg (· :: []) (hk2.2 ▸ (key_defTok tbl t2).symm))

/-- **the expansion of the source tokens of a parse tree** whose identifier leaves are among the names `N`: the segments of
    its parts, one after the other -/
theorem ED_tree (tbl : Table) (s : Sub) (N : List String)
    (hobj : (TblOK tbl ∧ tbl.length + 2 < CbiVerif.Gen.maxLevel) ∨ ∀ n ∈ N, tbl.get n = none)
    (hleaf : ∀ n ∈ N, leafOK tbl s n = true) (a : CExpr.Ast) (hl : CbiVerif.LexSource.lexable a = true)
    (hN : ∀ n ∈ identLeaves a, n ∈ N) :
    KSeg tbl tbl.length (∀ n ∈ N, tbl.get n = none) (renderSrc a) (render (envOf tbl) (substA s a)) := by
  have op (t : Tok) (hni : t.kind ≠ .ident) := KSeg.nonident tbl tbl.length (∀ n ∈ N, tbl.get n = none) t hni
  -- in every case `renderSrc` and `render ∘ substA` unfold to the same concatenation, of the sources and of the results
  induction a with
  | lit l => exact op _ (by simp [EvalBridge.numTok])
  | chr c => exact op _ (by simp [chrTok])
  | ident n =>
    have hn : n ∈ N := hN n (by simp [identLeaves])
    exact KSeg.ident_leaf tbl s n _ (fun h => h n hn) (hobj.imp_right fun h => h n hn) (hleaf n hn)
  | defd n q => exact KSeg.defd tbl _ _ s n q (by simpa [CbiVerif.LexSource.lexable] using hl)
  | paren a ih =>
    have hl' : CbiVerif.LexSource.lexable a = true := by simpa [CbiVerif.LexSource.lexable] using hl
    exact (op lpTok (by simp [lpTok])).append ((ih hl' hN).append (op rpTok (by simp [rpTok])))
  | un o a ih =>
    have hl' : CbiVerif.LexSource.lexable a = true := by simpa [CbiVerif.LexSource.lexable] using hl
    exact (op (opTok o.sym) (by simp [opTok])).append (ih hl' hN)
  | bin o l r ihl ihr =>
    have hl' : CbiVerif.LexSource.lexable l = true ∧ CbiVerif.LexSource.lexable r = true := by
      simpa [CbiVerif.LexSource.lexable] using hl
    exact (ihl hl'.1 fun n hn => hN n (by simp [identLeaves, hn])).append ((op (opTok o.sym) (by simp [opTok])).append
      (ihr hl'.2 fun n hn => hN n (by simp [identLeaves, hn])))
  | tern c t e ihc iht ihe =>
    have hl' : (CbiVerif.LexSource.lexable c = true ∧ CbiVerif.LexSource.lexable t = true) ∧ CbiVerif.LexSource.lexable e = true := by
      simpa [CbiVerif.LexSource.lexable] using hl
    exact (ihc hl'.1.1 fun n hn => hN n (by simp [identLeaves, hn])).append ((op (opTok "?") (by simp [opTok])).append
      ((iht hl'.1.2 fun n hn => hN n (by simp [identLeaves, hn])).append ((op (opTok ":") (by simp [opTok])).append
        (ihe hl'.2 fun n hn => hN n (by simp [identLeaves, hn])))))

theorem identLeaf_mem_renderSrc (a : CExpr.Ast) (n : String) (h : n ∈ identLeaves a) : identTok n ∈ renderSrc a := by
  induction a with
  | lit l => simp [identLeaves] at h
  | chr c => simp [identLeaves] at h
  | ident m => simp only [identLeaves, List.mem_singleton] at h; subst h; simp [renderSrc]
  | defd m p => simp [identLeaves] at h
  | paren a ih => simp only [identLeaves] at h; simp [renderSrc, ih h]
  | un op a ih => simp only [identLeaves] at h; simp [renderSrc, ih h]
  | bin op l r ihl ihr =>
    simp only [identLeaves, List.mem_append] at h
    rcases h with h | h
    · simp [renderSrc, ihl h]
    · simp [renderSrc, ihr h]
  | tern c t e ihc iht ihe =>
    simp only [identLeaves, List.mem_append] at h
    rcases h with h | h | h
    · simp [renderSrc, ihc h]
    · simp [renderSrc, iht h]
    · simp [renderSrc, ihe h]

theorem substA_nil (a : CExpr.Ast) : substA [] a = a := by
  induction a with
  | lit l => rfl
  | chr c => rfl
  | ident n => simp [substA, Sub.get]
  | defd n p => rfl
  | paren a ih => simp [substA, ih]
  | un op a ih => simp [substA, ih]
  | bin op l r ihl ihr => simp [substA, ihl, ihr]
  | tern c t e ihc iht ihe => simp [substA, ihc, iht, ihe]

end CbiVerif.CondFrag
