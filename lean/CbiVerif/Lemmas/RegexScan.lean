import CbiVerif.Lemmas.Regex
/-! The leftmost search and the `findall` scan with positions made explicit; literal patterns, greedy repetition of a
    one-character class. -/
namespace CbiVerif.Regex

/-- `search` answers the first position whose match attempt succeeds (`adv` constrains position 0 only) -/
theorem search_spec (r : Re) : ∀ (s : List Char) (off : Nat) (adv : Bool),
    match search r off s adv with
    | some (st, sAt, rest, caps) => ∃ k, st = off + k ∧ k ≤ s.length ∧ sAt = s.drop k ∧
        matchAt r (adv && k == 0) sAt = some (rest, caps) ∧ ∀ j, j < k → matchAt r (adv && j == 0) (s.drop j) = none
    | none => ∀ j, j ≤ s.length → matchAt r (adv && j == 0) (s.drop j) = none := by
  intro s off adv
  fun_induction search r off s adv with
  | case1 off s adv s' caps hm => exact ⟨0, rfl, Nat.zero_le _, rfl, by simpa using hm, nofun⟩
  | case2 off adv hm => intro j hj; obtain rfl := Nat.le_zero.mp hj; simpa using hm
  | case3 off adv a t hm ih =>
    -- position `j + 1` of `a :: t` is position `j` of `t`, where `adv` no longer counts
    have shift : ∀ k, (∀ j, j < k → matchAt r (false && j == 0) (t.drop j) = none) →
        ∀ j, j < k + 1 → matchAt r (adv && j == 0) ((a :: t).drop j) = none :=
      fun k h => Nat.forall_lt_succ_left.mpr ⟨by simpa using hm, fun j hj => by simpa using h j hj⟩
    revert ih
    cases search r (off + 1) t false with
    | none => exact fun ih j hj => shift (t.length + 1) (fun j hj => ih j (Nat.le_of_lt_succ hj)) j (Nat.lt_succ_of_le hj)
    | some y =>
      rintro ⟨k, h1, h2, h3, h4, h5⟩
      exact ⟨k + 1, by omega, Nat.succ_le_succ h2, h3, by simpa using h4, shift k h5⟩

theorem scan_succ (r : Re) (fuel off : Nat) (s : List Char) (adv : Bool) :
    (scan r (fuel + 1) off s adv = [] ∧ ∀ j, j ≤ s.length → matchAt r (adv && j == 0) (s.drop j) = none) ∨
    ∃ k w caps, k + w.length ≤ s.length ∧ s.drop k = w ++ s.drop (k + w.length) ∧
      matchAt r (adv && k == 0) (s.drop k) = some (s.drop (k + w.length), caps) ∧
      (∀ j, j < k → matchAt r (adv && j == 0) (s.drop j) = none) ∧
      scan r (fuel + 1) off s adv =
        ⟨off + k, w, caps⟩ :: scan r fuel (off + k + w.length) (s.drop (k + w.length)) (w.length == 0) := by
  have hsp := search_spec r s off adv
  simp only [scan]
  cases hs : search r off s adv with
  | none => rw [hs] at hsp; exact Or.inl ⟨rfl, hsp⟩
  | some y =>
    obtain ⟨st, sAt, rest, caps⟩ := y
    rw [hs] at hsp
    obtain ⟨k, rfl, hk, rfl, hm, hnone⟩ := hsp
    obtain ⟨w, hw⟩ := (matchAt_sound r _ _ _ _ hm).1.suffix
    have hrest : s.drop (k + w.length) = rest := by rw [← List.drop_drop, hw, List.drop_left]
    have hlen : (s.drop k).length - rest.length = w.length := by rw [hw]; simp
    have hkl : k + w.length ≤ s.length := by
      have := congrArg List.length hw
      simp only [List.length_drop, List.length_append] at this
      omega
    refine Or.inr ⟨k, w, caps, hkl, hrest ▸ hw, hrest ▸ hm, hnone, ?_⟩
    simp only [hlen, hrest]
    rw [hw, List.take_left]

theorem scan_sound (r : Re) : ∀ (fuel off : Nat) (s : List Char) (adv : Bool) (h : Hit), h ∈ scan r fuel off s adv →
    ∃ k, h.start = off + k ∧ k + h.text.length ≤ s.length ∧ h.text = (s.drop k).take h.text.length ∧
      Match r (s.drop k) (s.drop (k + h.text.length)) := by
  intro fuel
  induction fuel with
  | zero => intro off s adv h hh; cases hh
  | succ fuel ih =>
    intro off s adv h hh
    rcases scan_succ r fuel off s adv with ⟨h0, _⟩ | ⟨k, w, caps, hkl, hw, hm, _, hsc⟩
    · rw [h0] at hh; cases hh
    · rw [hsc] at hh
      rcases List.mem_cons.mp hh with rfl | htl
      · exact ⟨k, rfl, hkl, by rw [hw, List.take_left], (matchAt_sound r _ _ _ _ hm).1⟩
      · obtain ⟨k', h1, h2, h3, h4⟩ := ih _ _ _ _ htl
        simp only [List.length_drop, List.drop_drop, Nat.add_assoc] at h2 h3 h4
        exact ⟨k + (w.length + k'), by omega, by omega, h3, by simpa only [Nat.add_assoc] using h4⟩

theorem scan_ordered (r : Re) : ∀ (fuel off : Nat) (s : List Char) (adv : Bool),
    List.Pairwise (fun a b : Hit => a.start + a.text.length ≤ b.start) (scan r fuel off s adv) := by
  intro fuel
  induction fuel with
  | zero => intro off s adv; exact .nil
  | succ fuel ih =>
    intro off s adv
    rcases scan_succ r fuel off s adv with ⟨h0, _⟩ | ⟨k, w, caps, _, _, _, _, hsc⟩
    · rw [h0]; exact .nil
    · rw [hsc]
      refine .cons (fun b hb => ?_) (ih _ _ _)
      obtain ⟨k', h1, _⟩ := scan_sound r _ _ _ _ b hb
      simp only [h1]
      omega

/-- the fuel `2 * length + (0 or 1)` of the scan suffices for the rest of the text behind a hit of length `n` at
    offset `k`: a non-empty hit shortens the text; an empty one is followed by a round that must advance, and
    is itself not at the very start of a round that had to advance (`hk0`) -/
theorem scan_fuel_rest {len k n fuel : Nat} {adv : Bool} (hkl : k + n ≤ len) (hf : 2 * len + (if adv then 0 else 1) < fuel + 1)
    (hk0 : n = 0 → adv = true → 0 < k) : 2 * (len - (k + n)) + (if (n == 0) = true then 0 else 1) < fuel := by
  by_cases hn : n = 0
  · simp only [hn, beq_self_eq_true, if_true]
    cases adv with
    | false => simp only [Bool.false_eq_true, if_false] at hf; omega
    | true => have := hk0 hn rfl; simp only [if_true] at hf; omega
  · simp only [beq_iff_eq, hn, if_false]
    cases adv <;> simp only [if_true, Bool.false_eq_true, if_false] at hf <;> omega

/-- the scan reports every match start that is not strictly inside an earlier hit -/
theorem scan_complete (r : Re) : ∀ (fuel off : Nat) (s : List Char) (adv : Bool),
    2 * s.length + (if adv then 0 else 1) < fuel →
    ∀ j, j ≤ s.length → Reportable r (adv && j == 0) (s.drop j) →
      ∃ h ∈ scan r fuel off s adv, h.start = off + j ∨ (h.start < off + j ∧ off + j < h.start + h.text.length) := by
  intro fuel
  induction fuel with
  | zero => intro off s adv hf; omega
  | succ fuel ih =>
    intro off s adv hf j hj hr
    rcases scan_succ r fuel off s adv with ⟨_, hnone⟩ | ⟨k, w, caps, hkl, hw, hm, hnone, hsc⟩
    · exact absurd hr ((matchAt_eq_none_iff ..).mp (hnone j hj))
    · rw [hsc]
      rcases Nat.lt_trichotomy j k with hjk | rfl | hjk
      · exact absurd hr ((matchAt_eq_none_iff ..).mp (hnone j hjk))
      · exact ⟨_, List.mem_cons_self, Or.inl rfl⟩
      · by_cases hin : j < k + w.length
        · exact ⟨_, List.mem_cons_self, Or.inr ⟨by simp only; omega, by simp only; omega⟩⟩
        · -- the position is position `i` of what the rest of the scan sees
          obtain ⟨i, rfl⟩ : ∃ i, j = k + w.length + i := ⟨j - (k + w.length), by omega⟩
          have hk0 : w.length = 0 → adv = true → 0 < k := by
            intro hw0 ha
            apply Nat.pos_of_ne_zero
            rintro rfl
            apply (matchAt_sound r _ _ _ _ hm).2 (by simp [ha])
            rw [hw0]
          have hfuel : 2 * (s.drop (k + w.length)).length + (if (w.length == 0) = true then 0 else 1) < fuel := by
            rw [List.length_drop]
            exact scan_fuel_rest hkl hf hk0
          have hrep : Reportable r ((w.length == 0) && (i == 0)) ((s.drop (k + w.length)).drop i) := by
            rw [List.drop_drop]
            obtain ⟨s', hm', _⟩ := hr
            exact ⟨s', hm', fun hc => by simp only [Bool.and_eq_true, beq_iff_eq] at hc; omega⟩
          obtain ⟨h, hh, hcov⟩ := ih (off + k + w.length) _ _ hfuel i (by rw [List.length_drop]; omega) hrep
          exact ⟨h, List.mem_cons_of_mem _ hh, by simpa only [Nat.add_assoc] using hcov⟩

/-! ## the scan depends on the expression only through its match attempts -/

theorem search_congr (r : Re) (at_ : List Char → Option (List Char × Caps))
    (h : ∀ adv s, matchAt r adv s = at_ s) : ∀ (s : List Char) (off : Nat) (adv : Bool),
    search r off s adv = searchWith at_ off s := by
  intro s
  induction s with
  | nil => intro off adv; simp only [search, searchWith, h]
  | cons a t ih => intro off adv; simp only [search, searchWith, h, ih]

theorem scan_congr (r : Re) (at_ : List Char → Option (List Char × Caps))
    (h : ∀ adv s, matchAt r adv s = at_ s) : ∀ (fuel off : Nat) (s : List Char) (adv : Bool),
    scan r fuel off s adv = scanWith at_ fuel off s := by
  intro fuel
  induction fuel with
  | zero => intro off s adv; rfl
  | succ fuel ih =>
    intro off s adv
    simp only [scan, scanWith, search_congr r at_ h]
    cases searchWith at_ off s with
    | none => rfl
    | some y => simp only [ih]

theorem specSearch_eq (r : Re) (hf : inFragment r = true) : ∀ (s : List Char) (off : Nat) (adv : Bool),
    search r off s adv = specSearch r off s adv := by
  intro s
  induction s with
  | nil => intro off adv; simp only [search, specSearch, matchAt_eq_firstMatch r hf]; rfl
  | cons a t ih => intro off adv; simp only [search, specSearch, matchAt_eq_firstMatch r hf, ih]; rfl

theorem specScan_eq (r : Re) (hf : inFragment r = true) : ∀ (fuel off : Nat) (s : List Char) (adv : Bool),
    scan r fuel off s adv = specScan r fuel off s adv := by
  intro fuel
  induction fuel with
  | zero => intro off s adv; rfl
  | succ fuel ih =>
    intro off s adv
    simp only [scan, specScan, specSearch_eq r hf]
    cases specSearch r off s adv with
    | none => rfl
    | some y => simp only [ih]

/-! ## literal patterns -/

theorem stripPrefix_eq : ∀ (p s rest : List Char), stripPrefix p s = some rest → s = p ++ rest := by
  intro p s rest h
  fun_induction stripPrefix p s with
  | case1 s => cases h; rfl
  | case2 => cases h
  | case3 a p c cs hc ih => rw [eq_of_beq hc, ih h]; rfl
  | case4 => cases h

theorem stripPrefix_lt (p s rest : List Char) (hp : p ≠ []) (hs : stripPrefix p s = some rest) : rest.length < s.length := by
  have := List.length_pos_iff.mpr hp
  rw [stripPrefix_eq p s rest hs, List.length_append]
  omega

theorem stripPrefix_append : ∀ (p x : List Char), stripPrefix p (p ++ x) = some x
  | [], _ => rfl
  | a :: p, x => by simp only [List.cons_append, stripPrefix, beq_self_eq_true, if_true, stripPrefix_append p x]

theorem matchRe_lit {R : Type} : ∀ (p s : List Char) (caps : Caps) (k : Cont R),
    matchRe (lit p) s caps k = (match stripPrefix p s with | some rest => k rest caps | none => none) := by
  intro p
  induction p with
  | nil => intro s caps k; rfl
  | cons a p ih =>
    intro s caps k
    have step : matchRe (.seq (.chr a) (lit p)) s caps k = matchRe (lit (a :: p)) s caps k := by
      cases p with
      | nil => cases s <;> simp only [lit, List.map, seqOf, matchRe]
      | cons b p => rfl
    rw [← step]
    cases s with
    | nil => rfl
    | cons c cs =>
      simp only [matchRe, stripPrefix, ih]
      split <;> rfl

theorem matchAt_lit (p : List Char) (hp : p ≠ []) (adv : Bool) (s : List Char) :
    matchAt (lit p) adv s = (stripPrefix p s).map fun rest => (rest, []) := by
  simp only [matchAt, matchRe_lit]
  cases hs : stripPrefix p s with
  | none => rfl
  | some rest =>
    simp [fin, Nat.ne_of_lt (stripPrefix_lt p s rest hp hs)]

/-! ## greedy repetition of a one-character class -/

theorem starLoop_cls {R : Type} (neg : Bool) (items : List CItem) : ∀ (n : Nat) (s : List Char) (caps : Caps) (k : Cont R) (x : R),
    s.length ≤ n → k (s.dropWhile (classTest neg items)) caps = some x →
    starLoop (fun s0 c0 k0 => matchRe (.cls neg items) s0 c0 k0) n s caps k = some x := by
  intro n
  induction n with
  | zero =>
    intro s caps k x hl hk
    obtain rfl : s = [] := List.eq_nil_of_length_eq_zero (by omega)
    exact hk
  | succ n ih =>
    intro s caps k x hl hk
    cases s with
    | nil => exact hk
    | cons c t =>
      simp only [starLoop, matchRe_cls_cons]
      by_cases hc : classTest neg items c = true
      · simp only [List.dropWhile, hc] at hk
        simp [hc, ih t caps k x (by simpa using hl) hk]
      · simp only [List.dropWhile, hc] at hk
        simp [hc, hk]

theorem take_sub_dropWhile (p : Char → Bool) (s : List Char) : s.take (s.length - (s.dropWhile p).length) = s.takeWhile p := by
  have h := List.takeWhile_append_dropWhile (p := p) (l := s)
  have hl := congrArg List.length h
  rw [List.length_append] at hl
  rw [show s.length - (s.dropWhile p).length = (s.takeWhile p).length by omega]
  conv => lhs; arg 2; rw [← h]
  rw [List.take_left]

/-- `(C+)` for a character class `C` at a text that starts with a member: the group takes the whole run
    (greedy) as soon as the continuation accepts that -/
theorem group_plus_cls {R : Type} (i : Nat) (neg : Bool) (items : List CItem) (c : Char) (t : List Char) (caps : Caps)
    (k : Cont R) (x : R) (hc : classTest neg items c = true)
    (hk : k (t.dropWhile (classTest neg items)) ((i, c :: t.takeWhile (classTest neg items)) :: caps) = some x) :
    matchRe (.group i (.plus (.cls neg items))) (c :: t) caps k = some x := by
  simp only [matchRe_group, matchRe_plus, matchRe_cls_cons, hc, if_true]
  apply starLoop_cls _ _ _ _ _ _ _ (Nat.le_refl _)
  have h := take_sub_dropWhile (classTest neg items) (c :: t)
  simp only [List.dropWhile, List.takeWhile, hc] at h
  rw [h]
  exact hk

theorem group_plus_cls_none {R : Type} (i : Nat) (neg : Bool) (items : List CItem) (c : Char) (t : List Char) (caps : Caps)
    (k : Cont R) (hc : classTest neg items c = false) :
    matchRe (.group i (.plus (.cls neg items))) (c :: t) caps k = none := by
  simp only [matchRe_group, matchRe_plus, matchRe_cls_cons, hc]; rfl

end CbiVerif.Regex
