import CbiVerif.Lemmas.Warn
import CbiVerif.Model.WarnMsg
/-! Lemmas for the C18 message layer.  Templates: a block of the characters and placeholders of a template
(`syms`) is found, rendered, in the message; hence what a message contains and how it begins, from decidable facts about its
template (`contains_block`, `starts_block`).  The search in segments:
`segs` cuts the message at the characters foreign to the pattern, the search succeeds iff it does in a segment, and
the segments without a field depend on the kind of the event only. -/
namespace CbiVerif.WarnMsg
open CbiVerif.Warn CbiVerif.WarnTmpl

/-! ## templates -/
theorem renderT_append (a b : List Piece) (e : Event) : renderT (a ++ b) e = renderT a e ++ renderT b e :=
  List.flatMap_append

theorem renderT_cons (p : Piece) (t : List Piece) (e : Event) : renderT (p :: t) e = pieceText e p ++ renderT t e :=
  List.flatMap_cons

-- with these `simp [renderT]` renders a small template: the `hp` of `contains_block` / `starts_block`
@[simp] theorem padLeft_zero (l : List Char) : padLeft 0 l = l := by simp [padLeft]

attribute [simp] pieceText argText

theorem contains_self (p : List Char) : containsSub p p = true :=
  containsSub_iff.mpr List.infix_rfl

/-- a template with its literals spelt out: characters and placeholders -/
def syms (t : List Piece) : List (Char ⊕ Arg × Nat) :=
  t.flatMap fun
    | .lit s => s.toList.map .inl
    | .arg a w => [.inr (a, w)]

def symText (e : Event) : Char ⊕ Arg × Nat → List Char
  | .inl c => [c]
  | .inr (a, w) => padLeft w (argText e a)

theorem renderT_eq_syms (t : List Piece) (e : Event) : renderT t e = (syms t).flatMap (symText e) := by
  rw [renderT, syms, List.flatMap_assoc]
  congr 1
  funext pc
  cases pc with
  | lit s => simp [pieceText, List.flatMap_map, symText]
  | arg a w => simp [pieceText, symText]

/-- a block of whole pieces (decided without spelling the literals out) -/
theorem syms_infix {q t : List Piece} (h : q <:+: t) : syms q <:+: syms t := by
  obtain ⟨a, b, rfl⟩ := h
  simp only [syms, List.flatMap_append]
  exact List.infix_append _ _ _

/-- a text that is itself the rendering of a template `q` (the caller's choice) occurs in the message when the characters
and placeholders of `q` occur as a block in those of `t`; `starts_block` is the same at the beginning of the message -/
theorem contains_block (q : List Piece) {t : List Piece} (e : Event) {p : List Char} (hp : renderT q e = p)
    (h : syms q <:+: syms t) : containsSub (renderT t e) p = true := by
  obtain ⟨a, b, hab⟩ := h
  rw [containsSub_iff, ← hp, renderT_eq_syms, renderT_eq_syms t, ← hab, List.flatMap_append, List.flatMap_append]
  exact List.infix_append _ _ _

theorem starts_block (q : List Piece) {t : List Piece} (e : Event) {p : List Char} (hp : renderT q e = p)
    (h : syms q <+: syms t) : p.isPrefixOf (renderT t e) = true := by
  obtain ⟨b, hb⟩ := h
  rw [List.isPrefixOf_iff_prefix, ← hp, renderT_eq_syms, renderT_eq_syms t, ← hb, List.flatMap_append]
  exact List.prefix_append _ _

/-- a message the meta-warning `"."` counts: some literal of the template has a character other than newline -/
def hasVisibleLit : List Piece → Bool
  | [] => false
  | .lit s :: t => s.toList.any (· != '\n') || hasVisibleLit t
  | _ :: t => hasVisibleLit t

theorem render_visible (t : List Piece) (e : Event) (h : hasVisibleLit t = true) : (renderT t e).any (· != '\n') = true := by
  induction t with
  | nil => simp [hasVisibleLit] at h
  | cons pc t ih =>
    rw [renderT_cons, List.any_append]
    simp only [Bool.or_eq_true]
    cases pc with
    | lit s =>
      simp only [hasVisibleLit, Bool.or_eq_true] at h
      exact h.imp_right ih
    | arg a w => exact Or.inr (ih h)

/-! ## the search in segments, cut at the characters the pattern does not contain -/
/-- an occurrence of `p` cannot cover a character that is not in `p` -/
theorem containsSub_split (p a b : List Char) (c : Char) (hc : c ∉ p) :
    containsSub (a ++ c :: b) p = (containsSub a p || containsSub b p) := by
  -- the part of `p` that an occurrence reaching `c` would lay over `c :: b` is empty
  have pre : ∀ l : List Char, l ⊆ p → l <+: c :: b → l = [] := fun l hl h =>
    (List.prefix_cons_iff.mp h).elim id fun ⟨t, ht, _⟩ => absurd (hl (ht ▸ List.mem_cons_self)) hc
  rw [Bool.eq_iff_iff, Bool.or_eq_true, containsSub_iff, containsSub_iff, containsSub_iff, List.infix_append_iff,
    List.infix_cons_iff]
  constructor
  · rintro (h | (h | h) | ⟨l₁, l₂, rfl, h1, h2⟩)
    · exact .inl h
    · exact .inl (pre p (fun _ h => h) h ▸ List.nil_infix)
    · exact .inr h
    · rw [pre l₂ (List.subset_append_right _ _) h2, List.append_nil]; exact .inl h1.isInfix
  · exact fun h => h.imp_right fun h => .inl (.inr h)

theorem flat_append (a b : List Atom) : flat (a ++ b) = flat a ++ flat b := List.flatMap_append

theorem flat_cons (x : Atom) (a : List Atom) : flat (x :: a) = x.text ++ flat a := List.flatMap_cons

theorem flat_map_c (l : List Char) : flat (l.map Atom.c) = l := by
  induction l with
  | nil => rfl
  | cons x xs ih => simp [flat_cons, Atom.text, ih]

theorem flat_pieceAtoms (e : Event) (pc : Piece) : flat (pieceAtoms e pc) = pieceText e pc := by
  unfold pieceAtoms
  split
  · exact flat_map_c _
  · exact flat_map_c _
  · exact List.append_nil _

theorem flat_atoms (t : List Piece) (e : Event) : flat (atoms t e) = renderT t e := by
  simp only [flat, atoms, renderT, List.flatMap_assoc]
  exact congrArg t.flatMap (funext (flat_pieceAtoms e))

set_option linter.unusedVariables false in -- `hp` is not needed: every text contains the empty pattern
theorem segs_spec (p : List Char) (hp : p ≠ []) (as : List Atom) (cur : List Char) (hf : Bool) :
    containsSub (cur ++ flat as) p = (segs p as cur hf).any (fun s => containsSub s.2 p) := by
  fun_induction segs p as cur hf with
  | case1 cur hf => simp [flat]
  | case2 txt t cur _ ih => rw [flat_cons, ← List.append_assoc]; exact ih
  | case3 ch t cur hf hin ih => rw [flat_cons, ← List.append_assoc]; exact ih
  | case4 ch t cur hf hin ih =>
    -- `ch` is foreign to `p`: the segment ends, and no occurrence of `p` covers `ch`
    rw [List.any_cons, ← ih, List.nil_append]
    exact containsSub_split p cur (flat t) ch (by simpa using hin)

theorem any_of_free (l : List (Bool × List Char)) (p : List Char)
    (h : (l.all fun s => !s.1 || !containsSub s.2 p) = true) :
    (l.any fun s => containsSub s.2 p) = (l.any fun s => !s.1 && containsSub s.2 p) := by
  rw [List.all_eq_true] at h
  rw [Bool.eq_iff_iff, List.any_eq_true, List.any_eq_true]
  -- a segment that contains `p` has no field
  exact ⟨fun ⟨s, hs, hc⟩ => ⟨s, hs, by simpa [hc] using h s hs⟩, fun ⟨s, hs, hc⟩ => ⟨s, hs, (Bool.and_eq_true .. ▸ hc).2⟩⟩

/-- under the side condition, whether the phrase occurs is decided by the fixed text of the message -/
theorem search_eq_literalHit (p : String) (hp : p.toList ≠ []) (e : Event) (h : fieldsFree p e = true) :
    containsSub (renderX e) p.toList = literalHit p e := by
  have h1 := segs_spec p.toList hp (atoms (template e.kind) e) [] false
  simp only [List.nil_append, flat_atoms] at h1
  unfold renderX
  rw [h1]
  exact any_of_free _ _ h

/-! ### the fixed text does not depend on the field values -/
inductive SameShape : List Atom → List Atom → Prop
  | nil : SameShape [] []
  | c (ch : Char) {a b : List Atom} : SameShape a b → SameShape (.c ch :: a) (.c ch :: b)
  | f (x y : List Char) {a b : List Atom} : SameShape a b → SameShape (.f x :: a) (.f y :: b)

theorem SameShape.refl_c (l : List Char) {a b : List Atom} (h : SameShape a b) :
    SameShape (l.map Atom.c ++ a) (l.map Atom.c ++ b) := by
  induction l with
  | nil => simpa using h
  | cons x xs ih => exact SameShape.c x ih

theorem sameShape_atoms (t : List Piece) (e e' : Event) (hk : e.kind = e'.kind) : SameShape (atoms t e) (atoms t e') := by
  induction t with
  | nil => exact SameShape.nil
  | cons pc t ih =>
    simp only [atoms, List.flatMap_cons] at ih ⊢
    match pc with
    | .lit s => exact SameShape.refl_c _ ih
    | .arg a w =>
      by_cases ha : a = .kind
      · subst ha; simp only [pieceAtoms, argText, hk]; exact SameShape.refl_c _ ih
      · rw [pieceAtoms.eq_3 e a w ha, pieceAtoms.eq_3 e' a w ha]; exact SameShape.f _ _ ih

theorem segs_lit_indep (p : List Char) {a b : List Atom} (h : SameShape a b) (cur cur' : List Char) (hf : Bool)
    (hc : hf = true ∨ cur = cur') :
    (segs p a cur hf).filter (fun s => !s.1) = (segs p b cur' hf).filter (fun s => !s.1) := by
  induction h generalizing cur cur' hf with
  | nil => rcases hc with hc | hc <;> simp [segs, hc]
  | c ch _ ih =>
    simp only [segs]
    by_cases hin : p.contains ch = true
    · simp only [hin, if_true]
      exact ih _ _ hf (hc.imp_right fun h => by rw [h])
    · simp only [hin, Bool.false_eq_true, if_false, List.filter_cons]
      rw [ih [] [] false (Or.inr rfl)]
      rcases hc with hc | hc <;> simp [hc]
  | f x y _ ih =>
    simp only [segs]
    exact ih _ _ true (Or.inl rfl)

theorem literalHit_kind (p : String) (e : Event) : literalHit p e = literalHitK p e.kind := by
  have h := segs_lit_indep p.toList (sameShape_atoms (template e.kind) e { kind := e.kind } rfl) [] [] false (Or.inr rfl)
  unfold literalHitK literalHit eventSegs
  rw [← List.any_filter, ← List.any_filter, h]

end CbiVerif.WarnMsg
