import CbiVerif.Model.Order
import CbiVerif.Lemmas.Setmap
import Mathlib.Data.String.Basic
import Mathlib.Data.List.Nodup

/-!
C14 helper lemmas: a sorted permutation is unique; `canon` is the strictly increasing listing of a set of names; a
dict with distinct keys is determined, up to insertion order, by `in` and `get`, so a dict filled by a fold of `SM.add`
depends on the multiset of what is added only (`C14C.foldl_add_perm`) and has positive rows when everything added is;
C14's `get_setmap` is such a fold (`Order.addTo` is `SM.add`).  The facts about `SM.Setmap` stand in the namespace `C14C`:
the text-level files (`Lemmas/C14Compose.lean` …) use them for the dict of C06.
-/
namespace CbiVerif.Order

/-! ## sorting: a sorted permutation is unique -/

theorem mergeSort_eq_of_perm {α : Type} {le : α → α → Bool} {l l' : List α}
    (trans : ∀ a b c : α, le a b → le b c → le a c)
    (total : ∀ a b : α, le a b || le b a)
    (antisymm : ∀ a ∈ l, ∀ b ∈ l, le a b → le b a → a = b)
    (h : l.Perm l') : l.mergeSort le = l'.mergeSort le := by
  apply List.Perm.eq_of_pairwise (le := fun a b => le a b = true)
  · intro a b ha hb hab hba
    exact antisymm a (List.mem_mergeSort.mp ha) b
      (h.symm.subset (List.mem_mergeSort.mp hb)) hab hba
  · exact List.pairwise_mergeSort trans total l
  · exact List.pairwise_mergeSort trans total l'
  · exact (List.mergeSort_perm l le).trans (h.trans (List.mergeSort_perm l' le).symm)

theorem mergeSort_key_eq_of_perm {α : Type} (key : α → String) {l l' : List α} (hnd : (l.map key).Nodup)
    (h : l.Perm l') :
    l.mergeSort (fun a b => decide (key a ≤ key b)) = l'.mergeSort (fun a b => decide (key a ≤ key b)) :=
  mergeSort_eq_of_perm
    (fun _ _ _ hab hbc => decide_eq_true (le_trans (of_decide_eq_true hab) (of_decide_eq_true hbc)))
    (fun a b => by rw [Bool.or_eq_true, decide_eq_true_eq, decide_eq_true_eq]; exact le_total _ _)
    (fun _ ha _ hb hab hba =>
      List.inj_on_of_nodup_map hnd ha hb (le_antisymm (of_decide_eq_true hab) (of_decide_eq_true hba))) h

/-! ## the first match in a permuted list -/

theorem find?_map_perm {α β : Type} {p : α → Bool} {g : α → β} {l l' : List α} (h : l.Perm l')
    (hc : ∀ a ∈ l, ∀ b ∈ l, p a → p b → g a = g b) : (l.find? p).map g = (l'.find? p).map g := by
  cases h1 : l.find? p with
  | none => rw [List.find?_eq_none.mpr fun a ha => List.find?_eq_none.mp h1 a (h.mem_iff.mpr ha)]
  | some a =>
    have ha := List.mem_of_find?_eq_some h1
    cases h2 : l'.find? p with
    | none => exact absurd (List.find?_some h1) (List.find?_eq_none.mp h2 a (h.subset ha))
    | some b =>
      exact congrArg some
        (hc a ha b (h.mem_iff.mpr (List.mem_of_find?_eq_some h2)) (List.find?_some h1) (List.find?_some h2))

/-! ## canonical representative of a set of names -/

theorem insertSet_cons (x y : String) (ys : List String) :
    insertSet x (y :: ys) = if x < y then x :: y :: ys else if x = y then y :: ys else y :: insertSet x ys := rfl

theorem mem_insertSet {x a : String} {l : List String} : a ∈ insertSet x l ↔ a = x ∨ a ∈ l := by
  fun_induction insertSet x l with
  | case1 => exact List.mem_singleton.trans (or_iff_left List.not_mem_nil).symm
  | case2 y ys h1 => exact List.mem_cons
  | case3 ys h1 => exact (or_iff_right_of_imp fun e => e ▸ List.mem_cons_self).symm
  | case4 y ys h1 h2 ih => rw [List.mem_cons, ih, List.mem_cons, or_left_comm]

theorem sorted_insertSet {x : String} {l : List String} (h : l.Pairwise (· < ·)) :
    (insertSet x l).Pairwise (· < ·) := by
  -- the branches of `insertSet`: `x` in front, `x` there already, `x` further down
  fun_induction insertSet x l with
  | case1 => exact List.pairwise_singleton _ _
  | case2 y ys hxy =>
    refine List.pairwise_cons.mpr ⟨fun z hz => ?_, h⟩
    rcases List.mem_cons.mp hz with rfl | hz
    · exact hxy
    · exact lt_trans hxy ((List.pairwise_cons.mp h).1 z hz)
  | case3 ys hxy => exact h
  | case4 y ys hxy h2 ih =>
    rw [List.pairwise_cons] at h
    refine List.pairwise_cons.mpr ⟨fun z hz => ?_, ih h.2⟩
    rcases mem_insertSet.mp hz with rfl | hz
    · exact lt_of_le_of_ne (not_lt.mp hxy) (Ne.symm h2)
    · exact h.1 z hz

theorem canon_cons (x : String) (xs : List String) : canon (x :: xs) = insertSet x (canon xs) := rfl

theorem mem_canon {a : String} {xs : List String} : a ∈ canon xs ↔ a ∈ xs := by
  induction xs with
  | nil => exact Iff.rfl
  | cons x xs ih => rw [canon_cons, mem_insertSet, ih]; exact List.mem_cons.symm

theorem sorted_canon (xs : List String) : (canon xs).Pairwise (· < ·) := by
  induction xs with
  | nil => exact List.Pairwise.nil
  | cons x xs ih => rw [canon_cons]; exact sorted_insertSet ih

theorem ssorted_ext {l l' : List String} (h : l.Pairwise (· < ·)) (h' : l'.Pairwise (· < ·))
    (hm : ∀ a, a ∈ l ↔ a ∈ l') : l = l' := by
  have hp : l.Perm l' := (List.perm_ext_iff_of_nodup h.nodup h'.nodup).mpr hm
  exact List.Perm.eq_of_pairwise (le := (· < ·))
    (fun a b _ _ hab hba => absurd hab (lt_asymm hba)) h h' hp

theorem canon_congr {a b : List String} (h : ∀ x, x ∈ a ↔ x ∈ b) : canon a = canon b :=
  ssorted_ext (sorted_canon a) (sorted_canon b) (fun x => by rw [mem_canon, mem_canon]; exact h x)

theorem canon_of_ssorted {l : List String} (h : l.Pairwise (· < ·)) : canon l = l :=
  ssorted_ext (sorted_canon l) h (fun _ => mem_canon)

theorem canon_idem (l : List String) : canon (canon l) = canon l :=
  canon_of_ssorted (sorted_canon l)

theorem canon_perm {a b : List String} (h : a.Perm b) : canon a = canon b :=
  canon_congr (fun _ => h.mem_iff)

theorem mem_assocOf {events : List Visit} {file : String} {node : Nat} {p : String} :
    p ∈ assocOf events file node ↔ (⟨p, file, node⟩ : Visit) ∈ events := by
  unfold assocOf
  rw [mem_canon, List.mem_map]
  constructor
  · rintro ⟨⟨p, f, n⟩, hv, rfl⟩
    obtain ⟨hv, hc⟩ := List.mem_filter.mp hv
    rw [Bool.and_eq_true, beq_iff_eq, beq_iff_eq] at hc
    exact hc.1 ▸ hc.2 ▸ hv
  · intro h
    exact ⟨⟨p, file, node⟩, List.mem_filter.mpr ⟨h, by rw [beq_self_eq_true, beq_self_eq_true]; rfl⟩, rfl⟩

theorem assocOf_congr {ev ev' : List Visit} (h : ∀ v, v ∈ ev ↔ v ∈ ev') (file : String) (node : Nat) :
    assocOf ev file node = assocOf ev' file node :=
  ssorted_ext (sorted_canon _) (sorted_canon _) fun p => by rw [mem_assocOf, mem_assocOf, h]

end CbiVerif.Order

namespace CbiVerif.C14C
open CbiVerif.SM

/-! ## a dict is determined, up to insertion order, by `in` and `get` -/

theorem mem_iff_has_get (sm : Setmap) (h : (keys sm).Nodup) (e : Key × Nat) :
    e ∈ sm ↔ has sm e.1 = true ∧ SM.get sm e.1 = e.2 := by
  refine ⟨fun he => ⟨(has_iff_mem_keys sm e.1).mpr (List.mem_map_of_mem he), get_of_mem sm h he⟩, fun ⟨hh, hg⟩ => ?_⟩
  -- the item carrying the key `e.1` has the value `get sm e.1`
  obtain ⟨e', he', hk⟩ := List.mem_map.mp ((has_iff_mem_keys sm e.1).mp hh)
  have : e' = e := Prod.ext hk (by rw [← get_of_mem sm h he', hk, hg])
  exact this ▸ he'

theorem perm_of_has_get {sm sm' : Setmap} (h : (keys sm).Nodup) (h' : (keys sm').Nodup)
    (hh : ∀ k, has sm k = has sm' k) (hg : ∀ k, SM.get sm k = SM.get sm' k) : sm.Perm sm' := by
  apply (List.perm_ext_iff_of_nodup (List.Nodup.of_map _ h) (List.Nodup.of_map _ h')).mpr
  intro e
  rw [mem_iff_has_get sm h, mem_iff_has_get sm' h', hh, hg]

theorem get_perm {sm sm' : Setmap} (h : sm.Perm sm') (k : Key) : SM.get sm k = SM.get sm' k := by
  rw [get_eq_sum, get_eq_sum, (h.map _).sum_nat]

theorem has_perm {sm sm' : Setmap} (h : sm.Perm sm') (k : Key) : has sm k = has sm' k :=
  Bool.eq_iff_iff.mpr (by rw [has_iff_mem_keys, has_iff_mem_keys]; exact (h.map _).mem_iff)

theorem foldl_add_perm {α : Type} (key : α → Key) (val : α → Nat) {xs ys : List α} (h : xs.Perm ys) :
    (xs.foldl (fun s x => add s (key x) (val x)) []).Perm (ys.foldl (fun s x => add s (key x) (val x)) []) :=
  perm_of_has_get (nodup_foldl_add key val xs [] List.nodup_nil) (nodup_foldl_add key val ys [] List.nodup_nil)
    (fun k => by rw [has_foldl_add, has_foldl_add, h.any_eq])
    (fun k => by rw [get_foldl_add, get_foldl_add, (h.map _).sum_nat])

theorem pos_add {sm : Setmap} (hs : ∀ e ∈ sm, 0 < e.2) (k : Key) {n : Nat} (hn : 0 < n) : ∀ e ∈ add sm k n, 0 < e.2 := by
  induction sm with
  | nil => exact fun e he => List.mem_singleton.mp he ▸ hn
  | cons e0 rest ih =>
    obtain ⟨h0, hrest⟩ := List.forall_mem_cons.mp hs
    rw [add_cons]
    by_cases hk : e0.1 = k
    · rw [if_pos hk]; exact List.forall_mem_cons.mpr ⟨Nat.add_pos_left h0 _, hrest⟩
    · rw [if_neg hk]; exact List.forall_mem_cons.mpr ⟨h0, ih hrest⟩

theorem pos_foldl_add {α : Type} (key : α → Key) (val : α → Nat) (xs : List α) (hx : ∀ x ∈ xs, 0 < val x) :
    ∀ s : Setmap, (∀ e ∈ s, 0 < e.2) → ∀ e ∈ xs.foldl (fun s x => add s (key x) (val x)) s, 0 < e.2 := by
  induction xs with
  | nil => exact fun _ hs => hs
  | cons x xs ih =>
    exact fun s hs => ih (fun y hy => hx y (List.mem_cons_of_mem _ hy)) _ (pos_add hs _ (hx x List.mem_cons_self))

end CbiVerif.C14C

namespace CbiVerif.Order
open CbiVerif.C14C

/-! ## `get_setmap` of C14 is a fold of `SM.add` -/

theorem addTo_eq (k : PSet) (n : Nat) (sm : Setmap) : addTo k n sm = SM.add sm k n := by
  induction sm with
  | nil => rfl
  | cons e rest ih =>
    show (if e.1 = k then _ else e :: addTo k n rest) = if e.1 = k then _ else e :: SM.add rest k n
    rw [ih]

theorem lookup_eq (sm : Setmap) (k : PSet) : lookup sm k = SM.get sm k := by
  induction sm with
  | nil => rfl
  | cons e rest ih =>
    unfold lookup at ih ⊢
    rw [List.filter_cons, SM.get, ← ih]
    by_cases h : e.1 = k
    · rw [if_pos h, if_pos (beq_iff_eq.mpr h), List.map_cons, List.sum_cons]
    · rw [if_neg h, if_neg (fun hb => h (beq_iff_eq.mp hb)), Nat.zero_add]

/-- normal form of a contribution: the platform set as a set -/
def norm (c : PSet × Nat) : PSet × Nat := (canon c.1, c.2)

theorem getSetmap_eq_foldl (cs : List (PSet × Nat)) :
    getSetmap cs = (cs.map norm).foldl (fun s c => SM.add s c.1 c.2) [] := by
  rw [List.foldl_map]
  exact congrArg (fun f => cs.foldl f []) (funext fun s => funext fun c => addTo_eq _ _ s)

theorem nodup_keys_getSetmap (cs : List (PSet × Nat)) : (keys (getSetmap cs)).Nodup :=
  getSetmap_eq_foldl cs ▸ SM.nodup_foldl_add _ _ _ [] List.nodup_nil

theorem mem_keys_getSetmap (cs : List (PSet × Nat)) (k : PSet) :
    k ∈ keys (getSetmap cs) ↔ k ∈ cs.map (fun c => canon c.1) := by
  rw [getSetmap_eq_foldl]
  refine (SM.has_iff_mem_keys _ k).symm.trans ?_
  rw [SM.has_foldl_add, SM.has, Bool.false_or, List.any_map, List.any_eq_true, List.mem_map]
  exact exists_congr fun c => and_congr_right fun _ => decide_eq_true_iff

theorem lookup_getSetmap (cs : List (PSet × Nat)) (k : PSet) :
    lookup (getSetmap cs) k = (cs.map fun c => if canon c.1 = k then c.2 else 0).sum := by
  rw [lookup_eq, getSetmap_eq_foldl, SM.get_foldl_add, List.map_map, SM.get, Nat.zero_add]
  rfl

theorem getSetmap_perm_norm {cs cs' : List (PSet × Nat)} (h : (cs.map norm).Perm (cs'.map norm)) :
    (getSetmap cs).Perm (getSetmap cs') := by
  rw [getSetmap_eq_foldl, getSetmap_eq_foldl]
  exact foldl_add_perm _ _ h

theorem keys_canonical (cs : List (PSet × Nat)) : ∀ k ∈ keys (getSetmap cs), canon k = k := by
  intro k hk
  obtain ⟨c, _, rfl⟩ := List.mem_map.mp ((mem_keys_getSetmap cs k).mp hk)
  exact canon_idem _

theorem nodup_canon_keys_getSetmap (cs : List (PSet × Nat)) :
    ((getSetmap cs).map fun e => canon e.1).Nodup := by
  have e : (getSetmap cs).map (fun e => canon e.1) = keys (getSetmap cs) :=
    List.map_congr_left fun a ha => keys_canonical cs a.1 (List.mem_map_of_mem ha)
  rw [e]; exact nodup_keys_getSetmap cs

end CbiVerif.Order
