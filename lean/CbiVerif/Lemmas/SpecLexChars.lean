import CbiVerif.Spec.Prosser
import CbiVerif.Lemmas.LexChars
/-! # The specification's pp-token lexer on characters

`Spec.Prosser.lex` with its punctuator table as character lists, for the evaluations of the specification on concrete texts
(see `Lemmas/LexChars.lean`: in every evaluation the kernel would decode all 48 literals of the table). -/
namespace CbiVerif.Spec.Prosser

def punctsL : List (List Char) :=
  [['.', '.', '.'], ['<', '<', '='], ['>', '>', '='],
   ['#', '#'], ['<', '<'], ['>', '>'], ['<', '='], ['>', '='], ['=', '='], ['!', '='], ['&', '&'], ['|', '|'], ['-', '>'],
   ['+', '+'], ['-', '-'], ['+', '='], ['-', '='], ['*', '='], ['/', '='], ['%', '='], ['&', '='], ['|', '='], ['^', '='],
   ['-'], ['+'], ['*'], ['/'], ['%'], ['<'], ['>'], ['='], ['!'], ['&'], ['|'], ['^'], ['~'], ['?'], [':'], ['#'], ['('], [')'],
   ['{'], ['}'], ['['], [']'], [','], ['.'], [';']]

theorem puncts_eq : puncts3 ++ puncts2 ++ puncts1 = punctsL.map String.ofList := rfl

def lexOneL (s : List Char) (ws : Bool) : Option (T × List Char) :=
  match lexNumber s with
  | some (t, r) => some (⟨.num, String.ofList t, ws, []⟩, r)
  | none =>
  match s with
  | [] => none
  | c :: _ =>
    if isIdStart c then
      let w := s.takeWhile isIdChar
      some (⟨.id, String.ofList w, ws, []⟩, s.drop w.length)
    else if c == '"' then (lexQuoted '"' s).map fun (t, r) => (⟨.str, String.ofList t, ws, []⟩, r)
    else if c == '\'' then
      match lexQuoted '\'' s with
      | some (t, r) => if t.length > 2 then some (⟨.chr, String.ofList t, ws, []⟩, r) else none
      | none => none
    else
      match punctsL.find? (·.isPrefixOf s) with
      | some p => some (⟨.punct, String.ofList p, ws, []⟩, s.drop p.length)
      | none => none

theorem lexOne_eq (s : List Char) (ws : Bool) : lexOne s ws = lexOneL s ws := by
  unfold lexOne lexOneL
  rw [puncts_eq, CbiVerif.PP.find?_prefix_map_ofList]
  cases punctsL.find? (·.isPrefixOf s) with
  | none => rfl
  | some p => simp only [Option.map_some, String.length_ofList]; rfl

/-- `lex.go` over `lexOneL` -/
def lexL : Nat → List Char → List T → Except Unspec (List T)
  | 0, _, acc => .ok acc
  | f + 1, s, acc =>
    let w := s.takeWhile isWs
    let s1 := s.drop w.length
    match s1 with
    | [] => .ok acc
    | _ =>
      match lexOneL s1 (!w.isEmpty) with
      | some (t, r) => lexL f r (acc ++ [t])
      | none => .error (.lex (String.ofList (s1.take 8)))

theorem lex_go_eq (f : Nat) (s : List Char) (acc : List T) : lex.go f s acc = lexL f s acc := by
  induction f generalizing s acc with
  | zero => rfl
  | succ n ih => simp only [lex.go, lexL, lexOne_eq, ih]; rfl

theorem lex_ofList (l : List Char) : lex (String.ofList l) = lexL (l.length + 1) l [] := by
  rw [lex, String.toList_ofList, String.length_ofList, lex_go_eq]

end CbiVerif.Spec.Prosser
