/-!
Facts about `List` that the core library does not state and that more than one part of the development needs.
Core Lean only, no import: the module may be used below the driver as well as beside Mathlib.

For an invariant of a `foldl` the core library has `List.foldlRecOn`.
-/
namespace CbiVerif.ListFacts

theorem eq_nil_or_snoc {α : Type} (l : List α) : l = [] ∨ ∃ l' b, l = l' ++ [b] :=
  (List.eq_nil_or_concat l).imp_right fun ⟨t, x, h⟩ => ⟨t, x, h.trans List.concat_eq_append⟩

theorem filterMap_cons_toList {α β} (f : α → Option β) (a : α) (l : List α) :
    (a :: l).filterMap f = (f a).toList ++ l.filterMap f := by
  cases h : f a <;> simp [h]

/-! ## `isPrefixOf` -/

section prefixes
variable {α : Type} [BEq α] [LawfulBEq α]

theorem mem_of_snoc_isPrefixOf (o l : List α) (c : α) (h : (o ++ [c]).isPrefixOf l = true) : c ∈ l :=
  (List.isPrefixOf_iff_prefix.mp h).subset (List.mem_append_right o (List.mem_singleton.mpr rfl))

/-- a list `l` that does not continue `o ++ [c]` is a prefix of `o ++ c :: r` iff it is a prefix of `o` -/
theorem isPrefixOf_append_cons (l o : List α) (c : α) (r : List α) (h : (o ++ [c]).isPrefixOf l = false) :
    l.isPrefixOf (o ++ c :: r) = l.isPrefixOf o := by
  have h' : ¬ o ++ [c] <+: l := fun hp => Bool.false_ne_true (h.symm.trans (List.isPrefixOf_iff_prefix.mpr hp))
  rw [Bool.eq_iff_iff, List.isPrefixOf_iff_prefix, List.isPrefixOf_iff_prefix]
  refine ⟨fun hl => ?_, List.prefix_append_of_prefix⟩
  -- `l` and `o ++ [c]` are prefixes of one list, so one is a prefix of the other
  rcases List.prefix_or_prefix_of_prefix hl (⟨r, (List.append_cons ..).symm⟩ : o ++ [c] <+: o ++ c :: r) with h1 | h1
  · exact (List.prefix_concat_iff.mp h1).resolve_left fun e => h' ⟨[], by rw [List.append_nil, e]⟩
  · exact absurd h1 h'

end prefixes

theorem takeWhile_append_stop {α : Type} (p : α → Bool) (l rest : List α) (hl : l.all p = true)
    (hr : ∀ c ∈ rest.head?, p c = false) : (l ++ rest).takeWhile p = l := by
  rw [List.takeWhile_append_of_pos (fun x hx => List.all_eq_true.mp hl x hx)]
  cases rest with
  | nil => exact List.append_nil l
  | cons c r => rw [List.takeWhile_cons_of_neg (by rw [hr c rfl]; exact Bool.false_ne_true), List.append_nil]

end CbiVerif.ListFacts
