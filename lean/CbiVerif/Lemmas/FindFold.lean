import CbiVerif.Model.FindFold
/-! Helper lemmas for `Props/C08.lean` (core Lean only): the double loop of `finder.find` is one loop over `jobs`; the
state-passing loop computes the stateless union `specJobs`; what `specJobs` yields under a permutation and under a
selection of platforms, and counting by platform set; a threaded state that is transparent except on flagged steps
(`TransparentUnless`) is not observed by a run none of whose steps is flagged. -/
namespace CbiVerif.FindFold

variable {Entry Key Warn Err : Type}

-- equations between the results of runs are decided by evaluation (`Props/C08.lean`)
deriving instance DecidableEq for Except, Out, Acc

def app (acc r : Acc Key Warn) : Acc Key Warn :=
  { pairs := acc.pairs ++ r.pairs, warns := acc.warns ++ r.warns }

theorem app_empty (r : Acc Key Warn) : app {} r = r := by
  cases r; simp [app]

def foldJobs (A : Entry → Except Err (Out Key Warn)) (js : List (String × Entry))
    (acc : Acc Key Warn) : Except Err (Acc Key Warn) :=
  js.foldlM (fun acc j => stepEntry A j.1 acc j.2) acc

theorem foldJobs_nil (A : Entry → Except Err (Out Key Warn)) (acc : Acc Key Warn) :
    foldJobs A [] acc = .ok acc := rfl

theorem foldJobs_cons (A : Entry → Except Err (Out Key Warn)) (j : String × Entry)
    (js : List (String × Entry)) (acc : Acc Key Warn) :
    foldJobs A (j :: js) acc =
      match stepEntry A j.1 acc j.2 with
      | .ok a => foldJobs A js a
      | .error e => .error e := by
  unfold foldJobs
  rw [List.foldlM_cons]
  cases stepEntry A j.1 acc j.2 <;> rfl

theorem jobs_cons (pe : String × List Entry) (c : Config Entry) :
    jobs (pe :: c) = (pe.2.map fun e => (pe.1, e)) ++ jobs c := by
  simp [jobs]

theorem jobs_cons_snd (pe : String × List Entry) (c : Config Entry) :
    (jobs (pe :: c)).map (·.2) = pe.2 ++ (jobs c).map (·.2) := by
  simp [jobs_cons, Function.comp_def]

theorem foldlM_jobs {β : Type} (f : String → β → Entry → Except Err β) (c : Config Entry) (b : β) :
    c.foldlM (fun b pe => pe.2.foldlM (f pe.1) b) b = (jobs c).foldlM (fun b j => f j.1 b j.2) b := by
  induction c generalizing b with
  | nil => rfl
  | cons pe c ih =>
    rw [List.foldlM_cons, jobs_cons, List.foldlM_append, List.foldlM_map]
    exact bind_congr fun b' => ih b'

theorem foldlM_stepPlatform (A : Entry → Except Err (Out Key Warn)) (c : Config Entry)
    (acc : Acc Key Warn) :
    c.foldlM (stepPlatform A) acc = foldJobs A (jobs c) acc :=
  foldlM_jobs (stepEntry A) c acc

/-- state passing = stateless union (including which error is raised) -/
theorem foldJobs_eq_spec (A : Entry → Except Err (Out Key Warn)) (js : List (String × Entry))
    (acc : Acc Key Warn) :
    foldJobs A js acc =
      match specJobs A js with
      | .ok r => .ok (app acc r)
      | .error e => .error e := by
  -- one case per branch of `specJobs`
  fun_induction specJobs A js generalizing acc with
  | case1 => simp [foldJobs_nil, app]
  | case2 p e js er hA => rw [foldJobs_cons]; simp only [stepEntry, hA]
  | case3 p e js o hA er hs ih => rw [foldJobs_cons]; simp only [stepEntry, hA, ih, hs]
  | case4 p e js o hA r hs ih =>
    rw [foldJobs_cons]; simp only [stepEntry, hA, ih, hs]
    simp [app, associate, List.append_assoc]

/-! ### the spec, characterised

`specFind` by recursion on the configuration, for evaluating it on an explicit configuration from given analyses.
The analysis enters as a hypothesis, and the equations are not proved by the term `rfl`: a `match` on `A e` whose
discriminant `simp` rewrites, or a step `simp` takes by unfolding, is checked by the kernel by conversion, and that
evaluates `A e` — for `Props/C08.lean` a whole run of the engine. -/

theorem specFind_nil (A : Entry → Except Err (Out Key Warn)) : specFind A [] = .ok {} := by
  rw [specFind, jobs, List.flatMap_nil, specJobs]

theorem specFind_cons_nil (A : Entry → Except Err (Out Key Warn)) (p : String) (c : Config Entry) :
    specFind A ((p, []) :: c) = specFind A c := by
  rw [specFind, specFind, jobs_cons, List.map_nil, List.nil_append]

theorem specFind_cons_ok {A : Entry → Except Err (Out Key Warn)} {e : Entry} {o : Out Key Warn} (h : A e = .ok o)
    (p : String) (es : List Entry) (c : Config Entry) :
    specFind A ((p, e :: es) :: c) = (specFind A ((p, es) :: c)).map (app (associate p {} o)) := by
  rw [specFind, specFind, jobs_cons, jobs_cons, List.map_cons, List.cons_append, specJobs, h]
  cases specJobs A ((es.map fun e => (p, e)) ++ jobs c) <;> simp [Except.map, app, associate]

/-- total version of the single-command analysis (nothing on failure) -/
def outOrEmpty (A : Entry → Except Err (Out Key Warn)) (e : Entry) : Out Key Warn :=
  match A e with
  | .ok o => o
  | .error _ => {}

def pairsOfJob (A : Entry → Except Err (Out Key Warn)) (j : String × Entry) : List (Key × String) :=
  (outOrEmpty A j.2).keys.map fun k => (k, j.1)

theorem specJobs_ok_iff (A : Entry → Except Err (Out Key Warn)) (js : List (String × Entry)) :
    (∃ r, specJobs A js = .ok r) ↔ ∀ j ∈ js, ∃ o, A j.2 = .ok o := by
  fun_induction specJobs A js with
  | case1 => simp
  | case2 p e js er hA => simp [hA]
  | case3 p e js o hA er hs ih => rw [List.forall_mem_cons, ← ih, hs]; simp
  | case4 p e js o hA r hs ih => rw [List.forall_mem_cons, ← ih, hs]; simp [hA]

theorem specJobs_pairs (A : Entry → Except Err (Out Key Warn)) (js : List (String × Entry))
    (r : Acc Key Warn) (h : specJobs A js = .ok r) :
    r.pairs = js.flatMap (pairsOfJob A) ∧ r.warns = js.flatMap (fun j => (outOrEmpty A j.2).warns) := by
  fun_induction specJobs A js generalizing r with
  | case1 => cases h; exact ⟨rfl, rfl⟩
  | case2 | case3 => cases h
  | case4 p e js o hA r' hs ih =>
    cases h
    obtain ⟨h1, h2⟩ := ih r' hs
    simp [List.flatMap_cons, pairsOfJob, outOrEmpty, hA, h1, h2]

theorem mem_pairsOfJob (A : Entry → Except Err (Out Key Warn)) (j : String × Entry) (k : Key) (p : String) :
    (k, p) ∈ pairsOfJob A j ↔ j.1 = p ∧ ∃ o, A j.2 = .ok o ∧ k ∈ o.keys := by
  unfold pairsOfJob outOrEmpty
  cases hA : A j.2 with
  | error er => simp
  | ok o =>
    simp only [List.mem_map, Prod.mk.injEq]
    constructor
    · rintro ⟨k', hk, rfl, rfl⟩
      exact ⟨rfl, o, rfl, hk⟩
    · rintro ⟨rfl, o', ho, hk⟩
      cases ho
      exact ⟨k, hk, rfl, rfl⟩

theorem mem_jobs (c : Config Entry) (p : String) (e : Entry) :
    (p, e) ∈ jobs c ↔ ∃ es, (p, es) ∈ c ∧ e ∈ es := by
  simp only [jobs, List.mem_flatMap, List.mem_map, Prod.mk.injEq]
  constructor
  · rintro ⟨⟨q, es⟩, hc, e', he, rfl, rfl⟩
    exact ⟨es, hc, he⟩
  · rintro ⟨es, hc, he⟩
    exact ⟨(p, es), hc, e, he, rfl, rfl⟩

theorem mem_entriesOf (c : Config Entry) (p : String) (e : Entry) :
    e ∈ entriesOf c p ↔ ∃ es, (p, es) ∈ c ∧ e ∈ es := by
  simp only [entriesOf, List.mem_flatMap, List.mem_filter, beq_iff_eq]
  constructor
  · rintro ⟨⟨q, es⟩, ⟨hc, rfl⟩, he⟩
    exact ⟨es, hc, he⟩
  · rintro ⟨es, hc, he⟩
    exact ⟨(p, es), ⟨hc, rfl⟩, he⟩

theorem mem_jobs_iff_entriesOf (c : Config Entry) (p : String) (e : Entry) :
    (p, e) ∈ jobs c ↔ e ∈ entriesOf c p := by
  rw [mem_jobs, mem_entriesOf]

/-! ### permutations -/

theorem CfgPerm.refl (c : Config Entry) : CfgPerm c c := by
  induction c with
  | nil => exact .nil
  | cons pe c ih => obtain ⟨p, es⟩ := pe; exact .cons p (List.Perm.refl _) ih

theorem CfgPerm.symm {c c' : Config Entry} (h : CfgPerm c c') : CfgPerm c' c := by
  induction h with
  | nil => exact .nil
  | cons p hes _ ih => exact .cons p hes.symm ih
  | swap a b c => exact .swap b a c
  | trans _ _ ih1 ih2 => exact .trans ih2 ih1

theorem jobs_perm {c c' : Config Entry} (h : CfgPerm c c') : (jobs c).Perm (jobs c') := by
  induction h with
  | nil => exact List.Perm.refl _
  | cons p hes _ ih =>
    rw [jobs_cons, jobs_cons]
    exact List.Perm.append (List.Perm.map _ hes) ih
  | swap a b c =>
    simp only [jobs_cons, ← List.append_assoc]
    exact List.Perm.append (List.perm_append_comm) (List.Perm.refl _)
  | trans _ _ ih1 ih2 => exact ih1.trans ih2

theorem specJobs_perm (A : Entry → Except Err (Out Key Warn)) {js js' : List (String × Entry)}
    (hp : js.Perm js') (r : Acc Key Warn) (h : specJobs A js = .ok r) :
    ∃ r', specJobs A js' = .ok r' ∧ r.pairs.Perm r'.pairs ∧ r.warns.Perm r'.warns := by
  obtain ⟨r', hr'⟩ := (specJobs_ok_iff A js').mpr fun j hj => (specJobs_ok_iff A js).mp ⟨r, h⟩ j (hp.mem_iff.mpr hj)
  refine ⟨r', hr', ?_, ?_⟩
  · rw [(specJobs_pairs A js r h).1, (specJobs_pairs A js' r' hr').1]
    exact List.Perm.flatMap_right _ hp
  · rw [(specJobs_pairs A js r h).2, (specJobs_pairs A js' r' hr').2]
    exact List.Perm.flatMap_right _ hp

/-! ### small list facts -/

/-- filtering the pieces of a `flatMap` = filtering their sources, when the test is constant on each piece -/
theorem flatMap_filter_const {α β : Type} (q : α → Bool) (p : β → Bool) (g : α → List β)
    (h : ∀ a, ∀ b ∈ g a, p b = q a) (l : List α) : (l.filter q).flatMap g = (l.flatMap g).filter p := by
  induction l with
  | nil => rfl
  | cons a l ih =>
    rw [List.filter_cons, List.flatMap_cons, List.filter_append, ← ih]
    cases hq : q a
    · rw [if_neg Bool.false_ne_true,
        List.filter_eq_nil_iff.mpr fun b (hb : b ∈ g a) => by rw [h a b hb, hq]; exact Bool.false_ne_true]
      rfl
    · rw [if_pos rfl, List.flatMap_cons, List.filter_eq_self.mpr fun b hb => (h a b hb).trans hq]

theorem sum_map_zero {α : Type} (l : List α) : (l.map fun _ => (0 : Nat)).sum = 0 := by
  rw [List.map_const', List.sum_replicate_nat, Nat.mul_zero]

theorem sum_map_add {α : Type} (l : List α) (u v : α → Nat) :
    (l.map fun a => u a + v a).sum = (l.map u).sum + (l.map v).sum := by
  induction l with
  | nil => rfl
  | cons a l ih => simp only [List.map_cons, List.sum_cons, ih]; omega

theorem sum_filter_map {α : Type} (p : α → Bool) (v : α → Nat) (l : List α) :
    ((l.filter p).map v).sum = (l.map fun a => if p a then v a else 0).sum := by
  induction l with
  | nil => rfl
  | cons a l ih => rw [List.filter_cons]; cases h : p a <;> simp [h, ih]

/-! ### selection of platforms -/

theorem jobs_filter (f : String → Bool) (c : Config Entry) :
    jobs (c.filter fun pe => f pe.1) = (jobs c).filter fun j => f j.1 :=
  flatMap_filter_const _ _ _ (fun pe j hj => by obtain ⟨e, _, rfl⟩ := List.mem_map.mp hj; rfl) c

/-- the empty selection is the filter that keeps every platform -/
theorem select_eq_filter (X : List String) (c : Config Entry) :
    select X c = c.filter fun pe => X.isEmpty || X.contains pe.1 := by
  unfold select
  cases X.isEmpty
  · rfl
  · exact (List.filter_eq_self.mpr fun _ _ => rfl).symm

theorem jobs_select_subset (X : List String) (c : Config Entry) : ∀ j ∈ jobs (select X c), j ∈ jobs c := by
  intro j hj
  rw [select_eq_filter, jobs_filter fun p => X.isEmpty || X.contains p] at hj
  exact (List.mem_filter.mp hj).1

theorem jobs_single_subset {c : Config Entry} {p : String} {e : Entry} (he : e ∈ entriesOf c p) :
    ∀ j ∈ jobs [(p, [e])], j ∈ jobs c := by
  intro j hj
  have : j = (p, e) := by simpa [jobs] using hj
  exact this ▸ (mem_jobs_iff_entriesOf c p e).mpr he

theorem specJobs_filter (A : Entry → Except Err (Out Key Warn)) (f : String → Bool)
    (js : List (String × Entry)) (r : Acc Key Warn) (h : specJobs A js = .ok r) :
    ∃ r', specJobs A (js.filter fun j => f j.1) = .ok r' ∧
      r'.pairs = r.pairs.filter fun kp => f kp.2 := by
  obtain ⟨r', hr'⟩ := (specJobs_ok_iff A (js.filter fun j => f j.1)).mpr fun j hj =>
    (specJobs_ok_iff A js).mp ⟨r, h⟩ j (List.mem_filter.mp hj).1
  refine ⟨r', hr', ?_⟩
  rw [(specJobs_pairs A js r h).1, (specJobs_pairs A _ r' hr').1]
  exact flatMap_filter_const _ _ _ (fun j kp hkp => by obtain ⟨k, _, rfl⟩ := List.mem_map.mp hkp; rfl) js

/-! ### threaded state that is transparent -/

/-- "the carried state never changes what a command observes" -/
def Transparent {σ : Type} (Inv : σ → Prop) (step : σ → Entry → Except Err (Out Key Warn × σ))
    (A : Entry → Except Err (Out Key Warn)) : Prop :=
  ∀ s e, Inv s →
    match step s e with
    | .ok (o, s') => A e = .ok o ∧ Inv s'
    | .error er => A e = .error er

theorem Transparent.out_eq {σ : Type} {Inv : σ → Prop} {step : σ → Entry → Except Err (Out Key Warn × σ)}
    {A : Entry → Except Err (Out Key Warn)} (ht : Transparent Inv step A) (s : σ) (e : Entry) (hs : Inv s) :
    (match step s e with
      | .ok (o, _) => .ok o
      | .error er => .error er) = A e := by
  have h := ht s e hs
  cases hst : step s e with
  | error er => rw [hst] at h; exact h.symm
  | ok os => rw [hst] at h; exact h.1.symm

section Unless
variable {σ : Type}

/-- transparency demanded only of the steps that the decidable test `flag s e` does not flag; all steps keep the invariant.
With `flag := fun _ _ => false` this is `Transparent` (`transparent_iff_unless`). -/
def TransparentUnless (Inv : σ → Prop) (flag : σ → Entry → Bool)
    (step : σ → Entry → Except Err (Out Key Warn × σ)) (A : Entry → Except Err (Out Key Warn)) : Prop :=
  ∀ s e, Inv s →
    (∀ o s', step s e = .ok (o, s') → Inv s') ∧
    (flag s e = false →
      match step s e with
      | .ok (o, _) => A e = .ok o
      | .error er => A e = .error er)

/-- no step of the run of the commands `es` (in this order, from state `s`) is flagged; the run stops
at the first command that raises -/
def cleanJobs (flag : σ → Entry → Bool) (step : σ → Entry → Except Err (Out Key Warn × σ)) :
    List Entry → σ → Bool
  | [], _ => true
  | e :: es, s =>
    !flag s e &&
      match step s e with
      | .ok (_, s') => cleanJobs flag step es s'
      | .error _ => true

theorem transparent_iff_unless (Inv : σ → Prop) (step : σ → Entry → Except Err (Out Key Warn × σ))
    (A : Entry → Except Err (Out Key Warn)) :
    Transparent Inv step A ↔ TransparentUnless Inv (fun _ _ => false) step A := by
  constructor
  · intro h s e hs
    have h1 := h s e hs
    refine ⟨fun o s' hst => ?_, fun _ => ?_⟩
    · rw [hst] at h1; exact h1.2
    · cases hst : step s e with
      | error er => rw [hst] at h1; exact h1
      | ok os => obtain ⟨o, s'⟩ := os; rw [hst] at h1; exact h1.1
  · intro h s e hs
    obtain ⟨h1, h2⟩ := h s e hs
    have h2 := h2 rfl
    cases hst : step s e with
    | error er => rw [hst] at h2; exact h2
    | ok os => obtain ⟨o, s'⟩ := os; rw [hst] at h2; exact ⟨h2, h1 o s' hst⟩

theorem cleanJobs_false_flag (step : σ → Entry → Except Err (Out Key Warn × σ)) (es : List Entry) (s : σ) :
    cleanJobs (fun _ _ => false) step es s = true := by
  induction es generalizing s with
  | nil => rfl
  | cons e es ih =>
    simp only [cleanJobs, Bool.not_false, Bool.true_and]
    cases step s e with
    | error er => rfl
    | ok os => exact ih os.2

end Unless

/-- the run over a prefix `js` of the job list; `rest` is what is still to come -/
theorem foldJobs_refines_unless {σ : Type} (Inv : σ → Prop) (flag : σ → Entry → Bool)
    (step : σ → Entry → Except Err (Out Key Warn × σ)) (A : Entry → Except Err (Out Key Warn))
    (ht : TransparentUnless Inv flag step A) (js : List (String × Entry)) (rest : List Entry) (acc : Acc Key Warn)
    (s : σ) (hs : Inv s) (hc : cleanJobs flag step (js.map (·.2) ++ rest) s = true) :
    match js.foldlM (fun as j => stepEntryS step j.1 as j.2) (acc, s) with
    | .ok (a, s') => foldJobs A js acc = .ok a ∧ Inv s' ∧ cleanJobs flag step rest s' = true
    | .error er => foldJobs A js acc = .error er := by
  induction js generalizing acc s with
  | nil => exact ⟨rfl, hs, hc⟩
  | cons j js ih =>
    obtain ⟨hI, hT⟩ := ht s j.2 hs
    simp only [List.map_cons, List.cons_append, cleanJobs, Bool.and_eq_true, Bool.not_eq_true'] at hc
    have h1 := hT hc.1
    rw [List.foldlM_cons, foldJobs_cons]
    simp only [stepEntryS, stepEntry]
    cases hstep : step s j.2 with
    | error er => rw [hstep] at h1; rw [h1]; rfl
    | ok os =>
      obtain ⟨o, s'⟩ := os
      rw [hstep] at h1 hc
      rw [h1]
      exact ih _ s' (hI o s' hstep) hc.2

theorem findS_refines_unless {σ : Type} (Inv : σ → Prop) (flag : σ → Entry → Bool)
    (step : σ → Entry → Except Err (Out Key Warn × σ)) (A : Entry → Except Err (Out Key Warn))
    (ht : TransparentUnless Inv flag step A) (c : Config Entry) (acc : Acc Key Warn) (s : σ) (hs : Inv s)
    (hc : cleanJobs flag step ((jobs c).map (·.2)) s = true) :
    match c.foldlM (fun acc pe => pe.2.foldlM (stepEntryS step pe.1) acc) (acc, s) with
    | .ok (a, s') => c.foldlM (stepPlatform A) acc = .ok a ∧ Inv s'
    | .error er => c.foldlM (stepPlatform A) acc = .error er := by
  rw [foldlM_jobs (stepEntryS step), foldlM_stepPlatform]
  have h := foldJobs_refines_unless Inv flag step A ht (jobs c) [] acc s hs (by rwa [List.append_nil])
  split at h
  · exact ⟨h.1, h.2.1⟩
  · exact h

theorem findS_eq_findG_unless {σ : Type} (Inv : σ → Prop) (flag : σ → Entry → Bool)
    (step : σ → Entry → Except Err (Out Key Warn × σ)) (A : Entry → Except Err (Out Key Warn))
    (ht : TransparentUnless Inv flag step A) (s0 : σ) (h0 : Inv s0) (c : Config Entry)
    (hc : cleanJobs flag step ((jobs c).map (·.2)) s0 = true) :
    (match findS step s0 c with
      | .ok (a, _) => .ok a
      | .error er => .error er) = findG A c := by
  have := findS_refines_unless Inv flag step A ht c {} s0 h0 hc
  unfold findS findG
  cases hS : List.foldlM (fun acc pe => List.foldlM (stepEntryS step pe.1) acc pe.2) ({}, s0) c with
  | error er => rw [hS] at this; exact this.symm
  | ok as => rw [hS] at this; exact this.1.symm

theorem findS_refines {σ : Type} (Inv : σ → Prop)
    (step : σ → Entry → Except Err (Out Key Warn × σ)) (A : Entry → Except Err (Out Key Warn))
    (ht : Transparent Inv step A) (c : Config Entry) (acc : Acc Key Warn) (s : σ) (hs : Inv s) :
    match c.foldlM (fun acc pe => pe.2.foldlM (stepEntryS step pe.1) acc) (acc, s) with
    | .ok (a, s') => c.foldlM (stepPlatform A) acc = .ok a ∧ Inv s'
    | .error er => c.foldlM (stepPlatform A) acc = .error er :=
  findS_refines_unless Inv (fun _ _ => false) step A ((transparent_iff_unless Inv step A).mp ht) c acc s hs
    (cleanJobs_false_flag step _ s)

theorem findS_inv {σ : Type} (Inv : σ → Prop) (step : σ → Entry → Except Err (Out Key Warn × σ))
    (hstep : ∀ s e o s', Inv s → step s e = .ok (o, s') → Inv s')
    (c : Config Entry) (acc : Acc Key Warn) (s : σ) (hs : Inv s) (a : Acc Key Warn) (s' : σ)
    (h : c.foldlM (fun acc pe => pe.2.foldlM (stepEntryS step pe.1) acc) (acc, s) = .ok (a, s')) :
    Inv s' := by
  rw [foldlM_jobs (stepEntryS step)] at h
  generalize jobs c = js at h
  induction js generalizing acc s with
  | nil => cases h; exact hs
  | cons j js ih =>
    rw [List.foldlM_cons] at h
    simp only [stepEntryS] at h
    cases hst : step s j.2 with
    | error er => rw [hst] at h; cases h
    | ok os => rw [hst] at h; exact ih _ os.2 (hstep s j.2 os.1 os.2 hs hst) h

/-! ### counting by platform set -/

/-- over a list without duplicates the indicator of one point sums to its value there -/
theorem sum_point {C : Type} [DecidableEq C] {l : List C} (hnd : l.Nodup) (c : C) (x : Nat) :
    (l.map fun S => if c = S then x else 0).sum = if c ∈ l then x else 0 := by
  induction l with
  | nil => rfl
  | cons S cs ih =>
    obtain ⟨hS, hnd⟩ := List.nodup_cons.mp hnd
    rw [List.map_cons, List.sum_cons, ih hnd]
    by_cases h : c = S
    · subst h; rw [if_pos rfl, if_neg hS, if_pos List.mem_cons_self]; rfl
    · rw [if_neg h, Nat.zero_add]
      simp only [List.mem_cons, h, false_or]

/-- a weighted count splits along a classification `f` whose classes are listed without duplicates: what falls under `P ∘ f`
    is what the classes under `P` hold -/
theorem sum_fibres {K C : Type} [DecidableEq C] (nodes : List K) (v : K → Nat) (f : K → C) (P : C → Prop) [DecidablePred P]
    (classes : List C) (hnd : classes.Nodup) (hall : ∀ k ∈ nodes, f k ∈ classes) :
    (nodes.map fun k => if P (f k) then v k else 0).sum =
      (classes.map fun S => if P S then (nodes.map fun k => if f k = S then v k else 0).sum else 0).sum := by
  induction nodes with
  | nil => simp [sum_map_zero]
  | cons k ks ih =>
    -- the head counts in its own class only
    have hk : ∀ S, (if P S then ((k :: ks).map fun k => if f k = S then v k else 0).sum else 0) =
        (if f k = S then (if P (f k) then v k else 0) else 0) +
          if P S then (ks.map fun k => if f k = S then v k else 0).sum else 0 := by
      intro S
      by_cases h : f k = S
      · subst h; by_cases hp : P (f k) <;> simp [hp]
      · simp [h]
    simp only [hk]
    rw [sum_map_add, sum_point hnd, if_pos (hall k List.mem_cons_self),
      ← ih fun k' hk' => hall k' (List.mem_cons_of_mem _ hk')]
    rfl

/-- counting along a coarser classification = merging the counts of the finer classes -/
theorem count_fibres {K C D : Type} [DecidableEq C] [DecidableEq D]
    (nodes : List K) (w : K → Nat) (f : K → C) (g : C → D) (T : D)
    (classes : List C) (hnd : classes.Nodup) (hall : ∀ k ∈ nodes, f k ∈ classes) :
    ((nodes.filter fun k => g (f k) = T).map w).sum =
      ((classes.filter fun S => g S = T).map fun S => ((nodes.filter fun k => f k = S).map w).sum).sum := by
  simp only [sum_filter_map, decide_eq_true_eq]
  exact sum_fibres nodes w f (fun S => g S = T) classes hnd hall

end CbiVerif.FindFold
