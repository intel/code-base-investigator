import CbiVerif.Lemmas.LexRoundtrip
import CbiVerif.Model.EvalBridge
import CbiVerif.Lemmas.EvalChar
/-!
# C02: the source tokens of every parse tree are read back by the lexer

`lexable a` (integer constants syntactically valid; character constants plain, with a one-character backslash escape,
`\ooo` with one to three octal digits or `\xh…` with at least one hexadecimal digit: this includes every character constant
that has a C value, `chr_lexable_of_value`; identifiers made of letters, digits, `_`) implies that every token of
`renderSrc a` is in the class `LexRT.lexOK` (`renderSrc_ok`), so `LexRT.tokenize_text` and `LexLayout.tokenize_layout` apply
to the text of `a`.
-/
namespace CbiVerif.LexSource
open CbiVerif.PP CbiVerif.CExpr CbiVerif.LexRT CbiVerif.Climb CbiVerif.EvalBridge

/-- the leaves of the tree can be written as single lexer tokens -/
def lexable : CExpr.Ast → Bool
  | .lit l => l.valid
  | .chr c => (match c with
      | .plain ch => isPrintable ch && ch != '\\' && ch != '\''
      | .simple ch => isPrintable ch
      | .octal ds => decide (1 ≤ ds.length) && decide (ds.length ≤ 3)
      | .hex ds => decide (1 ≤ ds.length))
  | .ident n => identOK n.toList
  | .defd n _ => identOK n.toList
  | .paren a => lexable a
  | .un _ a => lexable a
  | .bin _ l r => lexable l && lexable r
  | .tern c t e => lexable c && lexable t && lexable e

theorem digit_facts : ∀ (v : Fin 16) (u : Bool),
    wordChar (Digit.char ⟨v, u⟩) = true ∧ isWs (Digit.char ⟨v, u⟩) = false := by decide +kernel
theorem digit_dec : ∀ (v : Fin 16) (u : Bool), v.val < 10 → isDigit (Digit.char ⟨v, u⟩) = true := by decide +kernel
theorem suffix_word (s : Suffix) : s.chars.all wordChar = true := by
  obtain ⟨su, sl, f⟩ := s
  cases su <;> cases sl <;> cases f <;> decide
theorem digits_word (ds : List Digit) : (ds.map Digit.char).all wordChar = true := by
  induction ds with
  | nil => rfl
  | cons d ds ih => obtain ⟨v, u⟩ := d; simp [(digit_facts v u).1, ih]
/-- every spelling of the regenerated `Lexer.operator` list is read back as that operator -/
theorem ops_table : (operators.all fun o => lexOK (opTok o)) = true := by decide +kernel
theorem ops_ok (op : BinOp) : lexOK (opTok op.sym) = true :=
  List.all_eq_true.mp ops_table op.sym (by cases op <;> decide +kernel)
theorem uops_ok (op : UnOp) : lexOK (opTok op.sym) = true :=
  List.all_eq_true.mp ops_table op.sym (by cases op <;> decide +kernel)
theorem fixed_ok : lexOK (opTok "?") = true ∧ lexOK (opTok ":") = true ∧ lexOK lpTok = true ∧
    lexOK rpTok = true ∧ lexOK (identTok "defined") = true := by decide +kernel

theorem lit_ok (l : Lit) (h : l.valid = true) : lexOK (numTok l.spell) = true := by
  have hw : (l.digits.map Digit.char ++ l.suffix.chars).all wordChar = true := by
    rw [List.all_append, digits_word, suffix_word]; rfl
  show numOK (String.ofList l.chars).toList = true
  rw [String.toList_ofList]
  unfold Lit.valid at h
  unfold Lit.chars Lit.prefixChars
  obtain ⟨base, pu, digits, suffix⟩ := l
  cases base
  · -- decimal: the first digit is a decimal digit
    cases digits with
    | nil => simp at h
    | cons d ds =>
      obtain ⟨v, u⟩ := d
      simp only [Base.radix, List.all_cons, Bool.and_eq_true] at h
      simp only [List.nil_append, List.map_cons, List.cons_append, numOK, Bool.and_eq_true,
        Bool.not_eq_eq_eq_not, Bool.not_true]
      refine ⟨⟨digit_dec v u (of_decide_eq_true h.1.1), (digit_facts v u).2⟩, ?_⟩
      rw [List.all_append, digits_word, suffix_word]; rfl
  · simp only [List.cons_append, List.nil_append, numOK, Bool.and_eq_true, Bool.not_eq_eq_eq_not, Bool.not_true]
    exact ⟨⟨by decide, by decide⟩, hw⟩
  all_goals -- hexadecimal, binary: `0`, then `x`/`X`/`b`/`B`
    simp only [List.cons_append, List.nil_append, numOK, Bool.and_eq_true, Bool.not_eq_eq_eq_not, Bool.not_true,
      List.all_cons]
    refine ⟨⟨by decide, by decide⟩, ?_, hw⟩
    cases pu <;> simp only [Bool.false_eq_true, ↓reduceIte] <;> decide

theorem simple_printable {c : Char} {n : Nat} (h : simpleEscape c = some n) : isPrintable c = true := by
  unfold simpleEscape at h
  split at h <;> first | decide | cases h

/-- an escape sequence that `_character_value` gives a code is one character constant for the lexer: the three guards of
    `escapeCode` are the three alternatives of `chrOK` -/
theorem chrOK_escape {x : Char} {r : List Char} (h : (escapeCode x r).isSome = true) : chrOK ('\\' :: x :: r) = true := by
  unfold escapeCode at h
  simp only [chrOK]
  split at h
  · rename_i h1
    rw [Bool.and_eq_true, Option.isSome_iff_exists] at h1
    obtain ⟨hr, n, hn⟩ := h1
    rw [hr, simple_printable (EvalChar.simple_eq x ▸ hn)]; rfl
  · split at h
    · rename_i h2; rw [h2, Bool.or_true, Bool.true_or]
    · split at h
      · rename_i h3; rw [h3, Bool.or_true]
      · cases h

theorem chr_ok (c : CharLit) (h : lexable (.chr c) = true) : lexOK (chrTok (String.ofList c.chars)) = true := by
  show chrOK (String.ofList c.chars).toList = true
  rw [String.toList_ofList]
  cases c with
  | plain ch => exact h
  | simple ch =>
    have hp : isPrintable ch = true := h
    simp only [CharLit.chars, chrOK, List.isEmpty_nil, Bool.true_and, hp, Bool.true_or]
  | octal ds =>
    simp only [lexable, Bool.and_eq_true, decide_eq_true_eq] at h
    match ds, h with
    | d :: r, h =>
      exact chrOK_escape (x := EvalChar.octChar d) (r := r.map EvalChar.octChar)
        (by rw [EvalChar.escapeCode_octal d r (Nat.le_of_succ_le_succ h.2)]; rfl)
  | hex ds =>
    have hne : ds ≠ [] := by rintro rfl; cases h
    exact chrOK_escape (x := 'x') (by rw [EvalChar.escapeCode_hex ds hne]; rfl)

/-- every character constant that has a C value is written as one lexer token -/
theorem chr_lexable_of_value (c : CharLit) (h : (cChar c).isSome = true) : lexable (.chr c) = true := by
  simp only [cChar, Option.isSome_map, Option.isSome_iff_exists] at h
  obtain ⟨n, hn⟩ := h
  cases c <;> simp only [CharLit.code, Option.ite_none_right_eq_some, Bool.and_eq_true] at hn
  case plain ch =>
    simp only [lexable, isPrintable, Bool.and_eq_true]
    exact ⟨⟨hn.1.1.1, hn.1.2⟩, hn.1.1.2⟩
  case simple ch => exact simple_printable hn
  case octal ds => exact (Bool.and_eq_true ..).mpr hn.1.1
  case hex ds => exact hn.1.1

theorem renderSrc_ok (a : CExpr.Ast) (h : lexable a = true) : ∀ t ∈ renderSrc a, lexOK t = true := by
  obtain ⟨hq, hcol, hlp, hrp, hdef⟩ := fixed_ok
  refine List.all_eq_true.mp ?_
  induction a with
  | lit l => simp only [renderSrc, List.all_cons, List.all_nil, lit_ok l h, Bool.and_true]
  | chr c => simp only [renderSrc, List.all_cons, List.all_nil, chr_ok c h, Bool.and_true]
  | ident n => simp only [renderSrc, List.all_cons, List.all_nil, show lexOK (identTok n) = true from h, Bool.and_true]
  | defd n p =>
    have hn : lexOK (identTok n) = true := h
    cases p <;> simp only [renderSrc, ↓reduceIte, Bool.false_eq_true, List.all_cons, List.all_nil, hdef, hlp, hn, hrp, Bool.and_true]
  | paren a ih => simp only [renderSrc, List.all_cons, List.all_append, List.all_nil, ih h, hlp, hrp, Bool.and_true]
  | un op a ih => simp only [renderSrc, List.all_cons, uops_ok op, ih h, Bool.and_true]
  | bin op l r ihl ihr =>
    simp only [lexable, Bool.and_eq_true] at h
    simp only [renderSrc, List.all_append, List.all_cons, ihl h.1, ops_ok op, ihr h.2, Bool.and_true]
  | tern c t e ihc iht ihe =>
    simp only [lexable, Bool.and_eq_true] at h
    simp only [renderSrc, List.all_append, List.all_cons, ihc h.1.1, hq, iht h.1.2, hcol, ihe h.2, Bool.and_true]

end CbiVerif.LexSource
