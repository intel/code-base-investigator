import CbiVerif.PP.Analyse
import CbiVerif.Lemmas.LexChars
/-! # The C front end on characters

`parseFile` splits its text into physical lines (`String.toList` of the whole text), joins them into logical lines whose
text it stores as a `String`, and hands every directive line to the lexer (`String.toList` again).  `parseFileL` is the same
pipeline with the text of a logical line kept as the character list it is built from, and `parseFile_ofList` says so; see
`Lemmas/LexChars.lean` for why evaluations go through it. -/
namespace CbiVerif.PP

theorem splitLines_ofList (l : List Char) : splitLines (String.ofList l) = splitLines.go (l.length + 1) l [] [] := by
  rw [splitLines, String.toList_ofList, String.length_ofList]

/-- a loop whose body commutes with `f` commutes with `f` -/
theorem forIn_sim {α σ τ ε : Type} (f : τ → σ) (b : α → σ → Except ε (ForInStep σ)) (bL : α → τ → Except ε (ForInStep τ))
    (h : ∀ a t, b a (f t) = (bL a t).map fun | .yield t' => .yield (f t') | .done t' => .done (f t'))
    (l : List α) (t : τ) : forIn l (f t) b = (forIn l t bL).map f := by
  induction l generalizing t with
  | nil => rfl
  | cons a l ih =>
    rw [List.forIn_cons, List.forIn_cons, h]
    cases bL a t with
    | error e => rfl
    | ok s =>
      cases s with
      | done t' => rfl
      | yield t' => exact ih t'

/-- a logical line, its text as characters -/
structure LLineL where
  start : Nat
  stop : Nat
  lines : List Nat
  sloc : Nat
  text : List Char
  cat : Cat

def LLineL.toLLine (l : LLineL) : LLine := ⟨l.start, l.stop, l.lines, l.sloc, String.ofList l.text, l.cat⟩

structure SrcStateL where
  cl : CClean
  cur : OSL := {}
  physStart : Nat := 1
  lines : List Nat := []
  out : List LLineL := []
  totalSloc : Nat := 0

def SrcStateL.toSrcState (s : SrcStateL) : SrcState :=
  ⟨s.cl, s.cur, s.physStart, s.lines, s.out.map LLineL.toLLine, s.totalSloc⟩

/-- `cFileSource` from the physical lines on -/
def cFileSourceL (phys : List (List Char × Bool)) (directivesOnly : Bool := false) : Except Err (List LLineL × Nat × Nat) := do
  let mut st : SrcStateL := { cl := { directivesOnly := directivesOnly } }
  let mut n := 0
  for (content, hasNl) in phys do
    n := n + 1
    let mut body := content
    if !hasNl then
      if body.getLast? == some '\\' then throw (.runtime "file seems to end in \\ with no newline!")
    let continued := body.getLast? == some '\\'
    if continued then body := body.dropLast
    let (cl1, ob1) ← cProcess st.cl {} body
    let mut cl := cl1
    let mut ob := ob1
    if !continued && cl.state.head? != some .blockC then
      let (cl2, ob2) ← cLogicalNewline cl ob
      cl := cl2; ob := ob2
    let lines := if ob.category != .blank then st.lines ++ [n] else st.lines
    let cur := st.cur.join ob
    if !continued && cl.state.head? != some .blockC then
      let ll : LLineL := ⟨st.physStart, n + 1, lines, lines.length, cur.parts, cur.category⟩
      let out := if cur.category != .blank then st.out ++ [ll] else st.out
      st := { cl := cl, cur := {}, physStart := n + 1, lines := [], out := out, totalSloc := st.totalSloc + lines.length }
    else
      st := { st with cl := cl, cur := cur, lines := lines }
  let ll : LLineL := ⟨st.physStart, n + 1, st.lines, st.lines.length, st.cur.parts, st.cur.category⟩
  let out := if st.cur.category != .blank then st.out ++ [ll] else st.out
  if st.cl.state != [.top] then throw (.runtime "Parser must end at top level without 'relaxed' mode.")
  return (out, st.totalSloc + st.lines.length, n)

theorem cFileSource_eq (text : String) (d : Bool) :
    cFileSource text d = (cFileSourceL (splitLines text) d).map fun r => (r.1.map LLineL.toLLine, r.2) := by
  unfold cFileSource cFileSourceL
  dsimp only
  have h0 : (({ cl := { directivesOnly := d } } : SrcState), 0) =
      (fun t : SrcStateL × Nat => (t.1.toSrcState, t.2)) ({ cl := { directivesOnly := d } }, 0) := rfl
  rw [h0, forIn_sim (fun t : SrcStateL × Nat => (t.1.toSrcState, t.2))]
  · -- after the loop: the last logical line is flushed
    cases (forIn (splitLines text) (({ cl := { directivesOnly := d } } : SrcStateL), 0) _ : Except Err (SrcStateL × Nat)) with
    | error e => rfl
    | ok s =>
      obtain ⟨s, n⟩ := s
      simp only [Except.map, bind, Except.bind, SrcStateL.toSrcState, throw, throwThe, MonadExceptOf.throw, pure, Except.pure]
      cases s.cl.state != [CMode.top] <;> cases s.cur.category != Cat.blank <;>
        simp only [if_true, if_false, Bool.false_eq_true, List.map_append, List.map_cons, List.map_nil, LLineL.toLLine]
  · -- one physical line: the two bodies differ in the line they append to `out` only, so the cases follow the control flow
    -- (newline flag, trailing backslash, result of `cProcess`, state on top, result of `cLogicalNewline`, state on top),
    -- and in every leaf `toSrcState` is pushed through the `if` and the `++`
    rintro ⟨content, hasNl⟩ ⟨s, n⟩
    dsimp only [SrcStateL.toSrcState]
    cases hasNl <;> cases content.getLast? == some '\\' <;>
      simp only [Bool.not_false, Bool.not_true, if_true, if_false, Bool.false_eq_true, bind, Except.bind, Except.map,
        throw, throwThe, MonadExceptOf.throw, Bool.true_and, Bool.false_and, pure, Except.pure]
    all_goals (cases cProcess s.cl {} _ <;> try rfl)
    all_goals (rename_i v; obtain ⟨cl, ob⟩ := v; dsimp only)
    all_goals (cases cl.state.head? != some CMode.blockC <;> simp only [if_true, if_false, Bool.false_eq_true])
    all_goals (cases cLogicalNewline cl ob <;> try rfl)
    all_goals (rename_i v; obtain ⟨cl2, ob2⟩ := v; dsimp only)
    all_goals (cases cl2.state.head? != some CMode.blockC <;> simp only [if_true, if_false, Bool.false_eq_true])
    all_goals (rw [apply_ite (List.map LLineL.toLLine), List.map_append]; rfl)

/-- `parseDirective` from the token list on (`DirectiveParser(tokens).parse()`) -/
def parseDirectiveT (toks : List Tok) (lines : List Nat) : Except Err PNode :=
  match toks with
  | h :: rest =>
    if !(h.kind == .op && h.text == "#") then .error (.parse "Not a directive.")
    else
      let unrec : PNode := { kind := .unrecognized, lines := lines }
      match rest with
      | d :: r =>
        let unrec : PNode := if d.kind == .ident then { unrec with name := d.text } else unrec
        if d.kind != .ident then .ok unrec
        else if d.text == "define" then
          match macroDefinition r with
          | some (n, args, body) => .ok { kind := .define, lines := lines, toks := body, name := n, margs := args }
          | none => .ok unrec
        else if d.text == "undef" then
          match r with
          | i :: _ => if i.kind == .ident then .ok { kind := .undef, lines := lines, name := i.text } else .ok unrec
          | [] => .ok unrec
        else if d.text == "include" then .ok { kind := .include, lines := lines, toks := r }
        else if d.text == "ifdef" then
          match r with
          | i :: _ => if i.kind == .ident then
              .ok { kind := .ifk, lines := lines, toks := [mkTok .ident "defined" true, mkTok .punct "(" false, i, mkTok .punct ")" false] }
            else .ok unrec
          | [] => .ok unrec
        else if d.text == "ifndef" then
          match r with
          | i :: _ => if i.kind == .ident then
              .ok { kind := .ifk, lines := lines, toks := [mkTok .op "!" true, mkTok .ident "defined" false, mkTok .punct "(" false, i, mkTok .punct ")" false] }
            else .ok unrec
          | [] => .ok unrec
        else if d.text == "if" then .ok { kind := .ifk, lines := lines, toks := r }
        else if d.text == "elif" then .ok { kind := .elifk, lines := lines, toks := r }
        else if d.text == "else" then .ok { kind := .elsek, lines := lines }
        else if d.text == "endif" then .ok { kind := .endk, lines := lines }
        else if d.text == "pragma" then .ok { kind := .pragma, lines := lines, toks := r }
        else .ok unrec
      | [] => .ok unrec
  | [] => .error .index

theorem parseDirective_eq (text : String) (lines : List Nat) :
    parseDirective text lines = parseDirectiveT (tokenize text) lines := rfl

theorem parseDirective_ofList (l : List Char) (lines : List Nat) :
    parseDirective (String.ofList l) lines = parseDirectiveT (tokenizeL (l.length + 1) l false []) lines := by
  rw [parseDirective_eq, tokenize_ofList]

/-- `parseFile` on the characters of the text -/
def parseFileL (cs : List Char) : Except Err (List PNode) := do
  let (lls, _, _) ← cFileSourceL (splitLines.go (cs.length + 1) cs [] [])
  let mut nodes : List PNode := []
  let mut code : List Nat := []
  let mut codeOpen := false
  for ll in lls do
    if isDirectiveLine ll.cat ll.text then
      if codeOpen then
        nodes := nodes ++ [{ kind := .code, lines := code }]
        code := []; codeOpen := false
      let n ← parseDirectiveT (tokenizeL (ll.text.length + 1) ll.text false []) ll.lines
      nodes := nodes ++ [n]
    else
      code := code ++ ll.lines; codeOpen := true
  if codeOpen then nodes := nodes ++ [{ kind := .code, lines := code }]
  return nodes

theorem parseFile_ofList (cs : List Char) : parseFile (String.ofList cs) = parseFileL cs := by
  unfold parseFile parseFileL
  rw [cFileSource_eq, splitLines_ofList]
  cases cFileSourceL (splitLines.go (cs.length + 1) cs [] []) with
  | error e => rfl
  | ok r =>
    obtain ⟨lls, a, b⟩ := r
    simp only [Except.map, bind, Except.bind, List.forIn_map, LLine.isDirective, LLineL.toLLine, String.toList_ofList,
      parseDirective_ofList]

end CbiVerif.PP
