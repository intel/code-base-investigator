import CbiVerif.Model.MultiFile
import CbiVerif.Props.C01Main
/-! Helper lemmas for C04/C13/C18 about the generic multi-file visitor:
* `visit_simC`: two runs of the associator over the same tree with related semantics stay related, for any relation
  between the two `crash` flags that a raise on both sides establishes; `visit_sim` is the case of equal flags (used for
  invariants — relate a run with itself — and for erasing the memo), and `visit_crash`, the visitor never takes a raise of
  its own bookkeeping (`crash`) back, is the case "the first flag is set" of a run beside itself;
* `sem_evalIf`, `sem_exec_none`, `sem_exec_some`: what the include fuel decides in `sem`;
* `sem_simQ`, `assocFile_simQ`: two related runs across files, by induction on the include fuel (`OpsSim`: what the
  per-directive operations have to satisfy); `assocFile_sim`, `assocFile_invQ`, `assocFile_inv` are its cases `OpsRel`,
  `OpsInvQ`, `OpsInv`;
* `sem_eq_semRef`: tree visitor = flat conditional-stack machine across files. -/
namespace CbiVerif.MF
open CbiVerif.Cond

variable {W W' : Type}

/-- relation between two associator states: related worlds, same `branch_taken`, same attribution -/
structure SRel (R : W → W' → Prop) (st : AState W) (st' : AState W') : Prop where
  env : R st.σ st'.σ
  tk : st.taken = st'.taken
  out : st.out = st'.out
  cr : st.crash = st'.crash

structure SemRel (R : W → W' → Prop) (M : Sem W) (M' : Sem W') : Prop where
  evalIf : ∀ w w' p, R w w' → (M.evalIf w p).1 = (M'.evalIf w' p).1 ∧ R (M.evalIf w p).2 (M'.evalIf w' p).2
  exec : ∀ w w' p, R w w' → R (M.exec w p) (M'.exec w' p)

/-- `SRel` with any relation `C` between the two `crash` flags that a raise on both sides establishes: `SRel` is the case
`Eq`; with `fun a _ => a = true` a run beside itself says that a raise is never taken back -/
structure SRelC (R : W → W' → Prop) (C : Bool → Bool → Prop) (st : AState W) (st' : AState W') : Prop where
  env : R st.σ st'.σ
  tk : st.taken = st'.taken
  out : st.out = st'.out
  cr : C st.crash st'.crash

mutual
theorem visit_simC {R : W → W' → Prop} {C : Bool → Bool → Prop} (hC : C true true) {M : Sem W} {M' : Sem W'}
    (hM : SemRel R M M') :
    ∀ (t : Tree) (st : AState W) (st' : AState W'), SRelC R C st st' → SRelC R C (visit M st t) (visit M' st' t)
  | .node l kids, ⟨σ, tk, out, cr⟩, ⟨σ', _, _, _⟩, ⟨he, rfl, rfl, hc⟩ => by
    cases hk : l.kind with
    | code => simp only [visit, hk]; exact ⟨he, rfl, rfl, hc⟩
    | other => simp only [visit, hk]; exact ⟨hM.exec _ _ _ he, rfl, rfl, hc⟩
    | endk =>
      simp only [visit, hk]
      cases tk with
      | nil => exact ⟨he, rfl, rfl, hC⟩
      | cons _ ts => exact ⟨he, rfl, rfl, hc⟩
    | ifk =>
      simp only [visit, hk]
      obtain ⟨h1, h2⟩ := hM.evalIf σ σ' l.pay he
      rw [← h1]
      cases (M.evalIf σ l.pay).1
      · exact ⟨h2, rfl, rfl, hc⟩
      · exact visitList_simC hC hM kids _ _ ⟨h2, rfl, rfl, hc⟩
    | elifk =>
      simp only [visit, hk]
      cases tk with
      | nil => exact ⟨he, rfl, rfl, hC⟩
      | cons t ts =>
        cases t with
        | true => exact ⟨he, rfl, rfl, hc⟩
        | false =>
          obtain ⟨h1, h2⟩ := hM.evalIf σ σ' l.pay he
          simp only [Bool.false_eq_true, if_false]
          rw [← h1]
          cases (M.evalIf σ l.pay).1
          · exact ⟨h2, rfl, rfl, hc⟩
          · exact visitList_simC hC hM kids _ _ ⟨h2, rfl, rfl, hc⟩
    | elsek =>
      simp only [visit, hk]
      cases tk with
      | nil => exact ⟨he, rfl, rfl, hC⟩
      | cons t ts =>
        cases t with
        | true => exact ⟨he, rfl, rfl, hc⟩
        | false => exact visitList_simC hC hM kids _ _ ⟨he, rfl, rfl, hc⟩
theorem visitList_simC {R : W → W' → Prop} {C : Bool → Bool → Prop} (hC : C true true) {M : Sem W} {M' : Sem W'}
    (hM : SemRel R M M') :
    ∀ (ts : List Tree) (st : AState W) (st' : AState W'), SRelC R C st st' → SRelC R C (visitList M st ts) (visitList M' st' ts)
  | [], _, _, h => h
  | t :: ts, st, st', h => visitList_simC hC hM ts _ _ (visit_simC hC hM t st st' h)
end

theorem visit_sim (R : W → W' → Prop) (M : Sem W) (M' : Sem W') (hM : SemRel R M M') :
    ∀ (t : Tree) (st : AState W) (st' : AState W'), SRel R st st' → SRel R (visit M st t) (visit M' st' t) :=
  fun t st st' h => let ⟨a, b, c, d⟩ := visit_simC (C := Eq) rfl hM t st st' ⟨h.env, h.tk, h.out, h.cr⟩; ⟨a, b, c, d⟩

theorem SemRel.refl (M : Sem W) : SemRel Eq M M :=
  ⟨fun _ _ _ h => h ▸ ⟨rfl, rfl⟩, fun _ _ _ h => h ▸ rfl⟩

theorem visit_crash (M : Sem W) : ∀ (t : Tree) (st : AState W), st.crash = true → (visit M st t).crash = true :=
  fun t st h => (visit_simC (C := fun a _ => a = true) rfl (SemRel.refl M) t st st ⟨rfl, rfl, rfl, h⟩).cr

theorem visitList_crash (M : Sem W) : ∀ (ts : List Tree) (st : AState W), st.crash = true → (visitList M st ts).crash = true :=
  fun ts st h => (visitList_simC (C := fun a _ => a = true) rfl (SemRel.refl M) ts st st ⟨rfl, rfl, rfl, h⟩).cr

/-! ## the semantics of one file at an include depth: what the fuel decides -/

theorem sem_evalIf (F : FileOps W) (d : Nat) (file : String) : (sem F d file).evalIf = F.evalIf file := by
  cases d <;> rfl

theorem sem_exec_none (F : FileOps W) (d : Nat) (file : String) (w : W) (i : Nat) (h : (F.enter file w i).1 = none) :
    (sem F d file).exec w i = (F.enter file w i).2 := by
  cases d <;> simp [sem, h]

theorem sem_exec_some (F : FileOps W) (d : Nat) (file : String) (w : W) (i : Nat) {inc : String}
    (h : (F.enter file w i).1 = some inc) :
    (d = 0 ∧ (sem F d file).exec w i = F.noFuel (F.enter file w i).2) ∨
    ∃ d', d = d' + 1 ∧ (sem F d file).exec w i = assocWith (sem F d' inc) F inc (F.enter file w i).2 := by
  cases d with
  | zero => exact .inl ⟨rfl, by simp [sem, h]⟩
  | succ d' => exact .inr ⟨d', rfl, by simp [sem, h]⟩

/-! ## two runs across files

`OpsSim R Q F F'`: the per-directive operations of `F` and `F'` return the same and keep `R`, inside files that satisfy
`Q`; every file entered from a `Q`-file is a `Q`-file.  `OpsRel` is the case without `Q`. -/

structure OpsSim (R : W → W' → Prop) (Q : String → Prop) (F : FileOps W) (F' : FileOps W') : Prop where
  evalIf : ∀ file w w' i, R w w' →
    (F.evalIf file w i).1 = (F'.evalIf file w' i).1 ∧ R (F.evalIf file w i).2 (F'.evalIf file w' i).2
  enter : ∀ file w w' i, Q file → R w w' →
    (F.enter file w i).1 = (F'.enter file w' i).1 ∧ R (F.enter file w i).2 (F'.enter file w' i).2 ∧
    ∀ inc, (F.enter file w i).1 = some inc → Q inc
  labels : ∀ file, F.labels file = F'.labels file
  record : ∀ w w' file out, Q file → R w w' → R (F.record w file out) (F'.record w' file out)
  noFuel : ∀ w w', R w w' → R (F.noFuel w) (F'.noFuel w')
  crash : ∀ w w', R w w' → R (F.crash w) (F'.crash w')

section
variable {R : W → W' → Prop} {Q : String → Prop} {F : FileOps W} {F' : FileOps W'}

theorem assocWith_simQ (h : OpsSim R Q F F') (M : Sem W) (M' : Sem W') (hM : SemRel R M M') (file : String) (hq : Q file)
    (w : W) (w' : W') (hw : R w w') : R (assocWith M F file w) (assocWith M' F' file w') := by
  unfold assocWith model
  rw [← h.labels file]
  cases build (F.labels file) with
  | none => exact h.crash _ _ hw
  | some ts =>
    have hs := visitList_simC (C := Eq) rfl hM ts { σ := w } { σ := w' } ⟨hw, rfl, rfl, rfl⟩
    simp only [Option.map_some]
    rw [← hs.out, ← hs.cr]
    cases (visitList M { σ := w } ts).crash with
    | true => exact h.record _ _ _ _ hq (h.crash _ _ hs.env)
    | false => exact h.record _ _ _ _ hq hs.env

/-- a non-conditional directive: `k`, `k'` are what entering a file means (out of fuel, or its associator one level down) -/
theorem OpsSim.exec (h : OpsSim R Q F F') {file : String} (hq : Q file) (k : String → W → W) (k' : String → W' → W')
    (hk : ∀ inc v v', Q inc → R v v' → R (k inc v) (k' inc v')) (w : W) (w' : W') (i : Nat) (hw : R w w') :
    R (match (F.enter file w i).1 with | none => (F.enter file w i).2 | some inc => k inc (F.enter file w i).2)
      (match (F'.enter file w' i).1 with | none => (F'.enter file w' i).2 | some inc => k' inc (F'.enter file w' i).2) := by
  obtain ⟨h1, h2, h3⟩ := h.enter file w w' i hq hw
  rw [← h1]
  cases he : (F.enter file w i).1 with
  | none => exact h2
  | some inc => exact hk inc _ _ (h3 inc he) h2

theorem sem_simQ (h : OpsSim R Q F F') : ∀ (n : Nat) (file : String), Q file → SemRel R (sem F n file) (sem F' n file)
  | 0, file, hq => ⟨h.evalIf file, fun w w' i => h.exec hq _ _ (fun _ v v' _ => h.noFuel v v') w w' i⟩
  | n + 1, file, hq => ⟨h.evalIf file, fun w w' i =>
      h.exec hq _ _ (fun inc v v' hi => assocWith_simQ h _ _ (sem_simQ h n inc hi) inc hi v v') w w' i⟩

theorem assocFile_simQ (h : OpsSim R Q F F') (n : Nat) (file : String) (hq : Q file) (w : W) (w' : W') (hw : R w w') :
    R (assocFile F n file w) (assocFile F' n file w') :=
  assocWith_simQ h _ _ (sem_simQ h n file hq) file hq w w' hw

end

structure OpsRel (R : W → W' → Prop) (F : FileOps W) (F' : FileOps W') : Prop where
  evalIf : ∀ file w w' i, R w w' →
    (F.evalIf file w i).1 = (F'.evalIf file w' i).1 ∧ R (F.evalIf file w i).2 (F'.evalIf file w' i).2
  enter : ∀ file w w' i, R w w' →
    (F.enter file w i).1 = (F'.enter file w' i).1 ∧ R (F.enter file w i).2 (F'.enter file w' i).2
  labels : ∀ file, F.labels file = F'.labels file
  record : ∀ w w' file out, R w w' → R (F.record w file out) (F'.record w' file out)
  noFuel : ∀ w w', R w w' → R (F.noFuel w) (F'.noFuel w')
  crash : ∀ w w', R w w' → R (F.crash w) (F'.crash w')

theorem OpsRel.sim {R : W → W' → Prop} {F : FileOps W} {F' : FileOps W'} (h : OpsRel R F F') :
    OpsSim R (fun _ => True) F F' :=
  ⟨h.evalIf, fun f w w' i _ hw => ⟨(h.enter f w w' i hw).1, (h.enter f w w' i hw).2, fun _ _ => trivial⟩, h.labels,
    fun w w' f o _ => h.record w w' f o, h.noFuel, h.crash⟩

theorem sem_sim (R : W → W' → Prop) (F : FileOps W) (F' : FileOps W') (h : OpsRel R F F') (n : Nat) (file : String) :
    SemRel R (sem F n file) (sem F' n file) :=
  sem_simQ h.sim n file trivial

theorem assocFile_sim (R : W → W' → Prop) (F : FileOps W) (F' : FileOps W') (h : OpsRel R F F')
    (n : Nat) (file : String) (w : W) (w' : W') (hw : R w w') :
    R (assocFile F n file w) (assocFile F' n file w') :=
  assocFile_simQ h.sim n file trivial w w' hw

/-! ## invariants of one run

An invariant `P` (`OpsInvQ`; `OpsInv` is the case without `Q`) is the relation `Diag P` of the run with itself. -/

abbrev Diag (P : W → Prop) (a b : W) : Prop := b = a ∧ P a

structure OpsInvQ (P : W → Prop) (Q : String → Prop) (F : FileOps W) : Prop where
  evalIf : ∀ file w i, P w → P (F.evalIf file w i).2
  enter : ∀ file w i, Q file → P w → P (F.enter file w i).2 ∧ ∀ inc, (F.enter file w i).1 = some inc → Q inc
  record : ∀ w file out, Q file → P w → P (F.record w file out)
  noFuel : ∀ w, P w → P (F.noFuel w)
  crash : ∀ w, P w → P (F.crash w)

theorem OpsInvQ.sim {P : W → Prop} {Q : String → Prop} {F : FileOps W} (h : OpsInvQ P Q F) : OpsSim (Diag P) Q F F where
  evalIf f _ _ i := fun ⟨rfl, hw⟩ => ⟨rfl, rfl, h.evalIf f _ i hw⟩
  enter f _ _ i hq := fun ⟨rfl, hw⟩ => ⟨rfl, ⟨rfl, (h.enter f _ i hq hw).1⟩, (h.enter f _ i hq hw).2⟩
  labels _ := rfl
  record _ _ f o hq := fun ⟨rfl, hw⟩ => ⟨rfl, h.record _ f o hq hw⟩
  noFuel _ _ := fun ⟨rfl, hw⟩ => ⟨rfl, h.noFuel _ hw⟩
  crash _ _ := fun ⟨rfl, hw⟩ => ⟨rfl, h.crash _ hw⟩

theorem OpsSim.invQ {P : W → Prop} {Q : String → Prop} {F : FileOps W} (h : OpsSim (Diag P) Q F F) : OpsInvQ P Q F where
  evalIf f w i hw := (h.evalIf f w w i ⟨rfl, hw⟩).2.2
  enter f w i hq hw := ⟨(h.enter f w w i hq ⟨rfl, hw⟩).2.1.2, (h.enter f w w i hq ⟨rfl, hw⟩).2.2⟩
  record w f o hq hw := (h.record w w f o hq ⟨rfl, hw⟩).2
  noFuel w hw := (h.noFuel w w ⟨rfl, hw⟩).2
  crash w hw := (h.crash w w ⟨rfl, hw⟩).2

theorem assocFile_invQ (P : W → Prop) (Q : String → Prop) (F : FileOps W) (h : OpsInvQ P Q F) (n : Nat)
    (file : String) (hq : Q file) (w : W) (hw : P w) : P (assocFile F n file w) :=
  (assocFile_simQ h.sim n file hq w w ⟨rfl, hw⟩).2

structure OpsInv (P : W → Prop) (F : FileOps W) : Prop where
  evalIf : ∀ file w i, P w → P (F.evalIf file w i).2
  enter : ∀ file w i, P w → P (F.enter file w i).2
  record : ∀ w file out, P w → P (F.record w file out)
  noFuel : ∀ w, P w → P (F.noFuel w)
  crash : ∀ w, P w → P (F.crash w)

theorem OpsInv.toQ {P : W → Prop} {F : FileOps W} (h : OpsInv P F) : OpsInvQ P (fun _ => True) F :=
  ⟨h.evalIf, fun f w i _ hw => ⟨h.enter f w i hw, fun _ _ => trivial⟩, fun w f o _ hw => h.record w f o hw, h.noFuel, h.crash⟩

theorem assocFile_inv (P : W → Prop) (F : FileOps W) (h : OpsInv P F) (n : Nat) (file : String) (w : W) (hw : P w) :
    P (assocFile F n file w) :=
  assocFile_invQ P _ F h.toQ n file trivial w hw

/-! ## tree visitor = flat machine, across files -/

/-- every file is a structured (well-nested) program -/
def WellNested (F : FileOps W) : Prop := ∀ file, ∃ b : Block, F.labels file = b.lines

theorem assocWith_eq_ref (F : FileOps W) (hwf : WellNested F) (M : Sem W) (file : String) (w : W) :
    assocWith M F file w = runFileRef' M F file w := by
  obtain ⟨b, hb⟩ := hwf file
  unfold assocWith runFileRef'
  rw [hb]
  obtain ⟨a, hm, ho, hs, hc, _, hwn⟩ := CbiVerif.C01.main M w b
  have hbad : (reference M w b.lines).bad = false := by
    simp only [RState.wellNested, Bool.and_eq_true, Bool.not_eq_true'] at hwn
    exact hwn.1
  simp only [hm, hc, hbad, Bool.false_eq_true, if_false, ho, hs]

theorem sem_eq_semRef (F : FileOps W) (hwf : WellNested F) : ∀ (n : Nat) (file : String), sem F n file = semRef F n file
  | 0, file => rfl
  | n + 1, file => by
    simp only [sem, semRef]
    congr 1
    funext w i
    cases (F.enter file w i).1 with
    | none => rfl
    | some inc =>
      simp only []
      rw [assocWith_eq_ref F hwf, sem_eq_semRef F hwf n inc]

theorem assocFile_eq_ref (F : FileOps W) (hwf : WellNested F) (n : Nat) (file : String) (w : W) :
    assocFile F n file w = runFileRef F n file w := by
  unfold assocFile runFileRef
  rw [assocWith_eq_ref F hwf, sem_eq_semRef F hwf n file]

end CbiVerif.MF
