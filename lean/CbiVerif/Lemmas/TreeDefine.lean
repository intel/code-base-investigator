import CbiVerif.Model.Assoc
/-! Lemmas for `C01.define_order`: the flat machine run with CBI's keep-first `#define`
(`semCBI`) and with C's overwrite `#define` (`semC`) stay *equal* as long as the reference
has not raised its redefinition diagnostic; the diagnostic is sticky. -/
namespace CbiVerif.Cond
variable {B E : Type} [DecidableEq B]

theorem defineC_diag_mono (w : MWorld B E) (n : String) (b : B) (h : w.diag = true) :
    (w.defineC n b).diag = true := by
  unfold MWorld.defineC
  cases lookup w.tbl n with
  | none => simpa using h
  | some b' => by_cases hb : b' = b <;> simp [hb, h]

theorem execC_diag_mono (L : Lang B E) (w : MWorld B E) (p : Nat) (h : w.diag = true) :
    (MWorld.execC L w p).diag = true := by
  unfold MWorld.execC
  cases w.err with
  | some e => simpa using h
  | none =>
    cases L.act p with
    | define n b => exact defineC_diag_mono w n b h
    | undef n => simpa [MWorld.undef] using h
    | fail e => simpa using h
    | nop => simpa using h

omit [DecidableEq B] in
theorem evalIf_diag (L : Lang B E) (w : MWorld B E) (p : Nat) :
    (MWorld.evalIf L w p).2.diag = w.diag := by
  unfold MWorld.evalIf
  cases w.err with
  | some e => rfl
  | none => cases L.cond w.tbl p <;> rfl

theorem refStep_diag_mono (L : Lang B E) (r : RState (MWorld B E)) (l : Lbl) (h : r.σ.diag = true) :
    (refStep (semC L) r l).σ.diag = true := by
  have he := fun p => (evalIf_diag L r.σ p).trans h
  -- in every branch of `refStep` the world is the old one, or that after `#if/#elif` evaluation, or after a directive
  fun_cases refStep (semC L) r l <;> first | exact h | exact he _ | exact execC_diag_mono L _ _ h

theorem refRun_diag_mono (L : Lang B E) (ls : List Lbl) (r : RState (MWorld B E)) (h : r.σ.diag = true) :
    (refRun (semC L) r ls).σ.diag = true := by
  induction ls generalizing r with
  | nil => exact h
  | cons l ls ih => exact ih _ (refStep_diag_mono L r l h)

/-- one `#define`: keep-first and overwrite coincide unless the diagnostic is raised -/
theorem define_agree (w : MWorld B E) (n : String) (b : B) :
    (w.defineC n b).diag = true ∨ w.defineCBI n b = w.defineC n b := by
  unfold MWorld.defineC MWorld.defineCBI
  cases lookup w.tbl n with
  | none => exact Or.inr rfl
  | some b' => by_cases hb : b' = b <;> simp [hb]

theorem exec_agree (L : Lang B E) (w : MWorld B E) (p : Nat) :
    (MWorld.execC L w p).diag = true ∨ MWorld.execCBI L w p = MWorld.execC L w p := by
  unfold MWorld.execC MWorld.execCBI
  cases w.err with
  | some e => exact Or.inr rfl
  | none =>
    cases L.act p with
    | define n b => exact define_agree w n b
    | undef n => exact Or.inr rfl
    | fail e => exact Or.inr rfl
    | nop => exact Or.inr rfl

/-- the two runs are in step: either the reference has diagnosed a redefinition, or the states are equal -/
def Sync (r1 r2 : RState (MWorld B E)) : Prop := r2.σ.diag = true ∨ r1 = r2

theorem refStep_sync (L : Lang B E) (r1 r2 : RState (MWorld B E)) (l : Lbl) (h : Sync r1 r2) :
    Sync (refStep (semCBI L) r1 l) (refStep (semC L) r2 l) := by
  rcases h with h | h
  · exact Or.inl (refStep_diag_mono L r2 l h)
  · subst h
    obtain ⟨id, k, p⟩ := l
    cases k with
    | other =>
      simp only [refStep, semCBI, semC]
      cases r1.active with
      | false => exact Or.inr rfl
      | true =>
        simp only [if_true]
        rcases exec_agree L r1.σ p with h | h
        · exact Or.inl h
        · exact Or.inr (by rw [h])
    | _ => exact Or.inr rfl  -- only a non-conditional directive is executed: the two meanings differ in `exec` alone

theorem refRun_sync (L : Lang B E) (ls : List Lbl) (r1 r2 : RState (MWorld B E)) (h : Sync r1 r2) :
    Sync (refRun (semCBI L) r1 ls) (refRun (semC L) r2 ls) := by
  induction ls generalizing r1 r2 with
  | nil => exact h
  | cons l ls ih => exact ih _ _ (refStep_sync L r1 r2 l h)

end CbiVerif.Cond
