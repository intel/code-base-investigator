import CbiVerif.Lemmas.EnginesAgreeBase
import CbiVerif.Lemmas.MultiFile
/-! Helper lemmas for `Props/C04Engines.lean`, part 2: the simulation between `Exclude.visitRef` (tree of node
indices, fuel per step, attribution at every node) and `Cond.visit` under `MF.sem (Inc.ops …)` (tree of labels,
fuel = include depth, attribution recorded per file after the walk), by induction on the include depth and, inside,
on the tree. -/
namespace CbiVerif.Engines
open CbiVerif.PP CbiVerif.Exclude CbiVerif.Cond CbiVerif.MF

/-! ## the relation -/

/-- attributions that are pending in the C04 engine: the nodes `out` of `file` walked so far, plus `E` (the
pending nodes of the including files) -/
def Pend (E : String → Nat → String → Prop) (file name : String) (out : List Nat) : String → Nat → String → Prop :=
  fun f i p => (f = file ∧ p = name ∧ i ∈ out) ∨ E f i p

structure RelW (E : String → Nat → String → Prop) (name : String) (l : Local) (w : Inc.World) : Prop where
  lerr : l.err = none
  werr : w.st.err = none
  plat : w.plat = cv l.plat
  nm : l.plat.name = name
  att : ∀ f i p, Has l.assoc f i p ↔ (Has w.st.assoc f i p ∨ E f i p)

structure Rel (E : String → Nat → String → Prop) (file name : String) (l : Local) (a : AState Inc.World) : Prop where
  cr : a.crash = false
  tk : a.taken = l.taken
  w : RelW (Pend E file name a.out) name l a.σ

/-- the C04 engine has failed (sticky) -/
def BadA (a : AState Inc.World) : Prop := a.crash = true ∨ a.σ.st.err ≠ none

def Out3 (E : String → Nat → String → Prop) (file name : String) (l : Local) (a : AState Inc.World) : Prop :=
  l.err ≠ none ∨ BadA a ∨ Rel E file name l a

section
variable {E : String → Nat → String → Prop} {file name : String} {l : Local} {w : Inc.World} {a : AState Inc.World}

theorem att_push {out : List Nat} {la wa : AssocL}
    (h : ∀ f i p, Has la f i p ↔ (Has wa f i p ∨ Pend E file name out f i p)) (j : Nat) :
    ∀ f i p, Has (addAssoc la file j name) f i p ↔ (Has wa f i p ∨ Pend E file name (out ++ [j]) f i p) := by
  intro f i p
  rw [has_addAssoc, h]
  simp only [Pend, List.mem_append, List.mem_singleton]
  constructor
  · rintro ((h | (h | h)) | ⟨h1, h2, h3⟩)
    · exact .inl h
    · exact .inr (.inl ⟨h.1, h.2.1, .inl h.2.2⟩)
    · exact .inr (.inr h)
    · exact .inr (.inl ⟨h1, h3, .inr h2⟩)
  · rintro (h | (⟨h1, h2, h3 | h3⟩ | h))
    · exact .inl (.inl h)
    · exact .inl (.inr (.inl ⟨h1, h2, h3⟩))
    · exact .inr ⟨h1, h3, h2⟩
    · exact .inl (.inr (.inr h))

/-- node `idx` of `file` is visited and neither engine touches its world; `tk` is the new `branch_taken` -/
theorem Rel.node (hr : Rel E file name l a) (idx : Nat) (tk : List Bool) :
    Rel E file name { l with assoc := addAssoc l.assoc file idx l.plat.name, taken := tk }
      { a with out := a.out ++ [idx], taken := tk } :=
  ⟨hr.cr, rfl, ⟨hr.w.lerr, hr.w.werr, hr.w.plat, hr.w.nm, by rw [hr.w.nm]; exact att_push hr.w.att idx⟩⟩

/-- entering a file: none of its nodes is pending yet -/
theorem RelW.start (h : RelW E name l w) (g : String) : Rel E g name { l with taken := [] } { σ := w } :=
  ⟨rfl, rfl, ⟨h.lerr, h.werr, h.plat, h.nm, fun f i p => by rw [h.att]; simp [Pend]⟩⟩

/-- a directive other than `#include` has set macro table and once-list on both sides -/
theorem RelW.setPlat (h : RelW E name l w) (ts : Table × List String) :
    RelW E name { l with plat := { l.plat with tbl := ts.1, skip := ts.2 } } (w.setPlat ts) :=
  ⟨h.lerr, h.werr, by simp only [Inc.World.setPlat, h.plat]; rfl, h.nm, h.att⟩

/-- leaving a file: `FileOps.record` attributes the nodes walked, which stop being pending -/
theorem Rel.record (h : Rel E file name l a) (fs : Inc.FS) (pfs : Inc.ParsedFS) : RelW E name l ((Inc.ops fs pfs).record a.σ file a.out) := by
  have hw := h.w
  refine ⟨hw.lerr, (Inc.foldl_addAssoc_frame a.out _ file _).2.2.2.2.trans hw.werr, hw.plat, hw.nm, fun f i p => ?_⟩
  show _ ↔ (Has (Inc.PState.assoc (List.foldl _ _ _)) f i p ∨ _)
  rw [has_record, hw.att, show a.σ.plat.name = name by rw [hw.plat]; exact hw.nm]
  exact or_assoc.symm

/-- the memoised look-up of an include request from related worlds finds the same file and leaves the worlds related -/
theorem lookup_rel (fs : Inc.FS) (h : fs.links = []) (hr : RelW E name l w) (nm file : String) (sys : Bool) (idx line : Nat) :
    (w.lookup true fs file idx line nm sys).1 = (l.plat.findInclude fs.files nm (dirname file) sys).1 ∧
    RelW E name { l with plat := (l.plat.findInclude fs.files nm (dirname file) sys).2 } (w.lookup true fs file idx line nm sys).2 := by
  obtain ⟨hlk, hfi⟩ := findInclude_eq fs h l.plat nm (dirname file) sys
  unfold Inc.World.lookup
  simp only [hr.plat, cv, FindEngines.dirnameK_eq, hlk]
  exact ⟨trivial, hr.lerr, hr.werr, by rw [hfi]; rfl, by rw [hfi]; exact hr.nm, hr.att⟩

/-- an include request (`#include` or `-include`) from related worlds: the look-up leaves them related, and the C04 engine
enters the file exactly if the other engine finds it off the once-list (and it parses) -/
theorem request_rel (fs : Inc.FS) (h : fs.links = []) (pfs : Inc.ParsedFS) (hr : RelW E name l w) (nm file : String) (sys : Bool) (idx line : Nat)
    {fi : Option String × PP.Platform} (hfi : l.plat.findInclude fs.files nm (dirname file) sys = fi)
    {r : Option String × Inc.World} (hreq : Inc.request true fs pfs file idx line nm sys w = r) :
    match fi.1 with
    | none => r.1 = none ∧ RelW E name { l with plat := fi.2 } r.2
    | some inc =>
      if fi.2.skip.contains inc then r.1 = none ∧ RelW E name { l with plat := fi.2 } r.2
      else ∀ P, pfs.get inc = some (.ok P) → r.1 = some inc ∧ RelW E name { l with plat := fi.2 } r.2 := by
  obtain ⟨h1, h2⟩ := lookup_rel fs h hr nm file sys idx line
  subst hfi hreq
  unfold Inc.request
  simp only [Inc.realpath_id fs h]
  generalize w.lookup true fs file idx line nm sys = lk at h1 h2 ⊢
  generalize l.plat.findInclude fs.files nm (dirname file) sys = fi at h1 h2 ⊢
  obtain ⟨r1, w1⟩ := lk
  obtain ⟨_, p2⟩ := fi
  subst h1
  cases r1 with
  | none => exact ⟨rfl, h2⟩
  | some inc =>
    dsimp only
    rw [show w1.plat.skip = p2.skip by rw [h2.plat]; rfl]
    split
    · exact ⟨rfl, h2⟩
    · intro P hP
      have he := Inc.insertFile_err_none w1.st pfs inc P h2.werr hP
      exact ⟨by rw [he]; rfl, h2.lerr, he, h2.plat, h2.nm, by rw [(Inc.insertFile_frame _ pfs inc).2.2]; exact h2.att⟩

end

/-! ## stickiness of failure in the C04 engine -/

def ErrW (w : Inc.World) : Prop := w.st.err ≠ none

theorem errW (m : Bool) (fs : Inc.FS) (pfs : Inc.ParsedFS) : Inc.Inv m fs pfs ErrW (fun _ => True) where
  setErr e _ := Option.some_ne_none e
  setPlat _ h _ := h
  lookup _ _ _ _ _ h := h
  insertFile f h := by
    unfold Inc.PState.insertFile
    rw [if_pos (by simp [Option.isSome_iff_ne_none.mpr h])]
    exact h
  record file out _ h := by
    simp only [Inc.opsWith, ErrW]
    rw [(Inc.foldl_addAssoc_frame out _ file _).2.2.2.2]
    exact h
  next _ _ _ _ _ _ _ _ _ _ _ := trivial

/-- … so a failed walk is recorded as a failed world -/
theorem BadA.record {a : AState Inc.World} (h : BadA a) (fs : Inc.FS) (pfs : Inc.ParsedFS) (g : String) :
    ErrW ((Inc.ops fs pfs).record (if a.crash then (Inc.ops fs pfs).crash a.σ else a.σ) g a.out) := by
  refine (errW true fs pfs).record g _ trivial ?_
  split
  · exact Option.some_ne_none Err.index
  · exact h.resolve_left ‹_›

theorem sem_errW (fs : Inc.FS) (pfs : Inc.ParsedFS) (d : Nat) (file : String) :
    (∀ w p, ErrW w → ErrW ((MF.sem (Inc.ops fs pfs) d file).evalIf w p).2) ∧
    (∀ w p, ErrW w → ErrW ((MF.sem (Inc.ops fs pfs) d file).exec w p)) := by
  have h := sem_simQ (errW true fs pfs).steps.opsSim d file trivial
  exact ⟨fun w p hw => (h.evalIf w w p ⟨rfl, hw⟩).2.2, fun w p hw => (h.exec w w p ⟨rfl, hw⟩).2⟩

theorem visit_bad (M : Sem Inc.World) (hM : (∀ w p, ErrW w → ErrW (M.evalIf w p).2) ∧ (∀ w p, ErrW w → ErrW (M.exec w p))) :
    ∀ (t : Tree) (a : AState Inc.World), BadA a → BadA (Cond.visit M a t) :=
  fun t a h => h.imp (visit_crash M t a) fun h =>
    (visit_sim (Diag ErrW) M M ⟨fun _ _ p ⟨rfl, hw⟩ => ⟨rfl, rfl, hM.1 _ p hw⟩, fun _ _ p ⟨rfl, hw⟩ => ⟨rfl, hM.2 _ p hw⟩⟩
      t a a ⟨⟨rfl, h⟩, rfl, rfl, rfl⟩).env.2

theorem visitList_bad (M : Sem Inc.World) (hM : (∀ w p, ErrW w → ErrW (M.evalIf w p).2) ∧ (∀ w p, ErrW w → ErrW (M.exec w p))) :
    ∀ (ts : List Tree) (a : AState Inc.World), BadA a → BadA (Cond.visitList M a ts)
  | [], _, h => h
  | t :: ts, a, h => visitList_bad M hM ts _ (visit_bad M hM t a h)

/-! ## stickiness of failure in the engine of `Model/Exclude.lean` -/

theorem visitListRef_err (S : Exclude.Sem) : ∀ (ts : List PTree) (m : Nat) (file : String) (cl : LClass) (nodes : Array PNode) (l : Local),
    l.err ≠ none → (visitListRef S m file cl nodes l ts).err ≠ none
  | [], m, file, cl, nodes, l, h => by cases m <;> simpa [visitListRef] using h
  | t :: ts, 0, file, cl, nodes, l, h => by simp [visitListRef, Local.fail]
  | t :: ts, m + 1, file, cl, nodes, l, h => by
    simp only [visitListRef]
    apply visitListRef_err S ts m
    cases m with
    | zero => simp [visitRef, Local.fail]
    | succ m =>
      obtain ⟨idx, kids⟩ := t
      simp only [visitRef]
      cases he : l.err with
      | none => exact absurd he h
      | some e => simpa using h

/-! ## one node -/

/-- agreement of the two engines on one whole file at include depth `d` (induction hypothesis of the simulation) -/
def FileAgree (fs : Inc.FS) (name : String) (d : Nat) : Prop :=
  ∀ (g : String) (m : Nat) (nodes : List PNode) (ts : List Tree) (dd : List Warn.Directive)
    (E : String → Nat → String → Prop) (l : Local) (w : Inc.World),
    (Inc.parseAll fs).get g = some (.ok ⟨nodes.toArray, labels nodes, dd⟩) → build (labels nodes) = some ts →
    RelW E name l w →
    (assocTreeRef (Exclude.sem fs.files) m g .c (nodes.toArray, toPTrees ts) l).err ≠ none ∨
    (assocWith (MF.sem (Inc.ops fs (Inc.parseAll fs)) d g) (Inc.ops fs (Inc.parseAll fs)) g w).st.err ≠ none ∨
    (RelW E name (assocTreeRef (Exclude.sem fs.files) m g .c (nodes.toArray, toPTrees ts) l)
        (assocWith (MF.sem (Inc.ops fs (Inc.parseAll fs)) d g) (Inc.ops fs (Inc.parseAll fs)) g w) ∧
      (assocTreeRef (Exclude.sem fs.files) m g .c (nodes.toArray, toPTrees ts) l).taken = l.taken)

/-- a directive other than `#include` and the conditionals: `stepNode` applies `Inc.directive` to the macro table and the
once-list of the `Platform` object, as `Inc.enter` does (`Inc.enter_eq`) -/
theorem stepNode_directive (fsm : FSMap) (file : String) (idx : Nat) (n : PNode) (l0 : Local)
    (hk : kindOf n.kind = .other) (hi : n.kind ≠ .include) :
    stepNode fsm file idx n l0 =
      match Inc.directive file n l0.plat.tbl l0.plat.skip with
      | .ok ts => ({ l0 with assoc := addAssoc l0.assoc file idx l0.plat.name,
                             plat := { l0.plat with tbl := ts.1, skip := ts.2 } }, Act.stay)
      | .error e => (({ l0 with assoc := addAssoc l0.assoc file idx l0.plat.name } : Local).fail e, Act.stay) := by
  unfold stepNode Inc.directive
  cases hkk : n.kind <;> simp only [hkk, kindOf, reduceCtorEq, ne_eq, not_true_eq_false] at hk hi ⊢
  case define => cases makeMacro n.name n.margs n.toks with
    | error e => rfl
    | ok mc => dsimp only; split <;> rfl
  case pragma => cases n.toks with
    | nil => rfl
    | cons t ts => dsimp only; split <;> rfl
  all_goals rfl

theorem step_include (fsm : FSMap) (file : String) (idx : Nat) (n : PNode) (l0 : Local) (hk : n.kind = .include) :
    stepNode fsm file idx n l0 =
      (match Inc.includeTarget l0.plat.tbl n.toks with
       | .error e => (({ l0 with assoc := addAssoc l0.assoc file idx l0.plat.name } : Local).fail e, Act.stay)
       | .ok ps =>
         match (l0.plat.findInclude fsm ps.1 (dirname file) ps.2).1 with
         | none => ({ l0 with assoc := addAssoc l0.assoc file idx l0.plat.name,
                              plat := (l0.plat.findInclude fsm ps.1 (dirname file) ps.2).2,
                              warns := l0.warns ++ [if ps.2 then .sysInclude file (n.lines.headD 0) ps.1 else .userInclude file (n.lines.headD 0) ps.1] }, Act.stay)
         | some inc =>
           if (l0.plat.findInclude fsm ps.1 (dirname file) ps.2).2.skip.contains inc
           then ({ l0 with assoc := addAssoc l0.assoc file idx l0.plat.name, plat := (l0.plat.findInclude fsm ps.1 (dirname file) ps.2).2 }, Act.stay)
           else ({ l0 with assoc := addAssoc l0.assoc file idx l0.plat.name, plat := (l0.plat.findInclude fsm ps.1 (dirname file) ps.2).2 }, Act.incl inc)) := by
  unfold stepNode Inc.includeTarget
  simp only [hk]
  cases includePath n.toks with
  | some r =>
    simp only []
    cases (l0.plat.findInclude fsm r.1 (dirname file) r.2).1 <;> rfl
  | none =>
    simp only []
    cases runExpandT l0.plat.tbl n.toks with
    | ok ts =>
      simp only []
      cases includePath ts with
      | none => rfl
      | some r => simp only []; cases (l0.plat.findInclude fsm r.1 (dirname file) r.2).1 <;> rfl
    | error e => rfl
    | sig s => rfl

/-- the same two forms for the C04 engine (`Inc.enter_eq` at a node that exists, flag clear) -/
theorem enter_directive (fs : Inc.FS) (pfs : Inc.ParsedFS) {file : String} {w : Inc.World} {idx : Nat} {n : PNode}
    (hw : w.st.err = none) (hn : pfs.node file idx = some n) (hi : n.kind ≠ .include) :
    (Inc.ops fs pfs).enter file w idx =
      match Inc.directive file n w.plat.tbl w.plat.skip with
      | .ok ts => (none, w.setPlat ts)
      | .error e => (none, w.setErr e) := by
  show Inc.enter true fs pfs file w idx = _
  rw [Inc.enter_eq]
  simp only [hw, hn, hi, if_false]
  rfl

theorem enter_include (fs : Inc.FS) (pfs : Inc.ParsedFS) {file : String} {w : Inc.World} {idx : Nat} {n : PNode}
    (hw : w.st.err = none) (hn : pfs.node file idx = some n) (hk : n.kind = .include) {ps : String × Bool}
    (hit : Inc.includeTarget w.plat.tbl n.toks = .ok ps) :
    (Inc.ops fs pfs).enter file w idx = Inc.request true fs pfs file idx (n.lines.headD 0) ps.1 ps.2 w := by
  show Inc.enter true fs pfs file w idx = _
  rw [Inc.enter_eq]
  simp only [hw, hn, hk, if_true]
  rw [Inc.includeStep_eq, hit]

/-- the parse step of `Exclude.sem` for a file whose class (given the inherited one) is C whenever it exists, against the
parsed file system of the C04 engine -/
theorem enterRef_cases (fs : Inc.FS) (loc : Local) (g : String) (inh : Option LClass)
    (href : ∀ text, fs.files.get g = some text → (Exclude.sem fs.files).refClass g inh = some .c) :
    (∃ l1, (Exclude.sem fs.files).enterRef loc g inh = (l1, none) ∧ l1.err ≠ none) ∨
    (∃ (nodes : List PNode) (ts : List Tree) (dd : List Warn.Directive),
      (Inc.parseAll fs).get g = some (.ok ⟨nodes.toArray, labels nodes, dd⟩) ∧ build (labels nodes) = some ts ∧
      (Exclude.sem fs.files).enterRef loc g inh = (loc, some (.c, (nodes.toArray, toPTrees ts)))) := by
  cases hg : fs.files.get g with
  | none =>
    left
    simp only [Exclude.Sem.enterRef]
    cases (Exclude.sem fs.files).refClass g inh with
    | none => exact ⟨_, rfl, by simp [Local.fail]⟩
    | some cl =>
      simp only [Exclude.sem, parseAsFS, hg]
      exact ⟨_, rfl, by simp [Local.fail]⟩
  | some text =>
    simp only [Exclude.Sem.enterRef, href text hg]
    simp only [Exclude.sem, parseAsFS, hg, parseAll_get, Option.map_some]
    rcases parse_rel text with ⟨e0, _, ⟨e1, h1⟩, ⟨e2, h2⟩⟩ | ⟨nodes, _, _, ⟨e1, h1⟩, ⟨e2, h2⟩⟩ | ⟨nodes, ts, dd, _, hb, h1, h2⟩
    · left; rw [h2]; exact ⟨_, rfl, by simp [Local.fail]⟩
    · left; rw [h2]; exact ⟨_, rfl, by simp [Local.fail]⟩
    · right; exact ⟨nodes, ts, dd, by rw [h1], hb, by simp [h2]⟩

/-- a non-conditional directive (`#define`, `#undef`, `#pragma`, `#include`, unrecognised): the step of
`Exclude.visitRef` against `Sem.exec` of the C04 engine -/
theorem other_step (fs : Inc.FS) (hl : fs.links = []) (hfam : FindInst.CFam fs.files = true) (name : String) (d : Nat)
    (ih : ∀ d', d' < d → FileAgree fs name d')
    (m : Nat) (file : String) (nodes : Array PNode) (E : String → Nat → String → Prop) (l : Local)
    (a : AState Inc.World) (idx : Nat) (kids : List PTree) (n : PNode)
    (hnode : ∀ i, (Inc.parseAll fs).node file i = nodes[i]?) (hn : nodes[idx]? = some n)
    (hk : kindOf n.kind = .other) (hr : Rel E file name l a) :
    Out3 E file name (visitRef (Exclude.sem fs.files) (m + 1) file .c nodes l (.node idx kids))
      { a with out := a.out ++ [idx], σ := (MF.sem (Inc.ops fs (Inc.parseAll fs)) d file).exec a.σ idx } := by
  have hgetE : nodes[idx]! = n := by simp [getElem!_def, hn]
  have hnodeI : (Inc.parseAll fs).node file idx = some n := by rw [hnode, hn]
  have hlerr := hr.w.lerr
  have hcr := hr.cr
  have htk := hr.tk
  -- both engines attribute the node; the rest of the step acts on the worlds
  have hw : RelW (Pend E file name (a.out ++ [idx])) name { l with assoc := addAssoc l.assoc file idx l.plat.name } a.σ :=
    (hr.node idx l.taken).w
  have htbl : a.σ.plat.tbl = l.plat.tbl := by rw [hw.plat]; rfl
  simp only [visitRef, hlerr, hgetE]
  rw [show (Exclude.sem fs.files).step = stepNode fs.files from rfl]
  by_cases hkk : n.kind = .include
  case neg =>
    -- both engines apply `Inc.directive` to the same macro table and once-list
    rw [stepNode_directive fs.files file idx n l hk hkk]
    have he := enter_directive fs (Inc.parseAll fs) hw.werr hnodeI hkk
    simp only [hw.plat, cv] at he
    cases hd : Inc.directive file n l.plat.tbl l.plat.skip with
    | error e => left; simp [Local.fail]
    | ok ts =>
      rw [hd] at he
      rw [sem_exec_none _ d file a.σ idx (by rw [he]), he]
      exact .inr (.inr ⟨hcr, htk, hw.setPlat ts⟩)
  case pos =>
    rw [step_include fs.files file idx n l hkk]
    cases hit : Inc.includeTarget l.plat.tbl n.toks with
    | error e => left; simp [Local.fail]
    | ok ps =>
      simp only []
      have he := enter_include fs (Inc.parseAll fs) hw.werr hnodeI hkk (htbl ▸ hit)
      have hreq := request_rel fs hl (Inc.parseAll fs) hw ps.1 file ps.2 idx (n.lines.headD 0) rfl he.symm
      cases hfound : (l.plat.findInclude fs.files ps.1 (dirname file) ps.2).1 with
      | none =>
        rw [hfound] at hreq
        simp only []
        rw [sem_exec_none _ d file a.σ idx hreq.1]
        exact .inr (.inr ⟨hcr, htk, hreq.2.lerr, hreq.2.werr, hreq.2.plat, hreq.2.nm, hreq.2.att⟩)
      | some inc =>
        rw [hfound] at hreq
        simp only [] at hreq ⊢
        by_cases hsk : (l.plat.findInclude fs.files ps.1 (dirname file) ps.2).2.skip.contains inc = true
        · rw [if_pos hsk] at hreq ⊢
          rw [sem_exec_none _ d file a.σ idx hreq.1]
          exact .inr (.inr ⟨hcr, htk, hreq.2⟩)
        · rw [if_neg hsk] at hreq ⊢
          simp only []
          rcases enterRef_cases fs
            { l with assoc := addAssoc l.assoc file idx l.plat.name, plat := (l.plat.findInclude fs.files ps.1 (dirname file) ps.2).2 } inc
            (some .c) (fun text hg => FindEngines.refClass_cfam hfam (by rw [hg]; rfl))
            with ⟨l1, hen, hl1⟩ | ⟨nodes', ts', dd, hpg, hb, hen⟩
          · rw [hen]; exact .inl hl1
          · rw [hen]
            simp only []
            obtain ⟨h1, hrel⟩ := hreq _ hpg
            rcases sem_exec_some (Inc.ops fs (Inc.parseAll fs)) d file a.σ idx h1 with ⟨_, hx⟩ | ⟨d', hd', hx⟩
            · right; left; right
              rw [hx]
              simp [Inc.ops, Inc.opsWith, Inc.World.setErr]
            · rw [hx]
              rcases ih d' (by omega) inc m nodes' ts' dd _ _ _ hpg hb hrel with h | h | ⟨h, ht⟩
              · exact .inl h
              · exact .inr (.inl (.inr h))
              · exact .inr (.inr ⟨hcr, by rw [ht]; exact htk, h⟩)

/-! ## one tree (mutual induction on the tree), one file (induction on the include depth) -/

theorem evalCondL_ok (l : Local) (toks : List Tok) (b : Bool) (h : l.err = none) (hc : condValue l.plat.tbl toks = .ok b) :
    evalCondL l toks = (b, l) := by simp only [evalCondL, h, hc]

theorem evalCondL_err (l : Local) (toks : List Tok) (e : Err) (h : l.err = none)
    (hc : condValue l.plat.tbl toks = .error e) : evalCondL l toks = (false, l.fail e) := by simp only [evalCondL, h, hc]

theorem evalCondW_ok (w : Inc.World) (toks : List Tok) (b : Bool) (h : w.st.err = none)
    (hc : condValue w.plat.tbl toks = .ok b) : Inc.evalCondW w toks = (b, w) := by simp only [Inc.evalCondW, h, hc]

/-- a controlling expression from the same macro table: the engine of `Model/Exclude.lean` fails, or both leave their
worlds alone and find the same value -/
theorem evalCond_rel (l : Local) (w : Inc.World) (toks : List Tok) (hl : l.err = none) (hw : w.st.err = none)
    (ht : w.plat.tbl = l.plat.tbl) :
    (∃ e, evalCondL l toks = (false, l.fail e)) ∨ ∃ b, evalCondL l toks = (b, l) ∧ Inc.evalCondW w toks = (b, w) := by
  cases hc : condValue l.plat.tbl toks with
  | error e => exact .inl ⟨e, evalCondL_err l toks e hl hc⟩
  | ok b => exact .inr ⟨b, evalCondL_ok l toks b hl hc, evalCondW_ok w toks b hw (ht ▸ hc)⟩

mutual
theorem visit_step (fs : Inc.FS) (hl : fs.links = []) (hfam : FindInst.CFam fs.files = true) (name : String) (d : Nat)
    (ih : ∀ d', d' < d → FileAgree fs name d') :
    ∀ (t : Tree) (m : Nat) (file : String) (nodes : Array PNode) (E : String → Nat → String → Prop) (l : Local)
      (a : AState Inc.World), (∀ i, (Inc.parseAll fs).node file i = nodes[i]?) → (∀ x ∈ lblsT t, LblOK nodes x) →
      Rel E file name l a →
      Out3 E file name (visitRef (Exclude.sem fs.files) m file .c nodes l (toPTree t))
        (Cond.visit (MF.sem (Inc.ops fs (Inc.parseAll fs)) d file) a t)
  | .node lb kids, m, file, nodes, E, l, a, hnode, hok, hr => by
    cases m with
    | zero => left; simp [visitRef, Local.fail]
    | succ m =>
      obtain ⟨n, hn, hkind, hpay⟩ := hok lb (by simp [lblsT])
      have hkids : ∀ x ∈ lblsTs kids, LblOK nodes x := fun x hx => hok x (by simp [lblsT, hx])
      by_cases hko : kindOf n.kind = .other
      · have := other_step fs hl hfam name d ih m file nodes E l a lb.id (toPTrees kids) n hnode hn hko hr
        simp only [toPTree, Cond.visit, hkind, hpay, hko, payOf]
        exact this
      have hgetE : nodes[lb.id]! = n := by simp [getElem!_def, hn]
      have hnodeI : (Inc.parseAll fs).node file lb.id = some n := by rw [hnode, hn]
      have hstep : (Exclude.sem fs.files).step = stepNode fs.files := rfl
      have htk := hr.tk
      have hw := hr.w
      have htbl : a.σ.plat.tbl = l.plat.tbl := by rw [hw.plat]; rfl
      have hev : (MF.sem (Inc.ops fs (Inc.parseAll fs)) d file).evalIf a.σ lb.id = Inc.evalCondW a.σ n.toks := by
        rw [sem_evalIf]; simp only [Inc.ops, Inc.opsWith, hnodeI]
      cases hkk : n.kind with
      | define | undef | «include» | pragma | unrecognized => exact absurd (by rw [hkk]; rfl) hko
      | code =>
        have hlk : lb.kind = .code := by rw [hkind, hkk]; rfl
        simp only [toPTree, visitRef, hw.lerr, hgetE]
        simp only [hstep, stepNode, hkk, Cond.visit, hlk, htk]
        exact .inr (.inr (hr.node _ _))
      | endk =>
        have hlk : lb.kind = .endk := by rw [hkind, hkk]; rfl
        simp only [toPTree, visitRef, hw.lerr, hgetE]
        simp only [hstep, stepNode, hkk, Cond.visit, hlk, htk]
        cases htl : l.taken with
        | nil => exact .inr (.inl (.inl rfl))
        | cons t ts => exact .inr (.inr (hr.node _ _))
      | ifk =>
        have hlk : lb.kind = .ifk := by rw [hkind, hkk]; rfl
        have hp : lb.pay = lb.id := by rw [hpay, hkk]; rfl
        simp only [toPTree, visitRef, hw.lerr, hgetE]
        simp only [hstep, stepNode, hkk, Cond.visit, hlk, hp, hev, htk]
        rcases evalCond_rel { l with assoc := addAssoc l.assoc file lb.id l.plat.name } a.σ n.toks hw.lerr hw.werr htbl
          with ⟨e, h1⟩ | ⟨b, h1, h2⟩
        · left; rw [h1]; simp [Local.fail]
        · rw [h1, h2]
          cases b with
          | false => exact .inr (.inr (hr.node _ _))
          | true => exact visitList_step fs hl hfam name d ih kids m file nodes E _ _ hnode hkids (hr.node _ _)
      | elifk =>
        have hlk : lb.kind = .elifk := by rw [hkind, hkk]; rfl
        have hp : lb.pay = lb.id := by rw [hpay, hkk]; rfl
        simp only [toPTree, visitRef, hw.lerr, hgetE]
        simp only [hstep, stepNode, hkk, Cond.visit, hlk, hp, hev, htk]
        cases htl : l.taken with
        | nil => left; simp [Local.fail]
        | cons t ts =>
          cases t with
          | true => exact .inr (.inr (hr.node _ _))
          | false =>
            simp only [Bool.false_eq_true, if_false]
            rcases evalCond_rel { l with assoc := addAssoc l.assoc file lb.id l.plat.name, taken := false :: ts } a.σ n.toks
              hw.lerr hw.werr htbl with ⟨e, h1⟩ | ⟨b, h1, h2⟩
            · left; rw [h1]; simp [Local.fail]
            · rw [h1, h2]
              cases b with
              | false => exact .inr (.inr (hr.node _ _))
              | true => exact visitList_step fs hl hfam name d ih kids m file nodes E _ _ hnode hkids (hr.node _ _)
      | elsek =>
        have hlk : lb.kind = .elsek := by rw [hkind, hkk]; rfl
        simp only [toPTree, visitRef, hw.lerr, hgetE]
        simp only [hstep, stepNode, hkk, Cond.visit, hlk, htk]
        cases htl : l.taken with
        | nil => left; simp [Local.fail]
        | cons t ts =>
          cases t with
          | true => exact .inr (.inr (hr.node _ _))
          | false => exact visitList_step fs hl hfam name d ih kids m file nodes E _ _ hnode hkids (hr.node _ _)
theorem visitList_step (fs : Inc.FS) (hl : fs.links = []) (hfam : FindInst.CFam fs.files = true) (name : String) (d : Nat)
    (ih : ∀ d', d' < d → FileAgree fs name d') :
    ∀ (ts : List Tree) (m : Nat) (file : String) (nodes : Array PNode) (E : String → Nat → String → Prop) (l : Local)
      (a : AState Inc.World), (∀ i, (Inc.parseAll fs).node file i = nodes[i]?) → (∀ x ∈ lblsTs ts, LblOK nodes x) →
      Rel E file name l a →
      Out3 E file name (visitListRef (Exclude.sem fs.files) m file .c nodes l (toPTrees ts))
        (Cond.visitList (MF.sem (Inc.ops fs (Inc.parseAll fs)) d file) a ts)
  | [], m, file, nodes, E, l, a, hnode, hok, hr => by
    cases m <;> simp only [toPTrees, visitListRef, Cond.visitList] <;> exact .inr (.inr hr)
  | t :: ts, 0, file, nodes, E, l, a, hnode, hok, hr => by
    left; simp [toPTrees, visitListRef, Local.fail]
  | t :: ts, m + 1, file, nodes, E, l, a, hnode, hok, hr => by
    simp only [toPTrees, visitListRef, Cond.visitList]
    have h1 := visit_step fs hl hfam name d ih t m file nodes E l a hnode (fun x hx => hok x (by simp [lblsTs, hx])) hr
    rcases h1 with h | h | h
    · exact .inl (visitListRef_err _ _ _ _ _ _ _ h)
    · exact .inr (.inl (visitList_bad _ (sem_errW fs (Inc.parseAll fs) d file) ts _ h))
    · exact visitList_step fs hl hfam name d ih ts m file nodes E _ _ hnode (fun x hx => hok x (by simp [lblsTs, hx])) h
end

theorem file_step (fs : Inc.FS) (hl : fs.links = []) (hfam : FindInst.CFam fs.files = true) (hT : TreesOK) (name : String)
    (d : Nat) (ih : ∀ d', d' < d → FileAgree fs name d') : FileAgree fs name d := by
  intro g m nodes ts dd E l w hpg hb hrel
  cases m with
  | zero => left; simp [assocTreeRef, Local.fail]
  | succ m =>
    have hnode : ∀ i, (Inc.parseAll fs).node g i = nodes.toArray[i]? := by
      intro i; simp only [Inc.ParsedFS.node, hpg]
    have hok : ∀ x ∈ lblsTs ts, LblOK nodes.toArray x := fun x hx => lblOK_of_mem nodes x (hT nodes ts hb x hx)
    have hlab : (Inc.ops fs (Inc.parseAll fs)).labels g = labels nodes := by
      simp only [Inc.ops, Inc.opsWith, hpg]
    have h1 := visitList_step fs hl hfam name d ih ts m g nodes.toArray E _ _ hnode hok (hrel.start g)
    simp only [assocTreeRef, assocWith, model, hlab, hb, Option.map_some]
    rcases h1 with h | h | h
    · exact .inl h
    · exact .inr (.inl (h.record fs _ g))
    · right; right
      simp only [h.cr, Bool.false_eq_true, if_false]
      have hw := h.record fs (Inc.parseAll fs)
      exact ⟨⟨hw.lerr, hw.werr, hw.plat, hw.nm, hw.att⟩, trivial⟩

theorem file_agree (fs : Inc.FS) (hl : fs.links = []) (hfam : FindInst.CFam fs.files = true) (hT : TreesOK) (name : String) :
    ∀ d, FileAgree fs name d := by
  intro d
  induction d using Nat.strongRecOn with
  | _ d ih => exact file_step fs hl hfam hT name d ih

end CbiVerif.Engines
