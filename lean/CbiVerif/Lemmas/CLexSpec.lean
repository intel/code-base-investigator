import CbiVerif.Lemmas.CLexOut
/-! # C05: the reference scanner, physical line by physical line

What the scanner does on the items of one physical line is `refLine` on the classes of its characters
(`line_ref`); the scan of a text is the list of the scans of its lines (`scanPer`, `decomment_splice`).  The last
section: a `/` that is the last c-char of a character constant before a splice is flagged as F-C05-1 by the next
character, so in an unflagged text that ends in code mode no physical line ends in mode `sqSl` (`noSlash_end`). -/
namespace CbiVerif.CLexSim
open CbiVerif.CClean CbiVerif.CLexRef CbiVerif.CText

theorem decomment_cons_eq (s : DState) (it : Item) (its : List Item) : decomment s (it :: its) =
    match decItem s it with
    | none => none
    | some r =>
      match decomment r.st its with
      | none => none
      | some rest => some ⟨rest.st, r.out ++ rest.out, r.k1 || rest.k1⟩ := rfl

theorem decomment_cons {s : DState} {it : Item} {its : List Item} {sc : Scan} (h : decomment s (it :: its) = some sc) :
    ∃ r rest, decItem s it = some r ∧ decomment r.st its = some rest ∧
      sc = ⟨rest.st, r.out ++ rest.out, r.k1 || rest.k1⟩ := by
  rw [decomment_cons_eq] at h
  split at h
  · cases h
  · split at h
    · cases h
    · cases h; exact ⟨_, _, ‹_›, ‹_›, rfl⟩

theorem decomment_append (xs ys : List Item) : ∀ s : DState, decomment s (xs ++ ys) =
    match decomment s xs with
    | none => none
    | some a =>
      match decomment a.st ys with
      | none => none
      | some b => some ⟨b.st, a.out ++ b.out, a.k1 || b.k1⟩ := by
  induction xs with
  | nil =>
    intro s
    show decomment s ys = match decomment s ys with
      | none => none
      | some b => some ⟨b.st, [] ++ b.out, false || b.k1⟩
    cases decomment s ys with
    | none => rfl
    | some b => rfl
  | cons it its ih =>
    intro s
    rw [List.cons_append, decomment_cons_eq, decomment_cons_eq]
    cases hd : decItem s it with
    | none => rfl
    | some r =>
      simp only [ih r.st]
      cases decomment r.st its with
      | none => rfl
      | some a =>
        simp only
        cases decomment a.st ys with
        | none => rfl
        | some b => simp [List.append_assoc, Bool.or_assoc]

theorem decomment_append_some {s : DState} {xs ys : List Item} {sc : Scan} (h : decomment s (xs ++ ys) = some sc) :
    ∃ a b, decomment s xs = some a ∧ decomment a.st ys = some b ∧ sc = ⟨b.st, a.out ++ b.out, a.k1 || b.k1⟩ := by
  rw [decomment_append] at h
  split at h
  · cases h
  · split at h
    · cases h
    · cases h; exact ⟨_, _, ‹_›, ‹_›, rfl⟩

/-- membership among the (up to three) survivors of one character -/
theorem mem_opt3 {α : Type} {p q k : Bool} {a b c x : α}
    (h : x ∈ (if p then [a] else []) ++ (if q then [b] else []) ++ (if k then [c] else [])) :
    (p = true ∧ x = a) ∨ (q = true ∧ x = b) ∨ (k = true ∧ x = c) := by
  cases p <;> cases q <;> cases k <;> simp_all

theorem decItem_ch (s : DState) (c : Char) (n : Nat) (r : DRes) (hp : plainChar c = true)
    (h : decItem s (.ch c n) = some r) :
    ∃ o, dstep s.mode (classify c).kind = some o ∧ r.st.mode = o.mode ∧
      renderAll r.out = refEmits s.mode (classify c) o ∧
      (r.k1 = false → ∀ x ∈ r.out, x.onLine n = true) ∧ (∀ x ∈ r.out, x.isNl = false) ∧
      (r.st.mode = .sqSl → r.st.ptag = n) := by
  simp only [decItem] at h
  rw [kind_classify c hp] at h
  cases ho : dstep s.mode (classify c).kind with
  | none => simp [ho] at h
  | some o =>
    simp only [ho, Option.some.injEq] at h
    subst h
    refine ⟨o, rfl, rfl, ?_, ?_, ?_, ?_⟩
    · simp only [refEmits, keepEmit, isWhite_classify c hp, renderAll_append, renderAll_opt, render_slash,
        render_space]
      rfl
    · intro hk x hx
      rcases mem_opt3 hx with ⟨hpd, rfl⟩ | ⟨_, rfl⟩ | ⟨_, rfl⟩
      · simp only [hpd, Bool.true_or, Bool.true_and, bne_eq_false_iff_eq] at hk
        simp [Surv.onLine, hk]
      · simp [Surv.onLine]
      · simp [Surv.onLine]
    · intro x hx
      rcases mem_opt3 hx with ⟨_, rfl⟩ | ⟨_, rfl⟩ | ⟨_, rfl⟩ <;> rfl
    · intro hm
      simp only at hm
      simp [hm]

theorem chars_ref (n : Nat) (cs : List Char) : ∀ (s : DState) (sc : Scan),
    decomment s (cs.map (Item.ch · n)) = some sc → (∀ c ∈ cs, plainChar c = true) →
    refChars s.mode (cs.map classify) = some (sc.st.mode, renderAll sc.out) ∧
    (sc.k1 = false → ∀ x ∈ sc.out, x.onLine n = true) ∧ (∀ x ∈ sc.out, x.isNl = false) ∧
    ((s.mode = .sqSl → s.ptag = n) → sc.st.mode = .sqSl → sc.st.ptag = n) := by
  induction cs with
  | nil =>
    intro s sc h _
    cases h
    exact ⟨rfl, fun _ _ hx => by simp at hx, fun _ hx => by simp at hx, fun hs hm => hs hm⟩
  | cons c cs ih =>
    intro s sc h hp
    obtain ⟨r, rest, hd, hrest, rfl⟩ := decomment_cons h
    obtain ⟨o, ho, hm, hr, ht, hnl, hpt⟩ := decItem_ch s c n r (hp c (by simp)) hd
    obtain ⟨i1, i2, i3, i4⟩ := ih r.st rest hrest (fun c' hc' => hp c' (by simp [hc']))
    refine ⟨?_, fun hk => ?_, List.forall_mem_append.mpr ⟨hnl, i3⟩, fun _ hmode => i4 hpt hmode⟩
    · rw [List.map_cons, refChars_step ho (hm ▸ i1), renderAll_append, hr]
    · rw [Bool.or_eq_false_iff] at hk
      exact List.forall_mem_append.mpr ⟨ht hk.1, i2 hk.2⟩

theorem plain_slash : plainChar '/' = true := by decide
theorem plain_space : plainChar ' ' = true := by decide

theorem decItem_nl (s : DState) (n : Nat) (r : DRes) (h : decItem s (.nl n) = some r) :
    ∃ ends, refNewline s.mode = some (r.st.mode, renderAll r.out, ends) ∧
      (∃ body, r.out = body ++ (if ends then [Surv.nl n] else []) ∧ (∀ x ∈ body, x.isNl = false) ∧
        (r.k1 = false → ∀ x ∈ body, x.onLine n = true)) ∧ r.st.mode ≠ .sqSl ∧ ∀ x ∈ r.out, x.plain = true := by
  simp only [decItem] at h
  cases hm : s.mode with
  | code =>
    simp only [hm, Option.some.injEq] at h; subst h
    exact ⟨true, by simp [refNewline, renderAll, render_nl], ⟨[], by simp⟩, by simp, by simp [Surv.plain]⟩
  | slash =>
    simp only [hm, Option.some.injEq] at h; subst h
    refine ⟨true, by simp [refNewline, renderAll, render_slash, render_nl],
      ⟨[.ch '/' s.ptag false], by simp, by simp [Surv.isNl], ?_⟩, by simp, by simp [Surv.plain, plain_slash]⟩
    intro hk x hx
    simp only [bne_eq_false_iff_eq] at hk
    simp only [List.mem_singleton] at hx
    subst hx
    simp [Surv.onLine, hk]
  | lineC =>
    simp only [hm, Option.some.injEq] at h; subst h
    exact ⟨true, by simp [refNewline, renderAll, render_space, render_nl],
      ⟨[.ch ' ' n false], by simp [Surv.isNl, Surv.onLine]⟩, by simp, by simp [Surv.plain, plain_space]⟩
  | blockC =>
    simp only [hm, Option.some.injEq] at h; subst h
    exact ⟨false, by simp [refNewline, renderAll], ⟨[], by simp⟩, by simp, by simp⟩
  | blockStar =>
    simp only [hm, Option.some.injEq] at h; subst h
    exact ⟨false, by simp [refNewline, renderAll], ⟨[], by simp⟩, by simp, by simp⟩
  | dq | dqEsc | sq0 | sqN | sqSl | sqEsc => simp [hm] at h

/-! ## every surviving character is a plain one -/

def _root_.CbiVerif.CLexRef.Item.plain : Item → Bool
  | .ch c _ => plainChar c
  | .nl _ => true

theorem decItem_plain (s : DState) (it : Item) (r : DRes) (h : decItem s it = some r) (hp : it.plain = true) :
    ∀ x ∈ r.out, x.plain = true := by
  cases it with
  | nl n => obtain ⟨_, _, _, _, hpl⟩ := decItem_nl s n r h; exact hpl
  | ch c n =>
    simp only [decItem] at h
    split at h
    · cases h
    · cases h
      intro x hx
      rcases mem_opt3 hx with ⟨_, rfl⟩ | ⟨_, rfl⟩ | ⟨_, rfl⟩
      · exact plain_slash
      · exact plain_space
      · exact hp

theorem decomment_plain (its : List Item) : ∀ (s : DState) (sc : Scan), decomment s its = some sc →
    (∀ it ∈ its, it.plain = true) → ∀ x ∈ sc.out, x.plain = true := by
  induction its with
  | nil =>
    intro s sc h _
    cases h; simp
  | cons it its ih =>
    intro s sc h hp
    obtain ⟨r, rest, hd, hr, rfl⟩ := decomment_cons h
    exact List.forall_mem_append.mpr
      ⟨decItem_plain s it r hd (hp it (by simp)), ih r.st rest hr fun i hi => hp i (by simp [hi])⟩

def plainLine (r : RawLine) : Bool := r.body.all plainChar

theorem lineItems_plain (n : Nat) (r : RawLine) (hp : plainLine r = true) : ∀ it ∈ lineItems n r, it.plain = true := by
  have hpl : ∀ c ∈ r.body, plainChar c = true := by simpa [plainLine] using hp
  intro it hit
  unfold lineItems at hit
  split at hit
  · simp only [List.mem_map] at hit
    obtain ⟨c, hc, rfl⟩ := hit
    exact hpl c ((List.dropLast_sublist r.body).subset hc)
  · simp only [List.mem_append, List.mem_map, List.mem_singleton] at hit
    rcases hit with ⟨c, hc, rfl⟩ | rfl
    · exact hpl c hc
    · rfl

theorem map_pchar_fst (cs : List Char) : (cs.map pchar).map (·.1) = cs.map classify := by
  simp [pchar, Function.comp_def]

/-- what the induction over the physical lines (`srcLoop_segments`) needs to know about the reference scan `sc` of
    physical line `n` started in state `s` -/
structure LineFacts (s : DState) (n : Nat) (r : RawLine) (sc : Scan) (ends : Bool) (body : List Surv) : Prop where
  ref : refLine s.mode ((toPLine r).chars.map (·.1)) (toPLine r).continued = some (sc.st.mode, renderAll body, ends)
  out : sc.out = body ++ (if ends then [Surv.nl n] else [])
  noNl : ∀ x ∈ body, x.isNl = false
  tags : sc.k1 = false → ∀ x ∈ body, x.onLine n = true
  ptag : (s.mode = .sqSl → s.ptag = n) → sc.st.mode = .sqSl → sc.st.ptag = n
  cont : ends = true → (toPLine r).continued = false

theorem line_ref (s : DState) (n : Nat) (r : RawLine) (sc : Scan)
    (h : decomment s (lineItems n r) = some sc) (hp : plainLine r = true) :
    ∃ ends body, LineFacts s n r sc ends body := by
  have hpl : ∀ c ∈ r.body, plainChar c = true := by simpa [plainLine] using hp
  unfold lineItems spliced at h
  by_cases hb : CLexRef.endsBackslash r.body = true
  · have hb' : CClean.endsBackslash r.body = true := hb
    rw [if_pos hb] at h
    obtain ⟨h1, h2, h3, h4⟩ := chars_ref n r.body.dropLast s sc h (fun c hc => hpl c ((List.dropLast_sublist r.body).subset hc))
    refine ⟨false, sc.out, ?_, by simp, h3, h2, h4, by simp⟩
    simp only [toPLine, hb', if_true, map_pchar_fst, refLine, h1]
  · have hb' : CClean.endsBackslash r.body = false := by
      simpa [CClean.endsBackslash, CLexRef.endsBackslash] using hb
    rw [if_neg hb] at h
    obtain ⟨a, e, ha, he, rfl⟩ := decomment_append_some h
    obtain ⟨d, _, hd, hnil, rfl⟩ := decomment_cons he
    cases hnil
    obtain ⟨h1, h2, h3, h4⟩ := chars_ref n r.body s a ha hpl
    obtain ⟨ends, hn, ⟨body', hb1, hb2, hb3⟩, hb4, _⟩ := decItem_nl a.st n d hd
    refine ⟨ends, a.out ++ body', ?_, by simp [hb1], List.forall_mem_append.mpr ⟨h3, hb2⟩,
      fun hk => ?_, fun _ hm => absurd hm hb4, fun _ => by simp [toPLine, hb']⟩
    · simp only [toPLine, hb', Bool.false_eq_true, if_false, map_pchar_fst, refLine, h1, hn]
      rw [renderAll_append, hb1, renderAll_nl]
    · simp only [Bool.or_false, Bool.or_eq_false_iff] at hk
      exact List.forall_mem_append.mpr ⟨h2 hk.1, hb3 hk.2⟩

/-- per-line reference data: what survives on the line (as buffer actions), whether the logical line ends -/
structure LD where
  es : List REmit
  ends : Bool

def ldOf (sc : Scan) : LD := ⟨renderAll sc.out, sc.out.any Surv.isNl⟩

theorem ldOf_facts {s : DState} {n : Nat} {r : RawLine} {sc : Scan} {ends : Bool} {body : List Surv}
    (f : LineFacts s n r sc ends body) : ldOf sc = ⟨renderAll body, ends⟩ := by
  have h1 : renderAll sc.out = renderAll body := by rw [f.out, renderAll_nl]
  have h2 : sc.out.any Surv.isNl = ends := by
    rw [f.out, List.any_append]
    have : body.any Surv.isNl = false := by
      rw [List.any_eq_false]; intro x hx; simp [f.noNl x hx]
    cases ends <;> simp [this, Surv.isNl]
  simp [ldOf, h1, h2]

theorem LineFacts.body {s : DState} {n : Nat} {r : RawLine} {sc : Scan} {ends : Bool} {body : List Surv}
    (f : LineFacts s n r sc ends body) (hk : sc.k1 = false) (hpl : ∀ x ∈ sc.out, x.plain = true) :
    ∀ x ∈ body, x.lineNo = n ∧ x.plain = true := fun x hx =>
  ⟨(onLine_iff x n).mp (f.tags hk x hx), hpl x (by rw [f.out]; exact List.mem_append_left _ hx)⟩

/-- facts about the scan of one physical line that do not mention the cleaner -/
theorem line_out (s : DState) (n : Nat) (r : RawLine) (sc : Scan)
    (h : decomment s (lineItems n r) = some sc) (hk : sc.k1 = false) (hp : plainLine r = true) :
    (∀ x ∈ sc.out, x.lineNo = n) ∧ (∀ x ∈ sc.out, x.plain = true) ∧
    ∃ ends body, sc.out = body ++ (if ends then [Surv.nl n] else []) ∧ (∀ x ∈ body, x.isNl = false) ∧
      ldOf sc = ⟨renderAll body, ends⟩ := by
  obtain ⟨ends, body, f⟩ := line_ref s n r sc h hp
  have hpl := decomment_plain _ s sc h (lineItems_plain n r hp)
  refine ⟨?_, hpl, ends, body, f.out, f.noNl, ldOf_facts f⟩
  intro x hx
  rw [f.out, List.mem_append] at hx
  rcases hx with hx | hx
  · exact (f.body hk hpl x hx).1
  · cases ends <;> simp at hx
    subst hx; rfl

def lastSt (s : DState) : List Scan → DState
  | [] => s
  | sc :: rest => lastSt sc.st rest

def scanPer (s : DState) (n : Nat) : List RawLine → Option (List Scan)
  | [] => some []
  | r :: rs =>
    match decomment s (lineItems n r) with
    | none => none
    | some sc =>
      match scanPer sc.st (n + 1) rs with
      | none => none
      | some scs => some (sc :: scs)

theorem scanPer_cons_eq (s : DState) (n : Nat) (r : RawLine) (rs : List RawLine) : scanPer s n (r :: rs) =
    match decomment s (lineItems n r) with
    | none => none
    | some sc =>
      match scanPer sc.st (n + 1) rs with
      | none => none
      | some scs => some (sc :: scs) := rfl

theorem scanPer_cons {s : DState} {n : Nat} {r : RawLine} {rs : List RawLine} {scs : List Scan}
    (h : scanPer s n (r :: rs) = some scs) :
    ∃ sc rest, decomment s (lineItems n r) = some sc ∧ scanPer sc.st (n + 1) rs = some rest ∧ scs = sc :: rest := by
  rw [scanPer_cons_eq] at h
  split at h
  · cases h
  · split at h
    · cases h
    · cases h; exact ⟨_, _, ‹_›, ‹_›, rfl⟩

theorem decomment_splice (rs : List RawLine) : ∀ (s : DState) (n : Nat), decomment s (splice n rs) =
    (scanPer s n rs).map fun scs => ⟨lastSt s scs, scs.flatMap (·.out), scs.any (·.k1)⟩ := by
  induction rs with
  | nil => intro s n; rfl
  | cons r rs ih =>
    intro s n
    rw [scanPer_cons_eq]
    show decomment s (lineItems n r ++ splice (n + 1) rs) = _
    rw [decomment_append]
    cases decomment s (lineItems n r) with
    | none => rfl
    | some sc =>
      simp only [ih sc.st (n + 1)]
      cases scanPer sc.st (n + 1) rs with
      | none => rfl
      | some scs => simp only [Option.map_some, List.flatMap_cons, List.any_cons]; rfl

theorem scanPer_length (rs : List RawLine) : ∀ (s : DState) (n : Nat) (scs : List Scan), scanPer s n rs = some scs →
    scs.length = rs.length := by
  induction rs with
  | nil => intro s n scs h; cases h; rfl
  | cons r rs ih =>
    intro s n scs h
    obtain ⟨sc, rest, _, hr, rfl⟩ := scanPer_cons h
    simp [ih sc.st (n + 1) rest hr]

theorem tags_range (rs : List RawLine) : ∀ (s : DState) (n : Nat) (scs : List Scan), scanPer s (n + 1) rs = some scs →
    (∀ sc ∈ scs, sc.k1 = false) → (∀ r ∈ rs, plainLine r = true) →
    ∀ x ∈ scs.flatMap (·.out), n + 1 ≤ x.lineNo ∧ x.lineNo ≤ n + rs.length := by
  induction rs with
  | nil =>
    intro s n scs h _ _
    cases h; simp
  | cons r rs ih =>
    intro s n scs h hk hp
    obtain ⟨sc, rest, hd, hr, rfl⟩ := scanPer_cons h
    intro x hx
    simp only [List.flatMap_cons, List.mem_append] at hx
    simp only [List.length_cons]
    rcases hx with hx | hx
    · have := (line_out s (n + 1) r sc hd (hk sc (by simp)) (hp r (by simp))).1 x hx
      omega
    · have := ih sc.st (n + 1) rest hr (fun y hy => hk y (by simp [hy])) (fun y hy => hp y (by simp [hy])) x hx
      omega

/-! ## a `/` that is the last c-char before a splice inside a character constant is always flagged -/

def _root_.CbiVerif.CLexRef.Item.line : Item → Nat
  | .ch _ n => n
  | .nl n => n

/-- the character read after a `/` that is the last c-char so far is flagged unless it stands on the line of that `/` -/
theorem decItem_sqSl {s : DState} {c : Char} {n : Nat} {r : DRes} (h : decItem s (.ch c n) = some r) :
    r.k1 = false → s.mode = .sqSl → s.ptag = n := by
  simp only [decItem] at h
  split at h
  · cases h
  · cases h
    intro hk hm
    simpa [hm] using hk

theorem sqSl_items (s : DState) (n : Nat) (its : List Item) (sc : Scan) (h : decomment s its = some sc)
    (hm : s.mode = .sqSl) (hlt : s.ptag < n) (hl : ∀ it ∈ its, it.line = n) : (its = [] ∧ sc.st = s) ∨ sc.k1 = true := by
  cases its with
  | nil =>
    cases h; exact Or.inl ⟨rfl, rfl⟩
  | cons it rest =>
    right
    obtain ⟨d, rr, hd, _, rfl⟩ := decomment_cons h
    have hline : it.line = n := hl it (by simp)
    cases it with
    | nl m => simp [decItem, hm] at hd
    | ch c m =>
      cases hk : d.k1
      · have : s.ptag = n := (decItem_sqSl hd hk hm).trans hline
        omega
      · rfl

theorem lineItems_line (n : Nat) (r : RawLine) : ∀ it ∈ lineItems n r, it.line = n := by
  intro it hit
  unfold lineItems at hit
  split at hit
  · simp only [List.mem_map] at hit
    obtain ⟨c, _, rfl⟩ := hit; rfl
  · simp only [List.mem_append, List.mem_map, List.mem_singleton] at hit
    rcases hit with ⟨c, _, rfl⟩ | rfl <;> rfl

theorem sqSl_carry (rs : List RawLine) : ∀ (s : DState) (n : Nat) (scs : List Scan), scanPer s n rs = some scs →
    s.mode = .sqSl → s.ptag < n → scs.any (·.k1) = true ∨ (lastSt s scs).mode = .sqSl := by
  induction rs with
  | nil =>
    intro s n scs h hm _
    cases h; exact Or.inr hm
  | cons r rs ih =>
    intro s n scs h hm hlt
    obtain ⟨sc, rest, hd, hr, rfl⟩ := scanPer_cons h
    rcases sqSl_items s n _ sc hd hm hlt (lineItems_line n r) with ⟨_, hst⟩ | hk
    · rcases ih sc.st (n + 1) rest hr (by rw [hst]; exact hm) (by rw [hst]; omega) with h1 | h1
      · left; simp [h1]
      · exact Or.inr h1
    · left; simp [hk]

theorem noSlash_end {s : DState} {n : Nat} {r : RawLine} {sc : Scan} {ends : Bool} {body : List Surv}
    (f : LineFacts s n r sc ends body) (hsq : s.mode ≠ .sqSl) {rs : List RawLine} {rest : List Scan}
    (hrest : scanPer sc.st (n + 1) rs = some rest) (hk : ∀ x ∈ rest, x.k1 = false)
    (hlast : (lastSt sc.st rest).mode = .code) : sc.st.mode ≠ .sqSl := by
  intro hm
  have hpt := f.ptag (fun h => absurd h hsq) hm
  rcases sqSl_carry rs sc.st (n + 1) rest hrest hm (by omega) with h1 | h1
  · obtain ⟨x, hx, hxk⟩ := List.any_eq_true.mp h1
    rw [hk x hx] at hxk; cases hxk
  · rw [hlast] at h1; cases h1

end CbiVerif.CLexSim
