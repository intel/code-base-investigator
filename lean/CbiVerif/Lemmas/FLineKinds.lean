import CbiVerif.Lemmas.FSourceLemmas
/-!
What the cleaner does with the three kinds of lines the property names: blank
lines, ordinary comment lines, directive-sentinel lines — from *every* cleaner
state a line can start in (not only those reachable on well-formed texts).
-/
namespace CbiVerif.Fortran

/-- the character is not put back: `step` is one `step1` -/
theorem step_nopb (s : FSt) (c : Char) (h : (step1 s c).2.2 = false) :
    step s c = ((step1 s c).1, (step1 s c).2.1) := by
  unfold step
  rcases hs : step1 s c with ⟨s1, e1, pb⟩
  rw [hs] at h
  simp only at h
  subst h
  rfl

theorem procChars_hasVis_mono (l : List Char) : ∀ (s : FSt) (b : OSL), b.hasVis = true →
    (procChars s b l).2.hasVis = true := by
  induction l with
  | nil => intro s b h; simpa [procChars] using h
  | cons c cs ih =>
    intro s b h
    simp only [procChars]
    exact ih _ _ (by rw [hasVis_addAll, h]; rfl)

/-- `break` after `dir_check` returned: the rest of the line is ignored -/
theorem procChars_done (l : List Char) : ∀ (s : FSt) (b : OSL), s.scan = .done → (procChars s b l).2 = b := by
  induction l with
  | nil => intro s b _; rfl
  | cons c cs ih =>
    intro s b h
    obtain ⟨st, sc, vc, fd⟩ := s
    simp only at h; subst h
    have h1 : step ⟨st, .done, vc, fd⟩ c = (⟨st, .done, vc, fd⟩, []) := by
      rw [step_nopb] <;> simp [step1]
    simp only [procChars, h1]
    exact ih _ _ rfl

theorem sentinelTail_cons (c : Char) (cs : List Char) :
    sentinelTail (c :: cs) =
      if cls c == .dollar then true else if cls c == .alpha then sentinelTail cs else false := rfl

/-- one character inside `dir_check`, in the order in which `sentinelTail` asks -/
theorem step_bang (s : FSt) (c : Char) (h : s.scan = .bang) :
    step s c =
      if cls c == .dollar then ({ s with scan := .sentinel, found := [] }, (s.found ++ [c]).map .ns)
      else if cls c == .alpha then ({ s with found := s.found ++ [c] }, [])
      else ({ s with scan := .done, found := [] }, []) := by
  rw [step_nopb] <;> simp only [step1, h] <;> cases cls c <;> rfl

/-- inside `dir_check`, no sentinel: nothing is appended -/
theorem procChars_bang_comment (l : List Char) : ∀ (s : FSt) (b : OSL), s.scan = .bang →
    sentinelTail l = false → (procChars s b l).2 = b := by
  intro s b h
  fun_induction sentinelTail l generalizing s b with
  | case1 => intro _; rfl
  | case2 => exact nofun
  | case3 c cs h1 h2 ih => rw [procChars, step_bang s c h, if_neg h1, if_pos h2]; exact ih _ _ h
  | case4 c cs h1 h2 =>
    intro _; rw [procChars, step_bang s c h, if_neg h1, if_neg h2]; exact procChars_done _ _ _ rfl

/-- inside `dir_check`, sentinel found: the buffer becomes visible -/
theorem procChars_bang_sentinel (l : List Char) : ∀ (s : FSt) (b : OSL), s.scan = .bang →
    sentinelTail l = true → (procChars s b l).2.hasVis = true := by
  intro s b h
  fun_induction sentinelTail l generalizing s b with
  | case1 | case4 => exact nofun
  | case2 c cs h1 =>
    intro _
    rw [procChars, step_bang s c h, if_pos h1]
    apply procChars_hasVis_mono
    rw [hasVis_addAll, anyVis_map_ns]
    simp [isWs, beq_iff_eq.mp h1]
  | case3 c cs h1 h2 ih => rw [procChars, step_bang s c h, if_neg h1, if_pos h2]; exact ih _ _ h

theorem step_ws_atCode (s : FSt) (c : Char) (h : AtCode s) (hc : cls c = .ws) : step s c = (s, [.sp]) := by
  obtain ⟨st, sc, vc, fd⟩ := s
  obtain ⟨h1, h2⟩ := h
  simp only at h1 h2; subst h1
  rcases st with _ | ⟨m, r⟩
  · simp at h2
  · rcases h2 with h2 | h2 <;> simp only [List.head?_cons, Option.some.injEq] at h2 <;> subst h2 <;>
      (rw [step_nopb] <;> simp [step1, hc])

theorem step_bang_atCode (s : FSt) (c : Char) (h : AtCode s) (hc : cls c = .bang) :
    (step s c).2 = [] ∧ (step s c).1.scan = .bang := by
  obtain ⟨st, sc, vc, fd⟩ := s
  obtain ⟨h1, h2⟩ := h
  simp only at h1 h2; subst h1
  rcases st with _ | ⟨m, r⟩
  · simp at h2
  · rcases h2 with h2 | h2 <;> simp only [List.head?_cons, Option.some.injEq] at h2 <;> subst h2 <;>
      (rw [step_nopb] <;> simp [step1, hc])

/-- leading blanks of a line that starts in code are merged into the buffer and the cleaner stays where it is: the line
    is read as what `dropWs` leaves of it -/
theorem procChars_dropWs (l : List Char) : ∀ (s : FSt) (b : OSL), AtCode s →
    ∃ b', (b.OnlySp → b'.OnlySp) ∧ procChars s b l = procChars s b' (dropWs l) := by
  induction l with
  | nil => intro s b _; exact ⟨b, id, rfl⟩
  | cons c cs ih =>
    intro s b hs
    rw [dropWs_cons]
    by_cases hc : cls c = .ws
    · obtain ⟨b', h1, h2⟩ := ih s (b.addAll [.sp]) hs
      rw [if_pos (by simp [hc])]
      exact ⟨b', fun hb => h1 (onlySp_addAll b _ hb (by simp) (by simp)),
        by simp only [procChars, step_ws_atCode s c hs hc, h2]⟩
    · rw [if_neg (by simp [hc])]
      exact ⟨b, id, rfl⟩

/-- blank lines: only merged blanks reach the buffer -/
theorem blank_onlySp (l : List Char) (s : FSt) (b : OSL) (hs : AtCode s) (hb : b.OnlySp)
    (hl : isBlankLine l = true) : (procChars s b l).2.OnlySp := by
  obtain ⟨b', h1, h2⟩ := procChars_dropWs l s b hs
  rw [h2, show dropWs l = [] by simpa [isBlankLine] using hl]
  exact h1 hb

/-- **ordinary comment lines leave the buffer untouched** (only merged blanks before the `!`) -/
theorem comment_onlySp (l : List Char) (s : FSt) (b : OSL) (hs : AtCode s) (hb : b.OnlySp)
    (hl : isCommentLine l = true) : (procChars s b l).2.OnlySp := by
  obtain ⟨b', h1, h2⟩ := procChars_dropWs l s b hs
  obtain ⟨c, cs, hd, hc, ht⟩ := (isCommentLine_iff l).mp hl
  obtain ⟨e1, e2⟩ := step_bang_atCode s c hs hc
  rw [h2, hd, procChars, e1, procChars_bang_comment cs _ _ e2 ht]
  exact h1 hb

/-- **sentinel lines make the buffer visible** when the line starts in code -/
theorem sentinel_vis_atCode (l : List Char) (s : FSt) (b : OSL) (hs : AtCode s)
    (hl : isSentinelLine l = true) : (procChars s b l).2.hasVis = true := by
  obtain ⟨b', _, h2⟩ := procChars_dropWs l s b hs
  obtain ⟨c, cs, hd, hc, ht⟩ := (isSentinelLine_iff l).mp hl
  rw [h2, hd, procChars]
  exact procChars_bang_sentinel cs _ _ (step_bang_atCode s c hs hc).2 ht

theorem step_atLit (s : FSt) (c : Char) (h : AtLit s) (hc : cls c = .ws ∨ cls c = .bang) :
    step s c = (s, [.ns c]) := by
  obtain ⟨st, sc, vc, fd⟩ := s
  obtain ⟨h1, h2⟩ := h
  simp only at h1 h2; subst h1
  rcases st with _ | ⟨m, r⟩
  · simp at h2
  · rcases h2 with h2 | h2 <;> simp only [List.head?_cons, Option.some.injEq] at h2 <;> subst h2 <;>
      rcases hc with hc | hc <;> (rw [step_nopb] <;> simp [step1, hc])

/-- inside an open character context a line that looks like a sentinel is text: visible as well -/
theorem sentinel_vis_atLit (l : List Char) : ∀ (s : FSt) (b : OSL), AtLit s →
    isSentinelLine l = true → (procChars s b l).2.hasVis = true := by
  induction l with
  | nil => intro s b _ h; cases h
  | cons c cs ih =>
    intro s b hs hl
    simp only [procChars]
    by_cases hc : cls c = .ws
    · rw [step_atLit s c hs (Or.inl hc)]
      refine ih s _ hs ?_
      simpa [isSentinelLine, dropWs_cons, hc] using hl
    · simp only [isSentinelLine, dropWs_cons, hc, beq_iff_eq, Bool.and_eq_true, if_false] at hl
      rw [step_atLit s c hs (Or.inr hl.1)]
      apply procChars_hasVis_mono
      rw [hasVis_addAll]
      simp [vis_ns, isWs, hl.1]

end CbiVerif.Fortran
