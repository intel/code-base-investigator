import CbiVerif.Lemmas.MacroFunHead
import CbiVerif.Lemmas.MacroDefined
/-! # C03, function-like fragment: what one loop iteration of `MX.step` does in each situation the fragment allows

First the machine's argument-collection loop against the collection on a plain token list (`collect_sim`; `splitArgs` and its
lemmas: `Lemmas/MacroFunHead.lean`); then one lemma per situation (`mstep_…`).
Streams are written `P ++ some a :: R` with the read position at `P.length` (`P` may contain holes). -/
namespace CbiVerif.MX
open CbiVerif.PP

theorem foldl_toks_ge (S : List Helper) (n : Nat) : n ≤ S.foldl (fun n h => n + h.toks.length) n := by
  induction S generalizing n with
  | nil => simp
  | cons h S ih => simp only [List.foldl_cons]; exact Nat.le_trans (Nat.le_add_right _ _) (ih _)

theorem totalToks_ge (h : Helper) (S : List Helper) : h.toks.length ≤ totalToks (h :: S) := by
  unfold totalToks
  simp only [List.foldl_cons, Nat.zero_add]
  exact foldl_toks_ge S _

/-- the machine's argument-collection loop on a stream that contains the whole call computes `splitArgs`; the consumed
    tokens are holes, so the scanned part keeps its tokens `X` -/
theorem collect_sim (adv : Bool) (pr : Bool) (S : List Helper) (D : NoExp) (X : List Tok) : ∀ (r : List Tok)
    (Q : List (Option Tok)) (args : List (List Tok)) (cur : List Tok) (depth f : Nat) (args' : List (List Tok)) (rest : List Tok),
    r.length < f → filterSome Q = X → splitArgs r args cur depth = some (args', rest) →
    ∃ Q', filterSome Q' = X ∧
      collectArgs adv f ⟨Q ++ r.map some, Q.length, pr⟩ S D args cur depth = .ok args' ⟨Q' ++ rest.map some, Q'.length, pr⟩ S D := by
  intro r
  induction r with
  | nil => intro Q args cur depth f args' rest _ _ h; cases h
  | cons tok r ih =>
    intro Q args cur depth f args' rest hf hQ h
    obtain ⟨f', rfl⟩ : ∃ f', f = f' + 1 := ⟨f - 1, by rw [List.length_cons] at hf; omega⟩
    rw [splitArgs_cons] at h
    simp only [List.map_cons, collectArgs, consume_mid]
    rw [shift Q (r.map some) none pr]
    -- the loop goes on behind the hole
    have hQ' := (filterSome_snoc_none Q).trans hQ
    have next := fun args cur depth => ih (Q ++ [none]) args cur depth f' args' rest (Nat.lt_of_succ_lt_succ hf) hQ'
    by_cases h1 : (dtext tok == "," && depth == 1) = true
    · rw [if_pos h1] at h ⊢; exact next _ _ _ h
    rw [if_neg h1] at h ⊢
    by_cases h2 : (dtext tok == "(") = true
    · rw [if_pos h2] at h ⊢; exact next _ _ _ h
    rw [if_neg h2] at h ⊢
    by_cases h3 : (dtext tok == ")") = true
    · rw [if_pos h3] at h ⊢
      by_cases h4 : (depth == 1) = true
      · rw [if_pos h4] at h ⊢
        obtain ⟨rfl, rfl⟩ := Prod.mk.inj (Option.some.inj h)
        exact ⟨Q ++ [none], hQ', rfl⟩
      · rw [if_neg h4] at h ⊢; exact next _ _ _ h
    · rw [if_neg h3] at h ⊢; exact next _ _ _ h

/-- an enabled function-like macro name followed by a complete call in the same stream: the whole call becomes holes, and the
    iteration continues with the processing of the collected arguments -/
theorem mstep_call (c : Cfg) (tbl : Table) (P : List (Option Tok)) (S : List Helper) (D : NoExp) (F : List Frame) (pr : Bool)
    (a lp : Tok) (r : List Tok) (m : Macro) (ps : List String) (args : List (List Tok)) (rest : List Tok)
    (hk : (a.kind != TKind.ident) = false) (hd : (a.text == "defined") = false)
    (hq : (!a.expandable || D.contains (some a.text)) = false) (hm : tbl.get a.text = some m) (ha : m.args = some ps)
    (hv : m.variadic = false)
    (hlp : dtext lp = "(") (hsp : splitArgs r [] [] 1 = some (args, rest)) :
    ∃ P2, filterSome P2 = filterSome P ∧
      step c tbl ⟨⟨P ++ some a :: some lp :: r.map some, P.length, pr⟩ :: S, D, F, none⟩
        = processArgs c a.pw m args [] ⟨⟨P2 ++ rest.map some, P2.length, pr⟩ :: S, D, F, none⟩ := by
  have hfuel : r.length < totalToks ((⟨(P ++ [none]) ++ none :: r.map some, (P ++ [none]).length + 1, pr⟩ : Helper) :: S) + 1 :=
    Nat.lt_succ_of_le (Nat.le_trans (by rw [List.length_append, List.length_cons, List.length_map]; omega) (totalToks_ge _ S))
  obtain ⟨P2, hp2, hcol⟩ := collect_sim c.adv pr S D (filterSome P) r ((P ++ [none]) ++ [none]) [] [] 1 _ args rest hfuel
    (by rw [filterSome_snoc_none, filterSome_snoc_none]) hsp
  refine ⟨P2, hp2, ?_⟩
  rw [step_tok]
  simp only [hk, Bool.false_eq_true, if_false, hd, hq, hm, ha, stepCall, set_mid']
  rw [shift P (some lp :: r.map some) none pr]
  simp only [peekDown_mid, Option.map_some, hlp, bne_self_eq_false, Bool.false_eq_true, if_false, consume_mid, hv]
  rw [shift (P ++ [none]) (r.map some) none pr] at hcol ⊢
  rw [hcol]

/-- an enabled function-like macro name followed, in the same stream, by a token other than `(`: not a call, the name stays
    (unpainted) and the scan moves on -/
theorem mstep_bare (c : Cfg) (tbl : Table) (P R : List (Option Tok)) (S : List Helper) (D : NoExp) (F : List Frame) (pr : Bool)
    (a x : Tok) (m : Macro) (ps : List String)
    (hk : (a.kind != TKind.ident) = false) (hd : (a.text == "defined") = false)
    (hq : (!a.expandable || D.contains (some a.text)) = false) (hm : tbl.get a.text = some m) (ha : m.args = some ps)
    (hx : (dtext x != "(") = true) :
    step c tbl ⟨⟨P ++ some a :: some x :: R, P.length, pr⟩ :: S, D, F, none⟩
      = .cont ⟨⟨P ++ some a :: some x :: R, P.length + 1, pr⟩ :: S, D, F, none⟩ := by
  have hx' : (some (dtext x) != some "(") = true := by simpa using hx
  rw [step_tok]
  simp only [hk, Bool.false_eq_true, if_false, hd, hq, hm, ha, stepCall, set_mid']
  rw [shift P (some x :: R) none pr]
  simp only [peekDown_mid, Option.map_some, hx', if_true]

end CbiVerif.MX
