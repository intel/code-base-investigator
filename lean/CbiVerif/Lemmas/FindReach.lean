import CbiVerif.Model.ReachInc
import CbiVerif.Lemmas.FindInc
import CbiVerif.Lemmas.AssocSet
/-! Helper lemmas for C13 (`Props/C13Closure.lean`): every attribution made by the multi-file model of `finder.find`
is to a file reached from an entry of the platform.

The invariant of one entry's run is "the memo is sound, the platform's name and search directories are those of the entry,
every attribution so far is justified" (`RInv`), with the file property `ReachE` of the entry. -/
namespace CbiVerif.Inc
open CbiVerif.PP CbiVerif.Cond CbiVerif.MF CbiVerif.IncludeSearch

theorem includes_of_check (fs : FS) (pfs : ParsedFS) (incs : List String) (f : String) (idx : Nat) (g : String)
    (h : includesB fs pfs incs f idx g = true) : Includes fs pfs incs f g := by
  unfold includesB at h
  split at h
  · rename_i n hn
    obtain ⟨hk, h2⟩ := Bool.and_eq_true_iff.mp h
    split at h2
    · rename_i ps hps
      obtain ⟨inc, hr, e⟩ := Option.map_eq_some_iff.mp (beq_iff_eq.mp h2)
      exact ⟨idx, n, [], ps.1, ps.2, inc, hn, of_decide_eq_true hk, hps, hr, e.symm⟩
    · cases h2
  · cases h
/-! ## justified attributions -/

/-- every platform recorded at a node of a file `f` is justified by `A f p` -/
def Good (A : String → String → Prop) (s : PState) : Prop := ∀ a ∈ s.assoc, ∀ p ∈ a.2, A a.1.1 p

theorem addAssoc_good (A : String → String → Prop) (s : PState) (f : String) (i : Nat) (p : String)
    (hs : Good A s) (ha : A f p) : Good A (s.addAssoc f i p) := by
  intro a hmem q hq
  have h : Engines.Has (s.addAssoc f i p).assoc a.1.1 a.1.2 q := ⟨a, hmem, rfl, hq⟩
  rw [Engines.inc_addAssoc_eq, Engines.has_addAssoc] at h
  rcases h with ⟨e, he, h1, h2⟩ | ⟨h1, _, h3⟩
  · exact congrArg Prod.fst h1 ▸ hs e he q h2
  · rw [h1, h3]; exact ha

theorem foldl_addAssoc_good (A : String → String → Prop) (out : List Nat) (s : PState) (f p : String)
    (hs : Good A s) (ha : A f p) : Good A (out.foldl (fun s i => s.addAssoc f i p) s) :=
  List.foldlRecOn (motive := Good A) out _ hs fun s hs i _ => addAssoc_good A s f i p hs ha

theorem insertFile_good (A : String → String → Prop) (s : PState) (pfs : ParsedFS) (f : String) (hs : Good A s) :
    Good A (s.insertFile pfs f) := by
  intro a ha
  rw [(insertFile_frame s pfs f).2.2] at ha
  exact hs a ha

/-! ## the invariant of one entry's run -/

structure RInv (fs : FS) (A : String → String → Prop) (pname : String) (incs : List String) (w : World) : Prop where
  sound : IncMemo.Sound IncMemo.Query.key (IncMemo.resolveM fs.env incs) w.plat.memo
  name : w.plat.name = pname
  incs : w.plat.incPaths = incs
  good : Good A w.st

theorem RInv.setErr {fs : FS} {A : String → String → Prop} {pname : String} {incs : List String} {w : World}
    (h : RInv fs A pname incs w) (e : Err) : RInv fs A pname incs (w.setErr e) :=
  ⟨h.sound, h.name, h.incs, h.good⟩

theorem RInv.resolved {fs : FS} {A : String → String → Prop} {pname : String} {incs : List String} {w : World}
    (h : RInv fs A pname incs w) {file : String} {idx line : Nat} {name : String} {sys : Bool} {inc : String}
    (hi : (w.lookup true fs file idx line name sys).1 = some inc) :
    IncMemo.resolveM fs.env incs ⟨name, dirnameK file, sys⟩ = some inc := by
  rw [← h.incs, ← hi]
  exact (lookupWith_true_spec fs w.plat.incPaths w.plat.memo _ (h.incs ▸ h.sound)).1.symm

theorem reachE_step (fs : FS) (pfs : ParsedFS) (e : Entry) (f g : String) (hf : ReachE fs pfs e f)
    (hg : Includes fs pfs e.includePaths f g) : ReachE fs pfs e g := by
  obtain ⟨root, hr, hreach⟩ := hf
  exact ⟨root, hr, .step hreach hg⟩

/-- the operations of the model keep `RInv` inside files satisfying `Q`, when `Q` is closed under the include relation
and justifies an attribution to the platform -/
theorem rinv (fs : FS) (pfs : ParsedFS) (A : String → String → Prop) (pname : String) (incs : List String)
    (Q : String → Prop) (hQ : ∀ f g, Q f → Includes fs pfs incs f g → Q g) (hA : ∀ f, Q f → A f pname) :
    Inv true fs pfs (RInv fs A pname incs) Q where
  setErr e h := h.setErr e
  setPlat _ h _ := ⟨h.sound, h.name, h.incs, h.good⟩
  lookup file idx line name sys h :=
    ⟨h.incs ▸ (lookupWith_true_spec fs _ _ ⟨name, dirnameK file, sys⟩ (h.incs ▸ h.sound)).2, h.name, h.incs, h.good⟩
  insertFile f h := ⟨h.sound, h.name, h.incs, insertFile_good A _ pfs f h.good⟩
  record file out hq h :=
    ⟨h.sound, h.name, h.incs, foldl_addAssoc_good A out _ file _ h.good (by rw [h.name]; exact hA file hq)⟩
  next file idx n ps inc hq h hn hk hps hi := hQ file _ hq ⟨idx, n, _, ps.1, ps.2, inc, hn, hk, hps, h.resolved hi, rfl⟩

/-! ## the invariant level by level: the operations, one directive, one `-include`, one entry, the analysis -/

theorem ops_reach (fs : FS) (pfs : ParsedFS) (A : String → String → Prop) (pname : String) (incs : List String)
    (Q : String → Prop) (hQ : ∀ f g, Q f → Includes fs pfs incs f g → Q g) (hA : ∀ f, Q f → A f pname) :
    OpsInvQ (RInv fs A pname incs) Q (ops fs pfs) :=
  (rinv fs pfs A pname incs Q hQ hA).steps.opsSim.invQ

/-- an include directive: the invariant is kept (no attribution is recorded, so no file property is needed), and a file
that is entered is one the directive resolves to -/
theorem includeStep_reach (fs : FS) (pfs : ParsedFS) (A : String → String → Prop) (pname : String) (incs : List String)
    (file : String) (w : World) (idx : Nat) (n : PNode) (h : RInv fs A pname incs w) :
    RInv fs A pname incs (includeStep true fs pfs file w idx n).2 ∧
    ∀ g, (includeStep true fs pfs file w idx n).1 = some g →
      ∃ name sys inc, includeTarget w.plat.tbl n.toks = .ok (name, sys) ∧
        IncMemo.resolveM fs.env incs ⟨name, dirnameK file, sys⟩ = some inc ∧ g = fs.realpath inc := by
  rw [includeStep_eq]
  split
  · exact ⟨h.setErr _, nofun⟩
  · rename_i ps hps
    exact ⟨((rinv fs pfs A pname incs (fun _ => False) nofun nofun).steps.req file idx _ ps.1 ps.2 ⟨rfl, h⟩).2.2,
      fun g hg => let ⟨inc, hi, e⟩ := request_some hg; ⟨ps.1, ps.2, inc, hps, h.resolved hi, e⟩⟩

theorem enter_reach (fs : FS) (pfs : ParsedFS) (A : String → String → Prop) (pname : String) (incs : List String)
    (file : String) (w : World) (idx : Nat) (h : RInv fs A pname incs w) :
    RInv fs A pname incs (enter true fs pfs file w idx).2 ∧
    ∀ g, (enter true fs pfs file w idx).1 = some g → Includes fs pfs incs file g := by
  rw [enter_eq]
  split
  · rename_i n _ hn
    split
    · rename_i hk
      obtain ⟨a, b⟩ := includeStep_reach fs pfs A pname incs file w idx n h
      exact ⟨a, fun g hg => let ⟨nm, sys, inc, h1, h2, h3⟩ := b g hg; ⟨idx, n, _, nm, sys, inc, hn, hk, h1, h2, h3⟩⟩
    · split
      · exact ⟨⟨h.sound, h.name, h.incs, h.good⟩, nofun⟩
      · exact ⟨h.setErr _, nofun⟩
  · exact ⟨h, nofun⟩

theorem forced_reach (fs : FS) (pfs : ParsedFS) (A : String → String → Prop) (pname : String) (incs : List String)
    (Q : String → Prop) (hQ : ∀ f g, Q f → Includes fs pfs incs f g → Q g) (hA : ∀ f, Q f → A f pname)
    (fuel : Nat) (src : String) (w : World) (inc : String)
    (hroot : ∀ r, IncMemo.resolveM fs.env incs ⟨inc, dirnameK src, false⟩ = some r → Q (fs.realpath r))
    (h : RInv fs A pname incs w) :
    RInv fs A pname incs (forcedWith true (assocFile (ops fs pfs) fuel) fs pfs src w inc) :=
  ((rinv fs pfs A pname incs Q hQ hA).steps.forced fuel src inc (fun r hr => hroot r (h.resolved hr)) ⟨rfl, h⟩).2

theorem runEntry_good (fs : FS) (pfs : ParsedFS) (A : String → String → Prop) (fuel : Nat) (pname : String)
    (st : PState) (e : Entry) (hA : ∀ f, ReachE fs pfs e f → A f pname) (h : Good A st) :
    Good A (runEntryWith true (assocFile (ops fs pfs) fuel) fs pfs pname st e) :=
  ((rinv fs pfs A pname e.includePaths _ (reachE_step fs pfs e) hA).steps.entry fuel pname e h (hset := fun _ => h)
    (hin := fun _ => ⟨rfl, IncMemo.sound_nil _ _, rfl, rfl, h⟩) (hout := fun _ _ ⟨e, h⟩ => ⟨by rw [e], h.good⟩)
    (hroot := ⟨_, .inl rfl, .self⟩)
    (hforced := fun _ _ inc r hinc ⟨_, hw⟩ hr => ⟨_, .inr ⟨inc, hinc, r, hw.resolved hr, rfl⟩, .self⟩)).2

/-- what justifies an attribution of `f` to `p` in an analysis of `config` -/
def Justified (fs : FS) (pfs : ParsedFS) (config : List (String × List Entry)) (f p : String) : Prop :=
  ∃ pe ∈ config, pe.1 = p ∧ ∃ e ∈ pe.2, ReachE fs pfs e f

theorem find_good (fs : FS) (codebase : List String) (config : List (String × List Entry)) (fuel : Nat) :
    Good (Justified fs (parseAll fs) config) (find fs codebase config fuel) :=
  List.foldlRecOn config _
    (List.foldlRecOn _ _ (fun _ h => nomatch h) fun s h _ _ => insertFile_good _ s _ _ h) fun _ h pe hpe =>
    List.foldlRecOn pe.2 _ h fun st h e he =>
      runEntry_good fs _ _ fuel pe.1 st e (fun _ hf => ⟨pe, hpe, rfl, e, he, hf⟩) h

end CbiVerif.Inc
