import CbiVerif.PP.Analyse
import CbiVerif.Lemmas.MacroDefined
/-! The value the end-to-end models give to a controlling expression (`PP.condValue`, `Model/ExpandPP.lean`) in terms of the
two proved components, the total expander `MX.cbiExpand` (C03) and the evaluator `Eval.cbiEval` (C02): what the composition
theorems of `Props/C01.lean`, `Props/C04.lean`, `Props/C10.lean` and `Props/C02Defined.lean` start from.  (The expander on
the token lists `#ifdef X` / `#ifndef X` are parsed to: `MX.cbiExpand_defined_*`, `Lemmas/MacroDefinedList.lean`.) -/
namespace CbiVerif.PP
open CbiVerif.MX

/-- `condValue` spelled out over the two proved components -/
theorem condValue_eq (tbl : Table) (toks : List Tok) :
    condValue tbl toks =
      match cbiExpand tbl toks with
      | .ok ts => CbiVerif.Eval.evaluatePP ts
      | .error e => .error e
      | .fuel => .error (.other "ModelOutOfFuel") := by
  unfold condValue runExpandT
  cases cbiExpand tbl toks <;> rfl

/-- … and under what the multi-file models do with the value (`Inc.evalCondW`, `Exclude.evalCondL`: `f` on a truth value,
`g` on a failure) -/
theorem condValue_elim {α : Type} (tbl : Table) (toks : List Tok) (f : Bool → α) (g : Err → α) :
    (match condValue tbl toks with | .ok b => f b | .error e => g e) =
      match cbiExpand tbl toks with
      | .ok ts => (match CbiVerif.Eval.evaluatePP ts with | .ok b => f b | .error e => g e)
      | .error e => g e
      | .fuel => g (.other "ModelOutOfFuel") := by
  rw [condValue_eq]
  cases cbiExpand tbl toks <;> rfl

theorem condValue_of_expand (tbl : Table) (toks ts : List Tok) (h : cbiExpand tbl toks = .ok ts) :
    condValue tbl toks = CbiVerif.Eval.evaluatePP ts := by
  rw [condValue_eq, h]

theorem cond_of_expand (nodes : Array PNode) (tbl : Table) (i : Nat) {toks ts : List Tok} (ht : nodes[i]!.toks = toks)
    (h : cbiExpand tbl toks = .ok ts) : (langOf nodes).cond tbl i = CbiVerif.Eval.evaluatePP ts :=
  condValue_of_expand tbl _ ts (ht ▸ h)

/-- the truth values of `evaluatePP` are those of the proved evaluator `Eval.cbiEval` on the tokens without their flags -/
theorem evaluatePP_ok_iff (ts : List Tok) (b : Bool) :
    CbiVerif.Eval.evaluatePP ts = .ok b ↔ CbiVerif.Eval.cbiEval (ts.map CbiVerif.Eval.eraseFlags) = .ok b := by
  unfold CbiVerif.Eval.evaluatePP
  split <;> simp [*]

/-- the evaluator on the number `defined` was replaced by -/
theorem evaluatePP_defined (tbl : Table) (n : String) (pw : Bool) :
    CbiVerif.Eval.evaluatePP [numTok (isDefined tbl n) pw] = .ok (tbl.get n).isSome := by
  unfold isDefined
  cases (tbl.get n).isSome <;> cases pw <;> rfl

theorem evaluatePP_not_defined (tbl : Table) (n : String) (pw : Bool) :
    CbiVerif.Eval.evaluatePP [mkTok .op "!" true, numTok (isDefined tbl n) pw] = .ok (!(tbl.get n).isSome) := by
  unfold isDefined
  cases (tbl.get n).isSome <;> cases pw <;> rfl

end CbiVerif.PP
