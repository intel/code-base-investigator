import CbiVerif.Model.IncludeMemo
/-! Helper lemmas for C04: the memo of `find_include_file`, the two append lists. -/
namespace CbiVerif.IncMemo
open CbiVerif.IncludeSearch

variable {K : Type} [BEq K] [LawfulBEq K]

/-- the memo only holds answers of the memo-free resolver -/
def Sound (key : Query → K) (res : Query → Option String) (m : Memo K) : Prop :=
  ∀ q r, m.lookup (key q) = some r → r = res q

omit [LawfulBEq K] in
theorem sound_nil (key : Query → K) (res : Query → Option String) : Sound key res [] := by
  intro q r h; simp [Memo.lookup] at h

omit [LawfulBEq K] in
/-- a hit in a memo extended at its end is a hit in the old memo or the new entry -/
theorem lookup_append_single {m : Memo K} {k k' : K} {r x : Option String}
    (h : Memo.lookup (m ++ [(k, r)]) k' = some x) : m.lookup k' = some x ∨ (k == k') = true ∧ x = r := by
  unfold Memo.lookup at h ⊢
  rw [List.find?_append] at h
  cases hm : m.find? (fun e => e.1 == k') with
  | some e => exact .inl (by simpa [hm] using h)
  | none => by_cases hk : k == k' <;> simp_all

/-- one step: the memoised answer is the memo-free one, and soundness is kept;
needs: the key determines the memo-free answer -/
theorem findBy_spec (key : Query → K) (res : Query → Option String)
    (hkey : ∀ q q', key q = key q' → res q = res q') (m : Memo K) (q : Query) (h : Sound key res m) :
    (findBy key res m q).1 = res q ∧ Sound key res (findBy key res m q).2 := by
  unfold findBy
  cases hl : m.lookup (key q) with
  | some r => exact ⟨h q r hl, h⟩
  | none =>
    refine ⟨rfl, fun q' r' hq => ?_⟩
    rcases lookup_append_single hq with hm | ⟨hk, rfl⟩
    · exact h q' _ hm
    · exact hkey q q' (eq_of_beq hk)

theorem runBy_spec (key : Query → K) (res : Query → Option String)
    (hkey : ∀ q q', key q = key q' → res q = res q') (m : Memo K) (h : Sound key res m) (qs : List Query) :
    runBy key res m qs = qs.map res := by
  induction qs generalizing m with
  | nil => rfl
  | cons q qs ih =>
    obtain ⟨h1, h2⟩ := findBy_spec key res hkey m q h
    show (findBy key res m q).1 :: runBy key res (findBy key res m q).2 qs = res q :: qs.map res
    rw [h1, ih _ h2]

/-- the key of the code determines the answer of the memo-free loop -/
theorem key_determines (E : Env) (paths : List String) (q q' : Query) (h : q.key = q'.key) :
    resolveM E paths q = resolveM E paths q' := by
  obtain ⟨n, d, s⟩ := q
  obtain ⟨n', d', s'⟩ := q'
  simp only [Query.key, Prod.mk.injEq] at h
  obtain ⟨hn, hd⟩ := h
  subst hn
  cases s <;> cases s' <;> simp_all [resolveM]

theorem resolveM_eq_spec (E : Env) (ipaths isystem : List String) (q : Query) :
    resolveM E (ipaths ++ isystem) q = resolve E (!q.sys) q.dir ipaths isystem q.name := by
  cases hs : q.sys <;> simp [resolveM, resolve, searchList, hs]

/-! the two append lists -/
theorem foldl_step (l : Lists) (argv : List Flag) :
    argv.foldl Lists.step l =
      { includePaths := l.includePaths ++ argv.filterMap Flag.getI
        systemIncludePaths := l.systemIncludePaths ++ argv.filterMap Flag.getSys } := by
  induction argv generalizing l with
  | nil => simp
  | cons a as ih =>
    rw [List.foldl_cons, ih]
    cases a <;> simp [Lists.step, Flag.getI, Flag.getSys, List.filterMap_cons]

end CbiVerif.IncMemo
