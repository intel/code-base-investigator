import CbiVerif.Lemmas.MacroFunRef
/-! # C03, function-like macros with `#` / `##`: the recursive reference `RefS`

`RefS` is the reference `Ref` of `Lemmas/MacroFunRef.lean` with the plain parameter substitution `substRef` replaced by the model of
`MacroFunction.replace` itself (`MX.replaceFn`: the `#` / `##` pass `strcatPass` followed by `substArgs`), applied to the argument
list `process_args` builds (`argList`: an argument is macro-expanded on its own iff the macro marks it — an argument that is only
an operand of `#` / `##` is not).  Everything the stack machine adds — the stream stack, `splice`, the suspended loops of argument
pre-expansion, the disabled-name list, painting — is in `RefS` as plain recursion; what is left of `#` / `##` is the
non-recursive function `replaceFn`.

* `fitsbS d D ts`: the run described by `RefS` stays inside the fragment: as `fitsb`, and at every call the macro is not variadic
  and `replaceFn` succeeds (enough arguments, every `##` gives one token);
* `costS d D ts`: bound on the number of loop iterations.

Core Lean only. -/
namespace CbiVerif.MX
open CbiVerif.PP

/-- `MacroFunction.replace` on the collected arguments of a call; `none`: it raises -/
def replRef (m : Macro) (ex : List Tok → List Tok) (args : List (List Tok)) : Option (List Tok) :=
  match replaceFn m (argList m ex args 0) with
  | .ok r => some r
  | .error _ => none

def scanRefS (tbl : Table) (ex : NoExp → List Tok → List Tok) : Nat → NoExp → List Tok → List Tok
  | 0, _, ts => ts
  | _ + 1, _, [] => []
  | n + 1, D, t :: ts =>
    if t.kind != .ident then t :: scanRefS tbl ex n D ts
    else if !t.expandable || D.contains (some t.text) then paint t :: scanRefS tbl ex n D ts
    else
      match tbl.get t.text with
      | none => t :: scanRefS tbl ex n D ts
      | some m =>
        match m.args with
        | none => ex (some m.name :: D) (fixpw m.replacement t.pw) ++ scanRefS tbl ex n D ts
        | some _ =>
          match callOf ts with
          | none => t :: scanRefS tbl ex n D ts
          | some (args, rest) =>
            match replRef m (ex (none :: D)) args with
            | none => t :: scanRefS tbl ex n D ts
            | some repl => ex (some m.name :: D) (fixpw repl t.pw) ++ scanRefS tbl ex n D rest

/-- **the reference for macros with `#` / `##`** -/
def RefS (tbl : Table) : Nat → NoExp → List Tok → List Tok
  | 0, _, ts => ts
  | d + 1, D, ts => scanRefS tbl (RefS tbl d) ts.length D ts

def scanFitS (tbl : Table) (ex : NoExp → List Tok → List Tok) (fit : NoExp → List Tok → Bool) : Nat → NoExp → List Tok → Bool
  | 0, _, ts => ts.isEmpty
  | _ + 1, _, [] => true
  | n + 1, D, t :: ts =>
    t.text != "defined" &&
    (if t.kind != .ident then scanFitS tbl ex fit n D ts
     else if !t.expandable || D.contains (some t.text) then scanFitS tbl ex fit n D ts
     else
       match tbl.get t.text with
       | none => scanFitS tbl ex fit n D ts
       | some m =>
         match m.args with
         | none => fit (some m.name :: D) (fixpw m.replacement t.pw) && scanFitS tbl ex fit n D ts
         | some _ =>
           match callOf ts with
           | none => (match ts with | x :: _ => dtext x != "(" | [] => false) && scanFitS tbl ex fit n D ts
           | some (args, rest) =>
             match replRef m (ex (none :: D)) args with
             | none => false
             | some repl =>
               !m.variadic && args.all (fit (none :: D)) && fit (some m.name :: D) (fixpw repl t.pw) && scanFitS tbl ex fit n D rest)

/-- **the fragment** for macros with `#` / `##` -/
def fitsbS (tbl : Table) : Nat → NoExp → List Tok → Bool
  | 0, _, ts => ts.isEmpty
  | d + 1, D, ts => scanFitS tbl (RefS tbl d) (fitsbS tbl d) ts.length D ts

def scanCostS (tbl : Table) (ex : NoExp → List Tok → List Tok) (cost : NoExp → List Tok → Nat) : Nat → NoExp → List Tok → Nat
  | 0, _, _ => 0
  | _ + 1, _, [] => 0
  | n + 1, D, t :: ts =>
    if t.kind != .ident then 1 + scanCostS tbl ex cost n D ts
    else if !t.expandable || D.contains (some t.text) then 1 + scanCostS tbl ex cost n D ts
    else
      match tbl.get t.text with
      | none => 1 + scanCostS tbl ex cost n D ts
      | some m =>
        match m.args with
        | none => cost (some m.name :: D) (fixpw m.replacement t.pw) + 2 + scanCostS tbl ex cost n D ts
        | some _ =>
          match callOf ts with
          | none => 1 + scanCostS tbl ex cost n D ts
          | some (args, rest) =>
            match replRef m (ex (none :: D)) args with
            | none => 1 + scanCostS tbl ex cost n D ts
            | some repl =>
              (args.map fun a => cost (none :: D) a + 2).sum + cost (some m.name :: D) (fixpw repl t.pw) + 2 +
              scanCostS tbl ex cost n D rest

def costS (tbl : Table) : Nat → NoExp → List Tok → Nat
  | 0, _, _ => 0
  | d + 1, D, ts => scanCostS tbl (RefS tbl d) (costS tbl d) ts.length D ts

end CbiVerif.MX
