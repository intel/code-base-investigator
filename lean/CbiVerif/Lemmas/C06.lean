import CbiVerif.Lemmas.Setmap
import CbiVerif.Lemmas.FileTree
/-! helper lemmas for C06: the two measures of a setmap (count of a key, presence of a key), `report.files` as a
    sequence of insertions, `--prune`, the root's setmap as a fold of `merge`, sums over the non-link files -/
namespace CbiVerif.FTm
open CbiVerif.SM

/-- the count of platform set `k` is additive under `merge` -/
def getMeas (k : Key) : Meas Setmap Nat where
  vadd := merge
  zero := []
  μ := fun s => get s k
  op := (· + ·)
  e := 0
  assoc := Nat.add_assoc
  comm := Nat.add_comm
  op_e := Nat.add_zero
  μ_add := fun a b => get_merge a b k
  μ_zero := rfl

/-- the presence of platform set `k` among the keys is additive (∨) under `merge` -/
def hasMeas (k : Key) : Meas Setmap Bool where
  vadd := merge
  zero := []
  μ := fun s => has s k
  op := (· || ·)
  e := false
  assoc := Bool.or_assoc
  comm := Bool.or_comm
  op_e := Bool.or_false
  μ_add := fun a b => has_merge a b k
  μ_zero := rfl

theorem msum_get (k : Key) (l : List Nat) : msum (getMeas k) l = l.sum :=
  List.sum_eq_foldr.symm

theorem msum_has (k : Key) (l : List Bool) : msum (hasMeas k) l = l.any id := by
  induction l with
  | nil => rfl
  | cons x xs ih => exact congrArg (x || ·) ih

def toIns (f : FileRec) : Ins Setmap := ⟨f.path, f.link, fileSetmap f⟩

/-- the files `report.files` inserts -/
def kept (prune : Bool) (f : FileRec) : Bool := !(prune && !anyPlatform (fileSetmap f))

/-- some node of the file is associated with a platform -/
def usedFile (f : FileRec) : Bool := f.nodes.any fun n => !n.plats.isEmpty

theorem filesTree_fold (prune : Bool) (fs : List FileRec) (t : FileTree) :
    fs.foldl (fun t f =>
      let sm := fileSetmap f
      if prune && !anyPlatform sm then t else insertRoot merge [] sm f.link f.path t) t
    = ((fs.filter (kept prune)).map toIns).foldl (fun t i => insertRoot merge [] i.v i.link i.path t) t := by
  rw [List.foldl_map, List.foldl_filter]
  refine congrArg (fun g => fs.foldl g t) (funext fun t => funext fun f => ?_)
  show (if _ then t else _) = if (!(prune && !anyPlatform (fileSetmap f))) = true then _ else t
  cases prune && !anyPlatform (fileSetmap f) <;> rfl

theorem filesTree_eq_build (root : String) (prune : Bool) (fs : List FileRec) :
    filesTree root prune fs = build merge [] root ((fs.filter (kept prune)).map toIns) := by
  unfold filesTree build
  exact filesTree_fold prune fs _

theorem has_fileSetmap (f : FileRec) (k : Key) : has (fileSetmap f) k = f.nodes.any fun n => decide (n.plats = k) :=
  (has_addNodes [] f.nodes k).trans (Bool.false_or _)

theorem mem_keys_fileSetmap (f : FileRec) (k : Key) : k ∈ keys (fileSetmap f) ↔ ∃ n ∈ f.nodes, n.plats = k :=
  (mem_keys_foldl_add (fun n : NodeRec => n.plats) (fun n => n.numLines) f.nodes [] k).trans (or_iff_right List.not_mem_nil)

theorem anyPlatform_fileSetmap (f : FileRec) : anyPlatform (fileSetmap f) = usedFile f := by
  rw [Bool.eq_iff_iff]
  unfold anyPlatform usedFile
  rw [List.any_eq_true, List.any_eq_true]
  constructor
  · rintro ⟨e, he, hne⟩
    obtain ⟨n, hn, hp⟩ := (mem_keys_fileSetmap f e.1).mp (List.mem_map_of_mem he)
    exact ⟨n, hn, hp ▸ hne⟩
  · rintro ⟨n, hn, hne⟩
    obtain ⟨e, he, hk⟩ := List.mem_map.mp ((mem_keys_fileSetmap f _).mpr ⟨n, hn, rfl⟩)
    exact ⟨e, he, hk.symm ▸ hne⟩

theorem kept_true (f : FileRec) : kept true f = usedFile f := by
  simp [kept, anyPlatform_fileSetmap]

theorem kept_false (f : FileRec) : kept false f = true := by simp [kept]

theorem build_val (root : String) (ins : List (Ins Setmap)) :
    ∀ (v : Setmap) (ks : List FileTree),
      (ins.foldl (fun t i => insertRoot merge [] i.v i.link i.path t) (.dir root v ks)).val
        = ins.foldl (fun s i => if i.link then s else merge s i.v) v := by
  induction ins with
  | nil => intro v ks; rfl
  | cons i rest ih =>
    intro v ks
    simp only [List.foldl_cons]
    have : insertRoot merge [] i.v i.link i.path (.dir root v ks)
        = .dir root (if i.link then v else merge v i.v) (insertKids merge [] i.v i.link i.path ks) := rfl
    rw [this, ih]

theorem nodup_fold_merge (ins : List (Ins Setmap)) (v : Setmap) (h : (keys v).Nodup) :
    (keys (ins.foldl (fun s i => if i.link then s else merge s i.v) v)).Nodup := by
  induction ins generalizing v with
  | nil => exact h
  | cons i rest ih =>
    simp only [List.foldl_cons]
    apply ih
    split
    · exact h
    · exact nodup_merge _ _ h

theorem sum_nonlink (fs : List FileRec) (g : FileRec → Nat) :
    (fs.map fun f => if f.link then 0 else g f).sum = ((fs.filter fun f => !f.link).map g).sum := by
  induction fs with
  | nil => rfl
  | cons f fs ih =>
    rw [List.map_cons, List.sum_cons, List.filter_cons, ih]
    cases f.link
    · rfl
    · exact Nat.zero_add _

theorem any_nonlink (fs : List FileRec) (g : FileRec → Bool) :
    (fs.any fun f => !f.link && g f) = (fs.filter fun f => !f.link).any g :=
  List.any_filter.symm

end CbiVerif.FTm
