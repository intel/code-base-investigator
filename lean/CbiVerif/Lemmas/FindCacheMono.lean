import CbiVerif.Lemmas.FindCache
/-!
Helper lemmas for C08: in a file system all of whose files belong to ONE language class (by
extension), no run of the engine of `Model/Exclude.lean` ever logs a language-mixing event, and every
cached tree is recorded under that class.  Hence the parse cache is literally `Transparent` there.
-/
namespace CbiVerif.FindCache
open CbiVerif.PP CbiVerif.FindFold CbiVerif.Exclude

/-- every file has extension class `cl0`, or has no extension class and does not parse at all
(for `semC fs`: does not exist) -/
def OneClass (S : Sem) (cl0 : LClass) : Prop :=
  ∀ g, S.extClass g = some cl0 ∨ (S.extClass g = none ∧ ∀ cl, ∃ e, S.parseAs cl g = .error e)

/-- every cached tree is recorded under class `cl0` -/
def Mono (cl0 : LClass) (c : Cache) : Prop := ∀ g cl t, (g, cl, t) ∈ c → cl = cl0

/-- invariant of the monolingual case -/
def InvMono (S : Sem) (cl0 : LClass) (c : Cache) : Prop := Inv S c ∧ Mono cl0 c

theorem Mono.nil (cl0 : LClass) : Mono cl0 [] := by intro g cl t h; cases h

theorem Mono.snoc {cl0 : LClass} {c : Cache} {g : String} {t : Parsed} (h : Mono cl0 c) :
    Mono cl0 (c ++ [(g, cl0, t)]) := by
  intro g' cl' t' hm
  rcases List.mem_append.mp hm with hm | hm
  · exact h _ _ _ hm
  · simp at hm; exact hm.2.1

def InhOK (cl0 : LClass) (inh : Option LClass) : Prop := inh = none ∨ inh = some cl0

theorem ext_of_parses {S : Sem} {cl0 : LClass} (hS : OneClass S cl0) {g : String} {cl : LClass} {t : Parsed}
    (hp : S.parseAs cl g = .ok t) : S.extClass g = some cl0 := by
  rcases hS g with h | ⟨_, h⟩
  · exact h
  · obtain ⟨e, he⟩ := h cl; rw [hp] at he; cases he

/-- a file that is not cached is parsed under `cl0`, and that is its reference class -/
theorem OneClass.used {S : Sem} {cl0 : LClass} (hS : OneClass S cl0) {g : String} {inh : Option LClass}
    (hinh : InhOK cl0 inh) {cl : LClass} (hc : S.inhOrExt g inh = some cl) :
    cl = cl0 ∧ S.refClass g inh = some cl0 := by
  rcases hS g with h | ⟨h, _⟩ <;> rcases hinh with rfl | rfl <;> simp_all [Sem.inhOrExt, Sem.refClass]

theorem enter_mono {S : Sem} {cl0 : LClass} (hS : OneClass S cl0) (w : XW) (g : String)
    (inh : Option LClass) (hI : InvMono S cl0 w.cache) (hinh : InhOK cl0 inh) :
    (S.enter w g inh).1.mixed = w.mixed ∧ InvMono S cl0 (S.enter w g inh).1.cache ∧
    ∀ cl2 t, (S.enter w g inh).2 = some (cl2, t) → cl2 = cl0 := by
  -- whenever `enter` uses a class, it is `cl0` and the reference class: nothing is logged
  have hmix : S.refClass g inh = some cl0 → w.mixed ++ S.mixOf g cl0 inh = w.mixed := fun hr => by rw [Sem.mixOf, if_pos hr.symm, List.append_nil]
  fun_cases Sem.enter S w g inh with
  | case1 cl t hl =>
    obtain rfl : cl = cl0 := hI.2 _ _ _ (look_mem hl)
    have hx := ext_of_parses hS (hI.1 _ _ _ (look_mem hl))
    exact ⟨hmix (by rw [Sem.refClass, hx]), hI, fun _ _ h => by cases h; rfl⟩
  | case2 hl hc => exact ⟨rfl, hI, nofun⟩
  | case3 hl cl hc e hp =>
    obtain ⟨rfl, href⟩ := hS.used hinh hc
    exact ⟨hmix href, hI, nofun⟩
  | case4 hl cl hc t hp =>
    obtain ⟨rfl, href⟩ := hS.used hinh hc
    exact ⟨hmix href, ⟨hI.1.snoc hp, hI.2.snoc⟩, fun _ _ h => by cases h; rfl⟩

/-- what a run of the engine keeps in the monolingual case -/
def Keeps (S : Sem) (cl0 : LClass) (w w' : XW) : Prop :=
  w'.mixed = w.mixed ∧ InvMono S cl0 w'.cache

/-- the monolingual case: no state is clean in the sense of `View` (nothing is claimed of the association state); what a
run from `w0` keeps is `Keeps`, and only trees of class `cl0` are walked -/
def monoView (S : Sem) (cl0 : LClass) (w0 : XW) : View XW := { J := Keeps S cl0 w0, clean := fun _ => False, C := (· = cl0) }

theorem enterOK_mono {S : Sem} {cl0 : LClass} (hS : OneClass S cl0) (w0 : XW) (g : String) {inh : Option LClass}
    (hinh : InhOK cl0 inh) : EnterOK S.cached S (monoView S cl0 w0) g inh := by
  intro w hJ
  obtain ⟨hm, hI1, hcl⟩ := enter_mono hS w g inh hJ.2 hinh
  exact ⟨⟨hm.trans hJ.1, hI1⟩, fun _ => trivial, hcl, False.elim⟩

theorem lift_mono {S : Sem} {cl0 : LClass} (hS : OneClass S cl0) (w0 : XW) : Lift S.cached S (monoView S cl0 w0) :=
  .cached S (fun _ _ h => h) (fun _ _ h => h) fun g _ hC => enterOK_mono hS w0 g (.inr (congrArg some hC))

theorem mono_all (S : Sem) (cl0 : LClass) (hS : OneClass S cl0) : ∀ n,
    (∀ file t w, InvMono S cl0 w.cache → Keeps S cl0 w (assocTree S n file cl0 t w)) ∧
    (∀ file nodes w tr, InvMono S cl0 w.cache → Keeps S cl0 w (visit S n file cl0 nodes w tr)) ∧
    (∀ file nodes w ts, InvMono S cl0 w.cache → Keeps S cl0 w (visitList S n file cl0 nodes w ts)) := by
  intro n
  refine ⟨fun file t w hI => ?_, fun file nodes w tr hI => ?_, fun file nodes w ts hI => ?_⟩
  · exact (((lift_mono hS w).tree n).1 file cl0 t w _ rfl rfl ⟨⟨rfl, hI⟩, trivial⟩).1.1
  · exact (((lift_mono hS w).tree n).2.1 file cl0 nodes w _ tr rfl rfl ⟨⟨rfl, hI⟩, trivial⟩).1.1
  · exact (((lift_mono hS w).tree n).2.2 file cl0 nodes w _ ts rfl rfl ⟨⟨rfl, hI⟩, trivial⟩).1.1

theorem mono_entry (S : Sem) (cl0 : LClass) (hS : OneClass S cl0) (n : Nat) (pname : String) (e : Entry)
    (w : XW) (hI : InvMono S cl0 w.cache) : Keeps S cl0 w (runEntry S n pname e w) :=
  ((lift_mono hS w).entry n pname e w
    (fun _ _ _ f _ _ _ => enterOK_mono hS w f (.inl rfl)) (enterOK_mono hS w e.file (.inl rfl)) ⟨rfl, hI⟩).1

theorem mono_step (S : Sem) (cl0 : LClass) (hS : OneClass S cl0) (n : Nat) (c : Cache) (e : Entry)
    (hI : InvMono S cl0 c) : mixedStep S n c e = false ∧ InvMono S cl0 (entryX S n c e).cache := by
  have h := mono_entry S cl0 hS n "" e { cache := c } hI
  refine ⟨?_, h.2⟩
  have hm : (entryX S n c e).mixed = [] := h.1
  simp [mixedStep, hm]

/-- **literal transparency of the parse cache in a one-class file system** -/
theorem cstep_transparent_mono (S : Sem) (cl0 : LClass) (hS : OneClass S cl0) (n : Nat) :
    Transparent (InvMono S cl0) (cstep S n) (analyse S n) := by
  intro c e hI
  obtain ⟨hflag, hI'⟩ := mono_step S cl0 hS n c e hI
  obtain ⟨_, hT⟩ := cstep_transparent_unless S n c e hI.1
  have h2 := hT hflag
  cases hst : cstep S n c e with
  | error er => rw [hst] at h2; exact h2
  | ok os =>
    obtain ⟨o, c'⟩ := os
    rw [hst] at h2
    refine ⟨h2, ?_⟩
    rw [(cstep_ok hst).1]
    exact hI'

theorem prep_invMono (S : Sem) (cl0 : LClass) (hS : OneClass S cl0) (cb : List String) (cfg : Config Entry)
    (hpre : (prep S cb cfg).loc.err = none) : InvMono S cl0 (prep S cb cfg).cache := by
  obtain ⟨hI, hB, _⟩ :=
    preparse_spec S (cb ++ entryFiles cfg) {} (Inv.nil S) (fun g cl t h => by cases h) hpre
  refine ⟨hI, fun g cl t hm => ?_⟩
  have hx := hB g cl t hm
  have hx0 := ext_of_parses hS (hI g cl t hm)
  rw [hx0] at hx
  exact (Option.some.inj hx).symm

theorem findC_eq_findRefG_oneclass (S : Sem) (cl0 : LClass) (hS : OneClass S cl0) (n : Nat)
    (cb : List String) (cfg : Config Entry) : findC S n cb cfg = findRefG S n cb cfg :=
  findC_eq_findRefG_of ((transparent_iff_unless _ _ _).mp (cstep_transparent_mono S cl0 hS n)) cb cfg
    (prep_invMono S cl0 hS cb cfg) (cleanJobs_false_flag _ _ _)

end CbiVerif.FindCache
