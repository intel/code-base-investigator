import CbiVerif.PP.Lexer
/-! # The lexer on characters; how closed facts about texts are evaluated

Test vectors and non-vacuity examples are proved by kernel evaluation (`decide +kernel`).  In the kernel a `String` is a byte
array: `String.toList` and `String.length` of `n` characters cost about `0.4 n² + 7 n` thousand heartbeats (UTF-8 decoding over
a list of bytes, the same for a literal and for `String.ofList l`), `==` about 3 thousand per character and side, against
1 thousand for a step of the model on a `Char`.  But `isDefEq` and the kernel read a literal `"abc"` as
`String.ofList ['a', 'b', 'c']`: a lemma `f (String.ofList l) = fL l`, where `fL` works on the characters, rewrites `f "abc"`,
and the kernel accepts the step without evaluating anything.  Such lemmas (`_ofList`) exist for the functions that read a
source text: here for the lexer, in `Lemmas/SpecLexChars.lean` for the specification's lexer, in `Lemmas/SourceChars.lean`
for the C front end (`parseFile`, `parseDirective`, `cFileSource`), in `Lemmas/FindChars.lean` for file maps, in
`Lemmas/FRun.lean` / `FCondChars.lean` for the Fortran front end.  Evaluations go through them where the
text is longer than about a dozen characters; a shorter literal (`tokenize "1<<2"` in `Props/C02Text.lean`, flags, argument
lists) is mostly left to the kernel: one rewrite costs what decoding eight characters costs.  The lemmas are applied in one
of three ways, always by `rw` (it unifies `String.ofList ?l` with the literal; the index of `simp only` keeps literals apart):

* the call stands below applications of constants only: `rw [f_ofList]; decide +kernel`, or as a term
  `(f_ofList _).trans (by decide +kernel)`;
* the call stands below a `match` (or several calls are to be shared): `generalize h : f _ = v; revert h; rw [f_ofList];
  rintro rfl; decide +kernel`.  Rewriting in place is checked by comparing the goal before and after; the kernel reduces a
  `match` by evaluating its discriminant, here the whole run, once with the literal and once with the characters.  For the
  same reason a goal that shows a `match` on a closed run is never changed by a definitional step (`unfold`, `delta`, `dsimp`,
  `show`): such steps come first, while the run is still an application of constants, and wrappers are opened with
  `rw [wrapper]`, which records the equation it used;
* the text is not in the goal but fetched from a table during the run (file maps), or made into a `String` by the model
  itself (`g (String.ofList x)` inside a wrapper): the function that does so is rewritten as a function
  (`parseAsFS_cons`, `pnodeOf_eq`; under binders, where the argument is literally `String.ofList _`, also by `simp only`).

`tokenizeL` below is `tokenize.go` with the operator and punctuator tables as character lists: `matchAny` decodes every
literal of its table (0.4 M heartbeats per evaluation).  Token texts stay `String`s (`String.ofList` of the characters read). -/
namespace CbiVerif.PP

def operatorsL : List (List Char) :=
  [['|', '|'], ['&', '&'], ['>', '>'], ['<', '<'], ['!', '='], ['>', '='], ['<', '='], ['=', '='], ['#', '#'], ['-'], ['+'],
   ['!'], ['*'], ['/'], ['|'], ['&'], ['^'], ['<'], ['>'], ['?'], [':'], ['~'], ['#'], ['='], ['%']]
def punctuatorsL : List (List Char) :=
  [['('], [')'], ['{'], ['}'], ['['], [']'], [','], ['.'], [';'], ['\''], ['"'], ['\\']]

theorem operators_eq : operators = operatorsL.map String.ofList := rfl
theorem punctuators_eq : punctuators = punctuatorsL.map String.ofList := rfl

/-- the first literal of a table that is a prefix of `s`, found on the characters (both lexers search their tables so) -/
theorem find?_prefix_map_ofList (s : List Char) (lits : List (List Char)) :
    (lits.map String.ofList).find? (fun p => p.toList.isPrefixOf s) = (lits.find? (·.isPrefixOf s)).map String.ofList := by
  induction lits with
  | nil => rfl
  | cons l ls ih =>
    rw [List.map_cons, List.find?_cons, List.find?_cons, String.toList_ofList]
    cases l.isPrefixOf s
    · exact ih
    · rfl

theorem matchAny_map_ofList (s : List Char) (lits : List (List Char)) :
    matchAny s (lits.map String.ofList) = (lits.find? (·.isPrefixOf s)).map String.ofList :=
  find?_prefix_map_ofList s lits

/-- an operator or punctuator at the head of `s`, tables as character lists -/
def symbolL (s : List Char) (pw : Bool) : Option (Tok × List Char) :=
  match operatorsL.find? (·.isPrefixOf s) with
  | some o => some (⟨.op, String.ofList o, pw, true⟩, s.drop o.length)
  | none =>
  match punctuatorsL.find? (·.isPrefixOf s) with
  | some o => some (⟨.punct, String.ofList o, pw, true⟩, s.drop o.length)
  | none => none

def tokenizeOneL (s : List Char) (pw : Bool) : Option (Tok × List Char) :=
  match lexNumber s with
  | some (t, r) => some (⟨.num, String.ofList t, pw, true⟩, r)
  | none =>
  match lexChar s with
  | some (t, r) => some (⟨.chr, String.ofList t, pw, true⟩, r)
  | none =>
  match lexString s with
  | some (t, r) => some (⟨.str, String.ofList t, pw, true⟩, r)
  | none =>
  match lexIdent s with
  | some (t, r) => some (⟨.ident, String.ofList t, pw, true⟩, r)
  | none => symbolL s pw

theorem tokenizeOne_eq (s : List Char) (pw : Bool) : tokenizeOne s pw = tokenizeOneL s pw := by
  unfold tokenizeOne tokenizeOneL symbolL
  rw [operators_eq, punctuators_eq, matchAny_map_ofList, matchAny_map_ofList]
  cases operatorsL.find? (·.isPrefixOf s) with
  | some o => simp only [Option.map_some, String.length_ofList]; rfl
  | none =>
    cases punctuatorsL.find? (·.isPrefixOf s) with
    | some o => simp only [Option.map_some, Option.map_none, String.length_ofList]; rfl
    | none => rfl

/-- `tokenize.go` over `tokenizeOneL` -/
def tokenizeL (fuel : Nat) (s : List Char) (pw : Bool) (acc : List Tok) : List Tok :=
  match fuel with
  | 0 => acc
  | fuel + 1 =>
    let ws := s.takeWhile isWs
    let s1 := s.drop ws.length
    let pw1 := pw || !ws.isEmpty
    match s1 with
    | [] => acc
    | c :: r =>
      match tokenizeOneL s1 pw1 with
      | some (t, rest) => tokenizeL fuel rest false (acc ++ [t])
      | none => tokenizeL fuel r false (acc ++ [⟨.unknown, String.singleton c, pw1, true⟩])

theorem tokenize_go_eq (fuel : Nat) (s : List Char) (pw : Bool) (acc : List Tok) :
    tokenize.go fuel s pw acc = tokenizeL fuel s pw acc := by
  induction fuel generalizing s pw acc with
  | zero => rfl
  | succ n ih => simp only [tokenize.go, tokenizeL, tokenizeOne_eq, ih]; rfl

theorem tokenize_ofList (l : List Char) : tokenize (String.ofList l) = tokenizeL (l.length + 1) l false [] := by
  rw [tokenize, String.toList_ofList, String.length_ofList, tokenize_go_eq]

theorem tokenize_append_ofList (a b : List Char) :
    tokenize (String.ofList a ++ String.ofList b) = tokenizeL ((a ++ b).length + 1) (a ++ b) false [] := by
  rw [← String.ofList_append, tokenize_ofList]

end CbiVerif.PP
