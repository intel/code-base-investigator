import CbiVerif.Model.FileTree
/-!
helper lemmas for C06 (`FileTree.insert`): for every additive measure of the figures
(`Meas`: a map `μ` from figures into a commutative monoid with `μ (vadd a b) = μ a · μ b`)
one insertion of a fresh path keeps "every directory's measure = product of the measures of the
non-link files beneath it" and adds exactly one leaf (`insertKids_spec`, `insertRoot_inv`; the design prototype
`CbiVerif/FileTree.lean` is the instance for ℕ) and keeps later paths fresh (`fresh_insert`); `build_spec` lifts this to any
sequence of insertions.  One insertion is seen through three facts: it changes the names of the children at most by
appending one (`names_insertKids`), among distinct names it updates a single child (`map_update`), and a child is afterwards
an old one, the new file, or the directory on the way with the rest of the path inserted into it (`mem_insertKids`).
No sum is followed through an insertion: the measure of a list of children is the product over the files listed
beneath them (`leafSumL_leaves`), in any order (`msum_perm`), and an insertion lists one file more (`leafSumL_of_leaves`).
Then: the invariant read at any node of the tree (`inv_nodes`, `build_nodes`), and printing with a depth limit
is filtering the unlimited print (`print_hide`).
-/
namespace CbiVerif.FTm

/-- an additive measure of figures -/
structure Meas (V A : Type) where
  vadd : V → V → V
  zero : V
  μ : V → A
  op : A → A → A
  e : A
  assoc : ∀ a b c, op (op a b) c = op a (op b c)
  comm : ∀ a b, op a b = op b a
  op_e : ∀ a, op a e = a
  μ_add : ∀ a b, μ (vadd a b) = op (μ a) (μ b)
  μ_zero : μ zero = e

variable {V A : Type} (M : Meas V A)

theorem Meas.e_op (a : A) : M.op M.e a = a := by rw [M.comm, M.op_e]

mutual
def leafSum : T V → A
  | .file _ link v => if link then M.e else M.μ v
  | .dir _ _ kids => leafSumL kids
def leafSumL : List (T V) → A
  | [] => M.e
  | t :: ts => M.op (leafSum t) (leafSumL ts)
end

def Distinct (kids : List (T V)) : Prop := kids.Pairwise (fun a b => a.name ≠ b.name)

mutual
def Inv : T V → Prop
  | .file _ _ _ => True
  | .dir _ v kids => M.μ v = leafSumL M kids ∧ Distinct kids ∧ InvL kids
def InvL : List (T V) → Prop
  | [] => True
  | t :: ts => Inv t ∧ InvL ts
end

/-- the names along `path` that already exist are directories and the last one does not exist:
    the path has not been inserted and no file sits where it needs a directory -/
def Fresh : List String → List (T V) → Prop
  | [], _ => True
  | [f], kids => ¬ kids.any (·.name == f)
  | d :: rest, kids => ∀ k ∈ kids, k.name = d → match k with | .dir _ _ ks => Fresh rest ks | .file _ _ _ => False

/-- what one insertion adds to the measure -/
def gain (x : V) (link : Bool) : A := if link then M.e else M.μ x

/-! The equations of the nested recursions hold by `rfl`; they are stated (here and below) to rewrite with. -/

theorem leafSumL_cons (t : T V) (ts : List (T V)) : leafSumL M (t :: ts) = M.op (leafSum M t) (leafSumL M ts) := rfl
theorem InvL_cons (t : T V) (ts : List (T V)) : InvL M (t :: ts) ↔ Inv M t ∧ InvL M ts := Iff.rfl

theorem leafSumL_append (a b : List (T V)) : leafSumL M (a ++ b) = M.op (leafSumL M a) (leafSumL M b) := by
  induction a with
  | nil => exact (M.e_op _).symm
  | cons t ts ih => exact (congrArg (M.op _) ih).trans (M.assoc ..).symm

theorem invL_iff (kids : List (T V)) : InvL M kids ↔ ∀ k ∈ kids, Inv M k := by
  induction kids with
  | nil => exact ⟨fun _ _ h => (nomatch h), fun _ => trivial⟩
  | cons t ts ih => rw [InvL_cons, ih, List.forall_mem_cons]

theorem InvL_append (a b : List (T V)) : InvL M (a ++ b) ↔ InvL M a ∧ InvL M b := by
  simp only [invL_iff, List.forall_mem_append]

theorem bump_name (vadd : V → V → V) (x : V) (link : Bool) (g : List (T V) → List (T V)) (t : T V) :
    (bump vadd x link g t).name = t.name := by
  cases t <;> rfl

theorem insertKids_single (vadd : V → V → V) (zero x : V) (link : Bool) (f : String) (kids : List (T V)) :
    insertKids vadd zero x link [f] kids = if kids.any (·.name == f) then kids else kids ++ [.file f link x] := rfl

theorem insertKids_cons_cons (vadd : V → V → V) (zero x : V) (link : Bool) (d e : String) (p : List String) (kids : List (T V)) :
    insertKids vadd zero x link (d :: e :: p) kids =
      if kids.any (·.name == d) then
        kids.map fun k => if k.name == d then bump vadd x link (insertKids vadd zero x link (e :: p)) k else k
      else kids ++ [bump vadd x link (insertKids vadd zero x link (e :: p)) (.dir d zero [])] := rfl

theorem any_name_iff (kids : List (T V)) (d : String) : kids.any (·.name == d) = true ↔ d ∈ kids.map T.name := by
  rw [List.any_eq_true, List.mem_map]
  exact ⟨fun ⟨k, hk, h⟩ => ⟨k, hk, beq_iff_eq.mp h⟩, fun ⟨k, hk, h⟩ => ⟨k, hk, beq_iff_eq.mpr h⟩⟩

theorem names_insertKids (vadd : V → V → V) (zero x : V) (link : Bool) (d : String) (p : List String) (kids : List (T V)) :
    (insertKids vadd zero x link (d :: p) kids).map T.name =
      if kids.any (·.name == d) then kids.map T.name else kids.map T.name ++ [d] := by
  by_cases hex : kids.any (·.name == d) = true
  · rw [if_pos hex]
    cases p with
    | nil => rw [insertKids_single, if_pos hex]
    | cons e p =>
      rw [insertKids_cons_cons, if_pos hex, List.map_map]
      refine List.map_congr_left fun k _ => ?_
      show (if k.name == d then bump vadd x link _ k else k).name = k.name
      by_cases hk : (k.name == d) = true
      · rw [if_pos hk]; exact bump_name ..
      · rw [if_neg hk]
  · rw [if_neg hex]
    cases p with
    | nil => rw [insertKids_single, if_neg hex, List.map_append]; rfl
    | cons e p => rw [insertKids_cons_cons, if_neg hex, List.map_append, List.map_singleton, bump_name]; rfl

/-- the children after an insertion: the old ones, the new file, or the directory on the way (an old one or a new,
    empty one) with the rest of the path inserted into it -/
theorem mem_insertKids (vadd : V → V → V) (zero x : V) (link : Bool) (c : String) (ps : List String) (kids : List (T V))
    {k' : T V} (h : k' ∈ insertKids vadd zero x link (c :: ps) kids) :
    k' ∈ kids ∨ (ps = [] ∧ k' = .file c link x) ∨
      ∃ v ks, (T.dir c v ks ∈ kids ∨ ks = []) ∧ k' = insertRoot vadd zero x link ps (.dir c v ks) := by
  cases ps with
  | nil =>
    rw [insertKids_single] at h
    split at h
    · exact .inl h
    · exact (List.mem_append.mp h).imp_right fun h => .inl ⟨rfl, List.mem_singleton.mp h⟩
  | cons e ps =>
    rw [insertKids_cons_cons] at h
    split at h
    · obtain ⟨k, hk, rfl⟩ := List.mem_map.mp h
      split
      · next hc =>
        cases k with
        | file n l v => exact .inl hk
        | dir n v ks =>
          obtain rfl : n = c := beq_iff_eq.mp hc
          exact .inr (.inr ⟨v, ks, .inl hk, rfl⟩)
      · exact .inl hk
    · exact (List.mem_append.mp h).imp_right fun h => .inr ⟨zero, [], .inr rfl, List.mem_singleton.mp h⟩

theorem distinct_iff (kids : List (T V)) : Distinct kids ↔ (kids.map T.name).Nodup :=
  List.pairwise_map.symm

theorem distinct_insertKids (vadd : V → V → V) (zero x : V) (link : Bool) (path : List String) (kids : List (T V))
    (h : Distinct kids) : Distinct (insertKids vadd zero x link path kids) := by
  cases path with
  | nil => exact h
  | cons d p =>
    rw [distinct_iff, names_insertKids]
    by_cases hex : kids.any (·.name == d) = true
    · rw [if_pos hex]; exact (distinct_iff kids).mp h
    · rw [if_neg hex]
      rw [any_name_iff] at hex
      exact List.nodup_append.mpr ⟨(distinct_iff kids).mp h, List.pairwise_singleton _ d,
        fun a ha b hb => List.mem_singleton.mp hb ▸ fun hab => hex (hab ▸ ha)⟩

theorem map_update (d : String) (g : T V → T V) {kids : List (T V)} (hdis : Distinct kids)
    (hex : kids.any (·.name == d) = true) :
    ∃ l k r, kids = l ++ k :: r ∧ k.name = d ∧
      (kids.map fun c => if c.name == d then g c else c) = l ++ g k :: r := by
  obtain ⟨k, hk, hn⟩ := List.any_eq_true.mp hex
  have hn : k.name = d := beq_iff_eq.mp hn
  obtain ⟨l, r, rfl⟩ := List.append_of_mem hk
  have hdis' := List.pairwise_append.mp hdis
  have hid : ∀ s : List (T V), (∀ c ∈ s, c.name ≠ d) → (s.map fun c => if c.name == d then g c else c) = s := by
    intro s hs
    exact (List.map_congr_left fun c hc => if_neg fun h => hs c hc (beq_iff_eq.mp h)).trans (List.map_id s)
  refine ⟨l, k, r, rfl, hn, ?_⟩
  rw [List.map_append, List.map_cons, hid l fun c hc => hn ▸ hdis'.2.2 c hc k List.mem_cons_self,
    hid r fun c hc => hn ▸ ((List.pairwise_cons.mp hdis'.2.1).1 c hc).symm, hn, beq_self_eq_true, if_pos rfl]

theorem bump_val (v x : V) (link : Bool) (s : A) (hv : M.μ v = s) :
    M.μ (if link then v else M.vadd v x) = M.op s (gain M x link) := by
  cases link
  · rw [if_neg Bool.false_ne_true, gain, if_neg Bool.false_ne_true, M.μ_add, hv]
  · rw [if_pos rfl, gain, if_pos rfl, M.op_e, hv]

theorem fresh_nil : ∀ (q : List String), Fresh q ([] : List (T V))
  | [] => trivial
  | [_] => Bool.false_ne_true
  | _ :: _ :: _ => fun _ hk => nomatch hk

/-! ### the files listed in the tree -/

mutual
def leaves : List String → T V → List (Ins V)
  | pre, .file n l v => [⟨pre ++ [n], l, v⟩]
  | pre, .dir n _ ks => leavesL (pre ++ [n]) ks
def leavesL : List String → List (T V) → List (Ins V)
  | _, [] => []
  | pre, t :: ts => leaves pre t ++ leavesL pre ts
end

theorem leavesL_cons (pre : List String) (t : T V) (ts : List (T V)) :
    leavesL pre (t :: ts) = leaves pre t ++ leavesL pre ts := rfl

theorem leavesL_append (pre : List String) (a b : List (T V)) : leavesL pre (a ++ b) = leavesL pre a ++ leavesL pre b := by
  induction a with
  | nil => rfl
  | cons t ts ih => rw [List.cons_append, leavesL_cons, leavesL_cons, ih, List.append_assoc]

def msum (l : List A) : A := l.foldr M.op M.e

theorem msum_append (a b : List A) : msum M (a ++ b) = M.op (msum M a) (msum M b) := by
  induction a with
  | nil => exact (M.e_op _).symm
  | cons x xs ih => exact (congrArg (M.op x) ih).trans (M.assoc ..).symm

theorem msum_perm {a b : List A} (h : a.Perm b) : msum M a = msum M b :=
  h.foldr_eq' (fun x _ y _ z => by rw [← M.assoc, M.comm y x, M.assoc]) _

/-! `T` is a nested inductive type: a statement about all trees is proved together with a statement about all lists of
    trees (its recursor has the two motives); `T.ind` gives both from the four cases. -/

theorem T.ind {P : T V → Prop} {Q : List (T V) → Prop} (file : ∀ n l v, P (.file n l v))
    (dir : ∀ n v ks, Q ks → P (.dir n v ks)) (nil : Q []) (cons : ∀ t ts, P t → Q ts → Q (t :: ts)) :
    (∀ t, P t) ∧ ∀ ts, Q ts :=
  ⟨fun t => T.rec file dir nil cons t, fun ts => T.rec_1 file dir nil cons ts⟩

theorem leaves_sum : (∀ (t : T V) (pre : List String), leafSum M t = msum M ((leaves pre t).map fun i => gain M i.v i.link)) ∧
    ∀ (ts : List (T V)) (pre : List String), leafSumL M ts = msum M ((leavesL pre ts).map fun i => gain M i.v i.link) := by
  refine T.ind ?_ ?_ ?_ ?_
  · exact fun _ _ _ _ => (M.op_e _).symm
  · exact fun n _ ks ih pre => ih (pre ++ [n])
  · exact fun _ => rfl
  · intro t ts ih1 ih2 pre
    rw [leafSumL_cons, leavesL_cons, List.map_append, msum_append, ← ih1 pre, ← ih2 pre]

theorem leafSum_leaves : ∀ (t : T V) (pre : List String),
    leafSum M t = msum M ((leaves pre t).map fun i => gain M i.v i.link) :=
  (leaves_sum M).1

theorem leafSumL_leaves (ts : List (T V)) (pre : List String) :
    leafSumL M ts = msum M ((leavesL pre ts).map fun i => gain M i.v i.link) :=
  (leaves_sum M).2 ts pre

/-- the measure of the children is that of the files listed beneath them: one more file, one more factor -/
theorem leafSumL_of_leaves {ks ks' : List (T V)} {i : Ins V} (h : (leavesL [] ks').Perm (i :: leavesL [] ks)) :
    leafSumL M ks' = M.op (leafSumL M ks) (gain M i.v i.link) := by
  rw [leafSumL_leaves M ks' [], msum_perm M (h.map _), leafSumL_leaves M ks [], M.comm]
  rfl

/-! ### one insertion -/

/-- inserting a fresh path below a directory keeps the invariant at the directory (and so at every level beneath it)
    and lists exactly one more file.  The induction is over the path with the directory general: the child on the
    way is a directory to which the hypothesis applies as it stands, be it an old one or the new, empty one. -/
theorem insertKids_spec (x : V) (link : Bool) : ∀ (path : List String) (n : String) (v : V) (kids : List (T V)),
    path ≠ [] → Inv M (.dir n v kids) → Fresh path kids →
    Inv M (insertRoot M.vadd M.zero x link path (.dir n v kids)) ∧
      ∀ pre, (leavesL pre (insertKids M.vadd M.zero x link path kids)).Perm (⟨pre ++ path, link, x⟩ :: leavesL pre kids) := by
  intro path
  induction path with
  | nil => intro _ _ _ h; exact absurd rfl h
  | cons d rest ih =>
    intro n v kids _ ⟨hv, hdis, hinv⟩ hfresh
    -- the invariant of the children and the files listed give the figure of the directory
    suffices h : InvL M (insertKids M.vadd M.zero x link (d :: rest) kids) ∧
        ∀ pre, (leavesL pre (insertKids M.vadd M.zero x link (d :: rest) kids)).Perm (⟨pre ++ d :: rest, link, x⟩ :: leavesL pre kids) from
      ⟨⟨(bump_val M v x link _ hv).trans (leafSumL_of_leaves M (h.2 [])).symm, distinct_insertKids _ _ _ _ _ _ hdis, h.1⟩, h.2⟩
    cases rest with
    | nil =>
      rw [insertKids_single, if_neg hfresh, InvL_append]
      refine ⟨⟨hinv, trivial, trivial⟩, fun pre => ?_⟩
      rw [leavesL_append]
      exact List.perm_append_singleton _ _
    | cons e p =>
      rw [insertKids_cons_cons]
      by_cases hex : kids.any (·.name == d) = true
      · obtain ⟨l, k, r, rfl, rfl, heq⟩ := map_update _ (bump M.vadd x link (insertKids M.vadd M.zero x link (e :: p))) hdis hex
        have hfk := hfresh k (List.mem_append_right _ List.mem_cons_self) rfl
        rw [if_pos hex, heq]
        rw [InvL_append, InvL_cons] at hinv ⊢
        cases k with
        | file n l v => exact hfk.elim
        | dir n v ks =>
          obtain ⟨hi, hlv⟩ := ih n v ks (List.cons_ne_nil e p) hinv.2.1 hfk
          refine ⟨⟨hinv.1, hi, hinv.2.2⟩, fun pre => ?_⟩
          have := hlv (pre ++ [n])
          rw [List.append_assoc] at this
          rw [leavesL_append, leavesL_append, leavesL_cons, leavesL_cons]
          exact ((this.append_right _).append_left _).trans List.perm_middle
      · obtain ⟨hi, hlv⟩ := ih d M.zero [] (List.cons_ne_nil e p) ⟨M.μ_zero, .nil, trivial⟩ (fresh_nil _)
        rw [if_neg hex, InvL_append]
        refine ⟨⟨hinv, hi, trivial⟩, fun pre => ?_⟩
        have := hlv (pre ++ [d])
        rw [List.append_assoc] at this
        rw [leavesL_append]
        exact ((this.append_right []).append_left _).trans (List.perm_append_singleton _ _)

/-- inserting a fresh path keeps "every directory's measure = product over the non-link files beneath it",
    at every level, and the root gains exactly the file's measure (nothing for a symlink). -/
theorem insertRoot_inv (x : V) (link : Bool) (path : List String) (n : String) (v : V) (kids : List (T V))
    (hp : path ≠ []) (h : Inv M (.dir n v kids)) (hf : Fresh path kids) :
    Inv M (insertRoot M.vadd M.zero x link path (.dir n v kids)) ∧
      leafSum M (insertRoot M.vadd M.zero x link path (.dir n v kids)) = M.op (leafSum M (.dir n v kids)) (gain M x link) :=
  (insertKids_spec M x link path n v kids hp h hf).imp_right fun hl => leafSumL_of_leaves M (i := ⟨_, link, x⟩) (hl [])

/-! ### later paths stay fresh -/

/-- neither path is a prefix of the other (in particular they differ): two files of one file system -/
def Incomp (p q : List String) : Prop := ¬ p <+: q ∧ ¬ q <+: p

theorem incomp_tail {a : String} {p q : List String} (h : Incomp (a :: p) (a :: q)) : Incomp p q := by
  unfold Incomp at *
  simp only [List.cons_prefix_cons, true_and] at h
  exact h

theorem fresh_insert (vadd : V → V → V) (zero : V) (x : V) (link : Bool) : ∀ (q p : List String) (kids : List (T V)),
    Incomp p q → Fresh q kids → Fresh q (insertKids vadd zero x link p kids) := by
  intro q
  induction q with
  | nil => intros; trivial
  | cons g rest ih =>
    intro p kids hinc hq
    cases p with
    | nil => exact hq
    | cons c ps =>
    cases rest with
    | nil =>
      -- no child named `g` appears: the only name that may be new is `c`, and `[g]` is not a prefix of `c :: ps`
      have hq : g ∉ kids.map T.name := fun h => hq ((any_name_iff kids g).mpr h)
      show ¬ _
      rw [any_name_iff, names_insertKids]
      split
      · exact hq
      · exact fun h => (List.mem_append.mp h).elim hq fun h => hinc.2 (List.mem_singleton.mp h ▸ ⟨ps, rfl⟩)
    | cons r rs =>
      intro k' hk' hn
      rcases mem_insertKids vadd zero x link c ps kids hk' with h | ⟨rfl, rfl⟩ | ⟨v, ks, hks, rfl⟩
      · exact hq k' h hn
      · exact hinc.1 ⟨r :: rs, congrArg (· :: r :: rs) hn⟩
      · obtain rfl : c = g := hn
        exact ih ps ks (incomp_tail hinc) (hks.elim (fun h => hq _ h rfl) fun h => h ▸ fresh_nil _)

/-! ### sequences of insertions -/

/-- the inserted paths are non-empty and pairwise prefix-incomparable (distinct files of one file system) -/
def PathsOK (ps : List (List String)) : Prop := (∀ p ∈ ps, p ≠ []) ∧ ps.Pairwise Incomp

def T.kids : T V → List (T V)
  | .file _ _ _ => []
  | .dir _ _ ks => ks

theorem build_aux (ins : List (Ins V)) : ∀ (n : String) (v : V) (kids : List (T V)),
    Inv M (.dir n v kids) → (∀ i ∈ ins, Fresh i.path kids) → PathsOK (ins.map (·.path)) →
    ∃ v' kids', ins.foldl (fun t i => insertRoot M.vadd M.zero i.v i.link i.path t) (.dir n v kids) = .dir n v' kids' ∧
      Inv M (.dir n v' kids') ∧ (leavesL [] kids').Perm (leavesL [] kids ++ ins) := by
  induction ins with
  | nil => exact fun n v kids hinv _ _ => ⟨v, kids, rfl, hinv, .of_eq (List.append_nil _).symm⟩
  | cons i rest ih =>
    intro n v kids hinv hfresh ⟨hne, hpw⟩
    rw [List.map_cons, List.pairwise_cons] at hpw
    obtain ⟨hinv', hleaves⟩ := insertKids_spec M i.v i.link i.path n v kids (hne i.path List.mem_cons_self) hinv
      (hfresh i List.mem_cons_self)
    obtain ⟨v', kids', he, hi', hl⟩ := ih n _ _ hinv'
      (fun j hj => fresh_insert M.vadd M.zero i.v i.link j.path i.path kids
        (hpw.1 j.path (List.mem_map_of_mem hj)) (hfresh j (List.mem_cons_of_mem _ hj)))
      ⟨fun p hp => hne p (List.mem_cons_of_mem _ hp), hpw.2⟩
    exact ⟨v', kids', he, hi', hl.trans (((hleaves []).append_right _).trans List.perm_middle.symm)⟩

/-- **any sequence of insertions** of pairwise incomparable paths into an empty tree: every directory satisfies the
    invariant, the files listed are exactly the inserted ones, and so the root's measure is the product over the
    non-link insertions -/
theorem build_spec (root : String) (ins : List (Ins V)) (hok : PathsOK (ins.map (·.path))) :
    Inv M (build M.vadd M.zero root ins) ∧
      M.μ (build M.vadd M.zero root ins).val = msum M (ins.map fun i => gain M i.v i.link) ∧
      (leavesL [] (build M.vadd M.zero root ins).kids).Perm ins := by
  obtain ⟨v', kids', he, hi, hl⟩ := build_aux M ins root M.zero [] ⟨M.μ_zero, .nil, trivial⟩ (fun i _ => fresh_nil _) hok
  rw [build, he]
  exact ⟨hi, (hi.1.trans (leafSumL_leaves M kids' [])).trans (msum_perm M (hl.map _)), hl⟩

/-! ### every node of the tree -/
mutual
def nodes : T V → List (T V)
  | .file n l v => [.file n l v]
  | .dir n v ks => .dir n v ks :: nodesL ks
def nodesL : List (T V) → List (T V)
  | [] => []
  | t :: ts => nodes t ++ nodesL ts
end

theorem inv_nodes (t : T V) : Inv M t → ∀ d ∈ nodes t, Inv M d := by
  refine (T.ind (P := fun t => Inv M t → ∀ d ∈ nodes t, Inv M d)
    (Q := fun ts => InvL M ts → ∀ d ∈ nodesL ts, Inv M d) ?_ ?_ ?_ ?_).1 t
  · exact fun n l v h d hd => List.mem_singleton.mp hd ▸ h
  · exact fun n v ks ih h d hd => (List.mem_cons.mp hd).elim (fun e => e ▸ h) (ih h.2.2 d)
  · exact fun _ _ hd => nomatch hd
  · exact fun t ts ih1 ih2 h d hd => (List.mem_append.mp hd).elim (ih1 h.1 d) (ih2 h.2 d)

theorem build_nodes (root : String) (ins : List (Ins V)) (hok : PathsOK (ins.map (·.path))) (n : String) (v : V)
    (ks : List (T V)) (h : T.dir n v ks ∈ nodes (build M.vadd M.zero root ins)) :
    M.μ v = msum M ((leavesL [] ks).map fun i => gain M i.v i.link) :=
  (inv_nodes M _ (build_spec M root ins hok).1 _ h).1.trans (leafSumL_leaves M ks [])

/-! ### printing -/

@[simp] theorem hidden_none (d : Nat) : hidden none d = false := rfl

theorem printNode_file (lv : Option Nat) (d : Nat) (pre conn : String) (r : Bool) (n : String) (l : Bool) (v : V) :
    printNode lv d pre conn r (.file n l v) = if hidden lv d then [] else [⟨d, pre ++ conn ++ "--", n, false, l, v⟩] := rfl
theorem printNode_dir (lv : Option Nat) (d : Nat) (pre conn : String) (r : Bool) (n : String) (v : V) (ks : List (T V)) :
    printNode lv d pre conn r (.dir n v ks) = if hidden lv d then []
      else ⟨d, pre ++ conn ++ (if r then "o" else "-o"), n, true, false, v⟩ :: printKids lv (d + 1) (nextPrefix pre conn) ks := rfl
theorem printKids_cons (lv : Option Nat) (d : Nat) (pre : String) (k : T V) (ks : List (T V)) :
    printKids lv d pre (k :: ks) =
      printNode lv d pre (if ks.isEmpty then "\\" else "|") false k ++ printKids lv d pre ks := rfl

theorem hidden_mono (lv : Option Nat) (d d' : Nat) (h : d ≤ d') (hd : hidden lv d = true) : hidden lv d' = true := by
  cases lv with
  | none => exact hd
  | some l =>
    simp only [hidden, Bool.and_eq_true, decide_eq_true_eq] at hd ⊢
    exact ⟨hd.1, Nat.lt_of_lt_of_le hd.2 h⟩

theorem depth_ge : (∀ (t : T V) (d : Nat) (pre conn : String) (r : Bool), ∀ row ∈ printNode none d pre conn r t, d ≤ row.depth) ∧
    ∀ (ts : List (T V)) (d : Nat) (pre : String), ∀ row ∈ printKids none d pre ts, d ≤ row.depth := by
  refine T.ind ?_ ?_ ?_ ?_
  · intro n l v d pre conn r row hrow
    rw [printNode_file, hidden_none, if_neg Bool.false_ne_true, List.mem_singleton] at hrow
    exact hrow ▸ Nat.le_refl _
  · intro n v ks ih d pre conn r row hrow
    rw [printNode_dir, hidden_none, if_neg Bool.false_ne_true, List.mem_cons] at hrow
    exact hrow.elim (fun e => e ▸ Nat.le_refl _) fun h => Nat.le_of_succ_le (ih (d + 1) _ row h)
  · exact fun _ _ _ hrow => nomatch hrow
  · intro t ts ih1 ih2 d pre row hrow
    rw [printKids_cons, List.mem_append] at hrow
    exact hrow.elim (ih1 d pre _ false row) (ih2 d pre row)

theorem depth_ge_node : ∀ (t : T V) (d : Nat) (pre conn : String) (r : Bool),
    ∀ row ∈ printNode none d pre conn r t, d ≤ row.depth :=
  depth_ge.1

theorem print_hide (lv : Option Nat) : (∀ (t : T V) (d : Nat) (pre conn : String) (r : Bool),
      printNode lv d pre conn r t = (printNode none d pre conn r t).filter (fun row => !hidden lv row.depth)) ∧
    ∀ (ts : List (T V)) (d : Nat) (pre : String),
      printKids lv d pre ts = (printKids none d pre ts).filter (fun row => !hidden lv row.depth) := by
  refine T.ind ?_ ?_ ?_ ?_
  · intro n l v d pre conn r
    rw [printNode_file, printNode_file, hidden_none, if_neg Bool.false_ne_true]
    cases h : hidden lv d <;> simp [h]
  · intro n v ks ih d pre conn r
    rw [printNode_dir, printNode_dir, hidden_none, if_neg Bool.false_ne_true, List.filter_cons]
    cases h : hidden lv d
    · rw [if_neg Bool.false_ne_true, ih (d + 1) (nextPrefix pre conn)]; rfl
    · -- a hidden directory: every row beneath it is deeper, hence hidden too
      rw [if_pos rfl, Bool.not_true, if_neg Bool.false_ne_true, eq_comm, List.filter_eq_nil_iff]
      intro row hrow
      rw [hidden_mono lv d row.depth (Nat.le_of_succ_le (depth_ge.2 ks (d + 1) _ row hrow)) h]
      exact Bool.false_ne_true
  · exact fun _ _ => rfl
  · intro t ts ih1 ih2 d pre
    rw [printKids_cons, printKids_cons, List.filter_append, ← ih1 d pre _ false, ← ih2 d pre]

theorem print_hide_kids (lv : Option Nat) : ∀ (ts : List (T V)) (d : Nat) (pre : String),
    printKids lv d pre ts = (printKids none d pre ts).filter (fun row => !hidden lv row.depth) :=
  (print_hide lv).2

end CbiVerif.FTm
