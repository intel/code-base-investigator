import CbiVerif.Lemmas.ClimbProof
import CbiVerif.Model.Eval
/-!
# The evaluator reads tokens through kind and text only (C02, white-space irrelevance)

`eraseFlags` clears `prev_white` and sets `expandable`.  The generic precedence climbing (`Climb.expr / loop / primary`)
commutes with it whenever the leaf parser does (`erase_all`), the leaf parsers of the executed instance (`opsN n`, residual
calls of any nesting) do (`leafInv_opsN`), hence `cbiExpr` and `cbiEval` return the same value (and the same rest up to
flags) on two token lists that agree in kinds and texts.  Core Lean only.
-/
namespace CbiVerif.EvalFlags
open CbiVerif.PP CbiVerif.Climb CbiVerif.Eval

variable {V : Type}

def mapRes (r : Res V) : Res V :=
  match r with
  | .ok (v, rest) => .ok (v, rest.map eraseFlags)
  | .error e => .error e

@[simp] theorem mapRes_ok (v : V) (rest : List Tok) : mapRes (.ok (v, rest)) = .ok (v, rest.map eraseFlags) := rfl
@[simp] theorem mapRes_error (e : EErr) : mapRes (.error e : Res V) = .error e := rfl

@[simp] theorem erase_kind (t : Tok) : (eraseFlags t).kind = t.kind := rfl
@[simp] theorem erase_text (t : Tok) : (eraseFlags t).text = t.text := rfl
@[simp] theorem isOp_erase (t : Tok) (s : String) : isOp (eraseFlags t) s = isOp t s := rfl
@[simp] theorem isPunct_erase (t : Tok) (s : String) : isPunct (eraseFlags t) s = isPunct t s := rfl

/-- a leaf parser that reads kind and text only -/
def LeafInv (leaf : List Tok → Res V) : Prop := ∀ ts, leaf (ts.map eraseFlags) = mapRes (leaf ts)

theorem andThen_erase {x x' : Res V} {k k' : V → List Tok → Res V} (h : x' = mapRes x)
    (hk : ∀ v r, k' v (r.map eraseFlags) = mapRes (k v r)) : andThen x' k' = mapRes (andThen x k) := by
  subst h
  cases x with
  | error e => rfl
  | ok vr => exact hk vr.1 vr.2

theorem respects_erase : Respects (V := V) (List.map eraseFlags) .parse .parse fun x x' => x' = mapRes x where
  nil := rfl
  cons t _ := ⟨eraseFlags t, rfl, rfl, rfl⟩
  ok _ _ := rfl
  error := rfl
  andThen := andThen_erase

theorem erase_all (O : EvOps V) (hL : LeafInv O.leaf) : ∀ f,
    (∀ m ts, expr O f m (ts.map eraseFlags) = mapRes (expr O f m ts)) ∧
    (∀ m v ts, loop O f m v (ts.map eraseFlags) = mapRes (loop O f m v ts)) ∧
    (∀ ts, primary O f (ts.map eraseFlags) = mapRes (primary O f ts)) := by
  intro f
  induction f with
  | zero => exact ⟨fun _ _ => rfl, fun _ _ _ => rfl, fun _ => rfl⟩
  | succ f ih =>
    obtain ⟨ihe, ihl, ihp⟩ := ih
    refine ⟨fun m ts => ?_, fun m v ts => ?_, fun ts => ?_⟩
    · rw [expr_succ, expr_succ]; exact andThen_erase (ihp ts) (ihl m)
    · rw [loop_succ, loop_succ]; exact respects_erase.loopF ihe ihl m v ts
    · rw [primary_succ, primary_succ]; exact respects_erase.primaryF ihe hL ts

theorem expr_erase (O : EvOps V) (hL : LeafInv O.leaf) (f m : Nat) (ts : List Tok) :
    expr O f m (ts.map eraseFlags) = mapRes (expr O f m ts) := (erase_all O hL f).1 m ts

/-! ## the leaf parser of the executed instance -/

/-- an argument-list parser (`__expression_list`) that reads kind and text only -/
def ArgInv (args : List Tok → Except EErr (List Tok)) : Prop :=
  ∀ ts, args (ts.map eraseFlags) = (match args ts with | .ok r => .ok (r.map eraseFlags) | .error e => .error e)

theorem leafWith_inv (args : List Tok → Except EErr (List Tok)) (ha : ArgInv args) : LeafInv (leafWith args) := by
  intro ts
  match ts with
  | [] => simp [leafWith]
  | t :: rest =>
    simp only [List.map_cons, leafWith, erase_kind, erase_text]
    by_cases h1 : (t.kind == TKind.num) = true
    · simp only [h1, if_true]
      cases literal t.text <;> simp
    · simp only [h1, Bool.false_eq_true, if_false]
      by_cases h2 : (t.kind == TKind.chr) = true
      · simp only [h2, if_true]
        cases characterValue t.text.toList with
        | ok n => simp
        | error e => cases e <;> simp
      · simp only [h2, Bool.false_eq_true, if_false]
        by_cases h3 : (t.kind == TKind.ident) = true
        · simp only [h3, if_true]
          match rest with
          | [] => simp
          | p :: r1 =>
            simp only [List.map_cons, isPunct_erase]
            by_cases hp : isPunct p "(" = true
            · simp only [hp, if_true, ha r1]
              cases hr : args r1 with
              | error e => simp
              | ok r3 =>
                match r3 with
                | [] => simp
                | c :: r4 =>
                  simp only [List.map_cons, isPunct_erase]
                  by_cases hc : isPunct c ")" = true
                  · simp [hc]
                  · simp [hc]
            · simp [hp]
        · simp [h3]

theorem more_inv (ex : List Tok → Res Val) (hex : ∀ ts, ex (ts.map eraseFlags) = mapRes (ex ts)) :
    ∀ (fuel : Nat) (ts : List Tok), argList.more ex fuel (ts.map eraseFlags) =
      (match argList.more ex fuel ts with | .ok r => .ok (r.map eraseFlags) | .error e => .error e) := by
  intro fuel
  induction fuel with
  | zero => intro ts; simp [argList.more]
  | succ fuel ih =>
    intro ts
    match ts with
    | [] => simp [argList.more]
    | c :: r1 =>
      simp only [List.map_cons, argList.more, isPunct_erase]
      by_cases hc : isPunct c "," = true
      · simp only [hc, if_true, hex r1]
        cases hr : ex r1 with
        | error e => cases e <;> simp
        | ok vr => obtain ⟨v, r2⟩ := vr; simp only [mapRes_ok, ih r2]
      · simp [hc]

theorem argList_inv (ex : List Tok → Res Val) (hex : ∀ ts, ex (ts.map eraseFlags) = mapRes (ex ts)) :
    ArgInv (argList ex) := by
  intro ts
  simp only [argList, hex ts]
  cases hr : ex ts with
  | error e => cases e <;> simp
  | ok vr =>
    obtain ⟨v, r⟩ := vr
    simp only [mapRes_ok, List.length_map]
    exact more_inv ex hex _ r

theorem leafInv_opsN : ∀ n, LeafInv (opsN n).leaf
  | 0 => by
    show LeafInv (leafWith fun _ => .error (.other 0))
    exact leafWith_inv _ (by intro ts; rfl)
  | n + 1 => by
    show LeafInv (leafWith (argList fun ts => expr (opsN n) (3 * ts.length + 4) 0 ts))
    refine leafWith_inv _ (argList_inv _ ?_)
    intro ts
    simp only [List.length_map]
    exact expr_erase (opsN n) (leafInv_opsN n) _ 0 ts

/-! ## the executed evaluator -/

theorem cbiExpr_erase (ts : List Tok) : cbiExpr (ts.map eraseFlags) = mapRes (cbiExpr ts) := by
  simp only [cbiExpr, List.length_map]
  exact expr_erase _ (leafInv_opsN _) _ 0 ts

theorem cbiEval_erase (ts : List Tok) : cbiEval (ts.map eraseFlags) = cbiEval ts := by
  simp only [cbiEval, cbiExpr_erase]
  cases cbiExpr ts with
  | error e => rfl
  | ok vr => obtain ⟨v, r⟩ := vr; rfl

/-- kind and text of a token are all the evaluator looks at -/
theorem erase_of_key (ts ts' : List Tok) (h : ts.map (fun t => (t.kind, t.text)) = ts'.map (fun t => (t.kind, t.text))) :
    ts.map eraseFlags = ts'.map eraseFlags := by
  have e : ∀ l : List Tok, l.map eraseFlags =
      (l.map fun t => (t.kind, t.text)).map fun k => (⟨k.1, k.2, false, true⟩ : Tok) := by
    intro l; simp [List.map_map, Function.comp_def, eraseFlags]
  rw [e ts, e ts', h]

end CbiVerif.EvalFlags
