import CbiVerif.Lemmas.FCleanSim
/-!
Lift of the per-dispatch simulation to characters (`step`), lines (`procLine`)
and the buffer (`OSL`): for every line the reference accepts, the cleaner ends in
the state that abstracts the reference's next mode, and — outside finding class
F-C17-1 — its buffer is non-blank exactly when the reference counts the line.
-/
namespace CbiVerif.Fortran
open Tbl

/-! ## one input character (with putback) and end of line -/

theorem step_abs (s : FSt) (c : Char) (h : Inv s) :
    absF (step s c).1 = (Tbl.step (absF s) (cls c)).1 ∧
    anyVis (step s c).2 = anyVisible (Tbl.step (absF s) (cls c)).2 ∧
    anyLit (step s c).2 = anyLitWs (Tbl.step (absF s) (cls c)).2 ∧
    Inv (step s c).1 := by
  have a := step1_sim s c h
  unfold step Tbl.step
  generalize step1 s c = x at a
  generalize Tbl.step1 (absF s) (cls c) = y at a
  obtain ⟨s1, e1, pb⟩ := x
  obtain ⟨t1, k1, pb'⟩ := y
  obtain ⟨rfl, rfl, a3, a4, a5⟩ := a
  cases pb with
  | false => exact ⟨rfl, a3, a4, a5⟩
  | true =>
    obtain ⟨b1, -, b3, b4, b5⟩ := step1_sim s1 c a5
    exact ⟨b1, by rw [anyVis_append, a3, b3]; exact List.any_append.symm,
      by rw [anyLit_append, a4, b4]; exact List.any_append.symm, b5⟩

theorem endLine_abs (s : FSt) (h : Inv s) :
    absF (endLine s) = Tbl.endLine (absF s) ∧ Inv (endLine s) := by
  obtain ⟨st, sc, vc, found⟩ := s
  cases st with
  | nil => exact ⟨rfl, h.withFound rfl⟩
  | cons m r =>
    cases m with
    | verify => exact ⟨rfl, (inv_cons ..).2 ⟨fun _ => rfl, nofun, rfl, ((inv_cons ..).1 h).2.2.2⟩⟩
    | _ => exact ⟨rfl, h.withFound rfl⟩

/-- simulation relation between the executed cleaner state and a reference mode -/
def RlF (s : FSt) (m : RF) : Prop := Inv s ∧ Rl (absF s) m

theorem init_rlF : RlF {} .code := ⟨init_inv, rfl⟩

theorem stepF_sim (s : FSt) (m : RF) (c : Char) (o : ROut) (h : RlF s m) (ho : rstep m (cls c) = some o) :
    RlF (step s c).1 o.mode ∧ anyVis (step s c).2 = o.vis ∧ anyLit (step s c).2 = o.lit := by
  obtain ⟨a1, a2, a3, a4⟩ := step_abs s c h.1
  obtain ⟨b1, b2, b3⟩ := Tbl.step_sim (absF s) m (cls c) o h.2 ho
  exact ⟨⟨a4, a1 ▸ b1⟩, a2.trans b2, a3.trans b3⟩

theorem endF_sim (s : FSt) (m m' : RF) (h : RlF s m) (he : rend m = some m') : RlF (endLine s) m' := by
  obtain ⟨a1, a2⟩ := endLine_abs s h.1
  exact ⟨a2, a1 ▸ Tbl.end_sim (absF s) m m' h.2 he⟩

def OSL.hasVis (b : OSL) : Bool := hasNonWs b.parts
def OSL.OnlySp (b : OSL) : Prop :=
  (b.parts = [] ∧ b.trailing = false) ∨ (b.parts = [' '] ∧ b.trailing = true)

theorem onlySp_empty : ({} : OSL).OnlySp := Or.inl ⟨rfl, rfl⟩

theorem isWs_space : isWs ' ' = true := by decide

theorem hasVis_add (b : OSL) (e : Emit) : (b.add e).hasVis = (b.hasVis || e.visible) := by
  cases e with
  | sp =>
    simp only [OSL.add, vis_sp, Bool.or_false]
    split
    · rfl
    · simp [OSL.hasVis, isWs_space]
  | ns c => simp [OSL.add, OSL.hasVis, vis_ns]

theorem hasVis_addAll (b : OSL) (es : List Emit) : (b.addAll es).hasVis = (b.hasVis || anyVis es) := by
  induction es generalizing b with
  | nil => simp [OSL.addAll]
  | cons e es ih =>
    simp only [OSL.addAll, List.foldl_cons] at ih ⊢
    rw [ih, hasVis_add]; simp [Bool.or_assoc]

theorem onlySp_add (b : OSL) (e : Emit) (h : b.OnlySp) (hv : e.visible = false) (hl : e.litWs = false) :
    (b.add e).OnlySp := by
  cases e with
  | sp =>
    rcases h with ⟨hp, ht⟩ | ⟨hp, ht⟩ <;> exact .inr (by simp [OSL.add, hp, ht])
  | ns c =>
    rw [vis_ns] at hv; rw [lit_ns] at hl
    simp [hl] at hv

theorem onlySp_addAll (b : OSL) (es : List Emit) (h : b.OnlySp) (hv : anyVis es = false)
    (hl : anyLit es = false) : (b.addAll es).OnlySp := by
  induction es generalizing b with
  | nil => simpa [OSL.addAll] using h
  | cons e es ih =>
    simp only [anyVis_cons, anyLit_cons, Bool.or_eq_false_iff] at hv hl
    simp only [OSL.addAll, List.foldl_cons]
    exact ih _ (onlySp_add b e h hv.1 hl.1) hv.2 hl.2

theorem category_blank_iff (p : List Char) : category p = .blank ↔ p = [] ∨ p = [' '] := by
  match p with
  | [] => simp [category]
  | [c] =>
    by_cases h : c = ' '
    · simp [category, h]
    · simp only [category, beq_iff_eq, h, if_false]; split <;> simp [h]
  | a :: b :: _ => simp only [category]; split <;> simp

theorem blank_iff (b : OSL) : b.blank = true ↔ b.parts = [] ∨ b.parts = [' '] :=
  beq_iff_eq.trans (category_blank_iff _)

theorem blank_of_onlySp (b : OSL) (h : b.OnlySp) : b.blank = true :=
  (blank_iff b).2 (h.imp And.left And.left)

theorem blank_of_hasVis (b : OSL) (h : b.hasVis = true) : b.blank = false := by
  rw [Bool.eq_false_iff, ne_eq, blank_iff]
  rintro (hp | hp) <;> simp [OSL.hasVis, hp, isWs_space] at h

/-- buffer invariant on a line: `v`/`l` = some visible / literal-blank emission so far -/
structure BInv (b : OSL) (v l : Bool) : Prop where
  vis : b.hasVis = v
  only : v = false → l = false → b.OnlySp

theorem BInv.addAll {b : OSL} {v l : Bool} (h : BInv b v l) (es : List Emit) :
    BInv (b.addAll es) (v || anyVis es) (l || anyLit es) := by
  refine ⟨by rw [hasVis_addAll, h.vis], ?_⟩
  intro hv hl
  simp only [Bool.or_eq_false_iff] at hv hl
  exact onlySp_addAll b es (h.only hv.1 hl.1) hv.2 hl.2

theorem BInv.counted {b : OSL} {v l : Bool} (h : BInv b v l) (hk : l = true → v = true) : (!b.blank) = v := by
  cases v with
  | true => simp [blank_of_hasVis b h.vis]
  | false =>
    have hl : l = false := by cases l <;> simp_all
    simp [blank_of_onlySp b (h.only rfl hl)]

theorem binv_of_onlySp {b : OSL} (h : b.OnlySp) : BInv b false false :=
  ⟨by rcases h with ⟨hp, _⟩ | ⟨hp, _⟩ <;> simp [OSL.hasVis, hp, isWs_space], fun _ _ => h⟩

theorem binv_empty : BInv ({} : OSL) false false := binv_of_onlySp onlySp_empty

theorem procChars_sim (chars : List Char) : ∀ (s : FSt) (buf : OSL) (a0 a : RAcc),
    RlF s a0.mode → BInv buf a0.vis a0.lit → rchars a0 chars = some a →
    RlF (procChars s buf chars).1 a.mode ∧ BInv (procChars s buf chars).2 a.vis a.lit := by
  induction chars with
  | nil => intro s buf a0 a hR hb hr; cases hr; exact ⟨hR, hb⟩
  | cons c cs ih =>
    intro s buf a0 a hR hb hr
    simp only [rchars] at hr
    split at hr
    · cases hr
    · split at hr
      · cases hr
      · rename_i o ho
        obtain ⟨hs1, hs2, hs3⟩ := stepF_sim s _ c o hR ho
        exact ih _ _ ⟨o.mode, a0.vis || o.vis, a0.lit || o.lit⟩ a hs1 (hs2 ▸ hs3 ▸ hb.addAll _) hr

theorem chars_sim (chars : List Char) : ∀ (s : FSt) (m : RF) (buf : OSL) (v l : Bool) (a0 a : RAcc),
    RlF s m → a0.mode = m → BInv buf v l → v = a0.vis → l = a0.lit → rchars a0 chars = some a →
    ∃ v' l', RlF (procChars s buf chars).1 a.mode ∧ BInv (procChars s buf chars).2 v' l' ∧
      v' = a.vis ∧ l' = a.lit := by
  intro s m buf v l a0 a hR hm hb hv hl hr
  subst hm hv hl
  obtain ⟨h1, h2⟩ := procChars_sim chars s buf a0 a hR hb hr
  exact ⟨_, _, h1, h2, rfl, rfl⟩

theorem rline_some {m : RF} {l : List Char} {r : RLine} (h : rline m l = some r) :
    ∃ a m', rchars ⟨m, false, false⟩ l = some a ∧ rend a.mode = some m' ∧ r = ⟨m', a.vis || a.lit, a.lit && !a.vis⟩ := by
  unfold rline at h
  split at h
  · cases h
  · split at h
    · cases h
    · cases h; exact ⟨_, _, ‹_›, ‹_›, rfl⟩

theorem line_binv (s : FSt) (m m' : RF) (l : List Char) (a : RAcc) (hR : RlF s m)
    (hr : rchars ⟨m, false, false⟩ l = some a) (he : rend a.mode = some m') :
    RlF (procLine s l).1 m' ∧ BInv (procLine s l).2 a.vis a.lit :=
  have ⟨h1, h2⟩ := procChars_sim l s {} ⟨m, false, false⟩ a hR binv_empty hr
  ⟨endF_sim _ _ _ h1 he, h2⟩

/-- one line: the next cleaner state abstracts the reference's next mode, and outside
F-C17-1 the buffer is non-blank iff the reference counts the line -/
theorem line_sim (s : FSt) (m : RF) (l : List Char) (r : RLine) (hR : RlF s m) (h : rline m l = some r) :
    RlF (procLine s l).1 r.next ∧ (r.k = false → (!(procLine s l).2.blank) = r.counted) := by
  obtain ⟨a, m', hr, he, rfl⟩ := rline_some h
  obtain ⟨h1, h2⟩ := line_binv s m m' l a hR hr he
  refine ⟨h1, fun hk => ?_⟩
  have hv : a.lit = true → a.vis = true := fun hl => by simpa [hl] using hk
  refine (h2.counted hv).trans ?_
  cases hl : a.lit <;> simp [hv, hl]

end CbiVerif.Fortran
