import CbiVerif.Model.Metrics
import Mathlib.Algebra.GroupWithZero.Nat  -- the `Zero ℕ` instance in the elaborated body of `wsum` (`MulZeroClass.toZero`) comes from here

/-!
# What a metric reads of a set map

Every count the metrics are made of (`total`, `usedBy`, `unionCount`, `xorCount`, `interCount` of `Model/Metrics.lean`
and, with the same bodies, of `Model/Order.lean`) is by definition a weighted sum `wsum sm w = Σ (if w key then count else 0)`
for a predicate `w` that reads the key as a set of names (`SetLike`); besides the counts the metrics read the set of names
that occur in the keys.  `Sim k f sm sm'` says that `sm'` presents `k` times the lines of `sm` with every platform `p` called
`f p`.  Permuting the items, multiplying the counts, renaming the platforms, listing the keys in another order and passing to
another set map with the same weighted sums are instances (`Sim.of_perm`, `.scale`, `.rename`, `.relist`, `.of_weq`), each
by one lemma about `wsum`; what the metrics make of it is proved once, in `Lemmas/Metrics.lean` (exact values) and
`Lemmas/OrderSort.lean` (arbitrary float operations).
-/
namespace CbiVerif.Metrics

/-- number of lines whose platform set satisfies `w` -/
def wsum (sm : Setmap) (w : List String → Bool) : Nat :=
  (sm.map fun e => if w e.1 then e.2 else 0).sum

@[simp] theorem wsum_nil (w : List String → Bool) : wsum [] w = 0 := rfl

@[simp] theorem wsum_cons (e : List String × Nat) (sm : Setmap) (w : List String → Bool) :
    wsum (e :: sm) w = (if w e.1 then e.2 else 0) + wsum sm w := rfl

theorem usedBy_eq_wsum (sm : Setmap) (ps : List String) :
    usedBy sm ps = wsum sm (fun s => s.any fun p => ps.contains p) := rfl
theorem unionCount_eq_wsum (sm : Setmap) (p q : String) :
    unionCount sm p q = wsum sm (fun s => s.contains p || s.contains q) := rfl
theorem xorCount_eq_wsum (sm : Setmap) (p q : String) :
    xorCount sm p q = wsum sm (fun s => (s.contains p) != (s.contains q)) := rfl
theorem interCount_eq_wsum (sm : Setmap) (p q : String) :
    interCount sm p q = wsum sm (fun s => s.contains p && s.contains q) := rfl
theorem total_eq_wsum (sm : Setmap) : total sm = wsum sm (fun _ => true) := rfl

theorem wsum_congr {sm : Setmap} {w1 w2 : List String → Bool}
    (h : ∀ e ∈ sm, w1 e.1 = w2 e.1) : wsum sm w1 = wsum sm w2 :=
  congrArg List.sum (List.map_congr_left fun e he => by rw [h e he])

theorem wsum_mono {sm : Setmap} {w1 w2 : List String → Bool}
    (h : ∀ s, w1 s = true → w2 s = true) : wsum sm w1 ≤ wsum sm w2 := by
  induction sm with
  | nil => exact Nat.le_refl _
  | cons e sm ih =>
    rw [wsum_cons, wsum_cons]
    refine Nat.add_le_add ?_ ih
    cases h1 : w1 e.1 with
    | false => exact Nat.zero_le _
    | true => rw [h _ h1]; exact Nat.le_refl _

theorem wsum_perm {sm sm' : Setmap} (h : sm.Perm sm') (w : List String → Bool) :
    wsum sm w = wsum sm' w :=
  (h.map _).sum_nat

theorem wsum_scale (k : Nat) (sm : Setmap) (w : List String → Bool) :
    wsum (scale k sm) w = k * wsum sm w := by
  induction sm with
  | nil => rfl
  | cons e sm ih =>
    show wsum ((e.1, k * e.2) :: scale k sm) w = _
    rw [wsum_cons, wsum_cons, ih, Nat.mul_add]
    cases w e.1 <;> rfl

theorem wsum_map_key (σ : List String → List String) (sm : Setmap) (w : List String → Bool) :
    wsum (sm.map fun e => (σ e.1, e.2)) w = wsum sm (fun s => w (σ s)) := by
  unfold wsum; rw [List.map_map]; rfl

theorem wsum_rename (f : String → String) (sm : Setmap) (w : List String → Bool) :
    wsum (rename f sm) w = wsum sm (fun s => w (s.map f)) :=
  wsum_map_key (List.map f) sm w

theorem wsum_pos_iff {sm : Setmap} (hpos : ∀ e ∈ sm, 0 < e.2) (w : List String → Bool) :
    0 < wsum sm w ↔ ∃ e ∈ sm, w e.1 = true := by
  induction sm with
  | nil => exact ⟨fun h => absurd h (Nat.lt_irrefl 0), fun ⟨_, he, _⟩ => nomatch he⟩
  | cons e sm ih =>
    have ih := ih fun e' he' => hpos e' (List.mem_cons_of_mem _ he')
    rw [wsum_cons]
    cases hw : w e.1 with
    | true => exact ⟨fun _ => ⟨e, List.mem_cons_self, hw⟩, fun _ => Nat.add_pos_left (hpos e List.mem_cons_self) _⟩
    | false =>
      rw [if_neg Bool.false_ne_true, Nat.zero_add, ih]
      exact ⟨fun ⟨e', he', h'⟩ => ⟨e', List.mem_cons_of_mem _ he', h'⟩, fun ⟨e', he', h'⟩ =>
        ⟨e', (List.mem_cons.mp he').resolve_left fun eq => Bool.false_ne_true (hw.symm.trans (eq ▸ h')), h'⟩⟩

/-- `w` reads a key as a set of names -/
def SetLike (w : List String → Bool) : Prop := ∀ a b : List String, a.Perm b → w a = w b

theorem setLike_usedBy (ps : List String) : SetLike fun s => s.any fun p => ps.contains p := fun _ _ h => h.any_eq
theorem setLike_union (p q : String) : SetLike fun s => s.contains p || s.contains q :=
  fun _ _ h => by dsimp only; rw [h.contains_eq, h.contains_eq]
theorem setLike_xor (p q : String) : SetLike fun s => (s.contains p) != (s.contains q) :=
  fun _ _ h => by dsimp only; rw [h.contains_eq, h.contains_eq]

/-- `sm'` presents `k` times the lines of `sm`, every platform `p` under the name `f p` -/
structure Sim (k : Nat) (f : String → String) (sm sm' : Setmap) : Prop where
  pos : 0 < k
  inj : Function.Injective f
  wsum : ∀ w, SetLike w → wsum sm' w = k * wsum sm (fun s => w (s.map f))
  names : ∀ p, p ∈ sm'.flatMap (·.1) ↔ p ∈ (sm.flatMap (·.1)).map f

theorem contains_map_inj {f : String → String} (hf : Function.Injective f) (s : List String)
    (p : String) : (s.map f).contains (f p) = s.contains p := by
  rw [Bool.eq_iff_iff, List.contains_iff_mem, List.contains_iff_mem, List.mem_map]
  exact ⟨fun ⟨a, ha, hfa⟩ => hf hfa ▸ ha, fun h => ⟨p, h, rfl⟩⟩

namespace Sim

theorem of_perm {sm sm' : Setmap} (h : sm.Perm sm') : Sim 1 id sm sm' :=
  ⟨Nat.one_pos, fun _ _ e => e, fun w _ => by simp only [List.map_id, Nat.one_mul, wsum_perm h],
    fun p => by rw [List.map_id]; exact (h.flatMap_right _).mem_iff.symm⟩

theorem scale {k : Nat} (hk : 0 < k) (sm : Setmap) : Sim k id sm (scale k sm) :=
  ⟨hk, fun _ _ e => e, fun w _ => by simp only [List.map_id, wsum_scale],
    fun p => by rw [List.map_id, Metrics.scale, List.flatMap_map]⟩

theorem rename {f : String → String} (hf : Function.Injective f) (sm : Setmap) : Sim 1 f sm (rename f sm) :=
  ⟨Nat.one_pos, hf, fun w _ => by rw [wsum_rename, Nat.one_mul],
    fun p => by rw [Metrics.rename, List.flatMap_map, List.map_flatMap]⟩

theorem relist (σ : List String → List String) {sm : Setmap} (h : ∀ e ∈ sm, (σ e.1).Perm e.1) :
    Sim 1 id sm (sm.map fun e => (σ e.1, e.2)) := by
  refine ⟨Nat.one_pos, fun _ _ e => e, fun w hw => ?_, fun p => ?_⟩
  · simp only [List.map_id, Nat.one_mul, wsum_map_key]
    exact wsum_congr fun e he => hw _ _ (h e he)
  · simp only [List.map_id, List.flatMap_map, List.mem_flatMap]
    exact exists_congr fun e => and_congr_right fun he => (h e he).mem_iff

/-- with all rows positive the names in the keys are determined by the weighted sums -/
theorem of_weq {sm sm' : Setmap} (hW : ∀ w, Metrics.wsum sm w = Metrics.wsum sm' w) (hpos : ∀ e ∈ sm, 0 < e.2)
    (hpos' : ∀ e ∈ sm', 0 < e.2) : Sim 1 id sm sm' := by
  refine ⟨Nat.one_pos, fun _ _ e => e, fun w _ => by simp only [List.map_id, Nat.one_mul, hW w], fun p => ?_⟩
  have key : ∀ {s : Setmap}, (∀ e ∈ s, 0 < e.2) → (p ∈ s.flatMap (·.1) ↔ 0 < Metrics.wsum s fun k => k.contains p) :=
    fun hs => by simp only [wsum_pos_iff hs, List.mem_flatMap, List.contains_iff_mem]
  rw [List.map_id, key hpos, key hpos', hW]

section read
variable {k : Nat} {f : String → String} {sm sm' : Setmap} (h : Sim k f sm sm')
include h

theorem total : Metrics.total sm' = k * Metrics.total sm := h.wsum (fun _ => true) fun _ _ _ => rfl

theorem usedBy (ps : List String) : Metrics.usedBy sm' (ps.map f) = k * Metrics.usedBy sm ps := by
  rw [usedBy_eq_wsum, h.wsum _ (setLike_usedBy _), usedBy_eq_wsum]
  simp only [List.any_map, Function.comp_def, contains_map_inj h.inj]

theorem unionCount (p q : String) : Metrics.unionCount sm' (f p) (f q) = k * Metrics.unionCount sm p q := by
  rw [unionCount_eq_wsum, h.wsum _ (setLike_union _ _), unionCount_eq_wsum]
  simp only [contains_map_inj h.inj]

theorem xorCount (p q : String) : Metrics.xorCount sm' (f p) (f q) = k * Metrics.xorCount sm p q := by
  rw [xorCount_eq_wsum, h.wsum _ (setLike_xor _ _), xorCount_eq_wsum]
  simp only [contains_map_inj h.inj]

theorem total_eq_zero : Metrics.total sm' = 0 ↔ Metrics.total sm = 0 := by
  rw [h.total]; exact Nat.mul_eq_zero.trans (or_iff_right (Nat.ne_of_gt h.pos))

theorem unionCount_eq_zero (p q : String) : Metrics.unionCount sm' (f p) (f q) = 0 ↔ Metrics.unionCount sm p q = 0 := by
  rw [h.unionCount]; exact Nat.mul_eq_zero.trans (or_iff_right (Nat.ne_of_gt h.pos))

end read

end Sim

end CbiVerif.Metrics
