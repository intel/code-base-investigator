import CbiVerif.Model.Argparse
import CbiVerif.Spec.Unrecognised
import CbiVerif.Lemmas.Extract
/-! C11 helper lemmas.  What `_parse_optional` (`Argparse.classify`) does with one argument, for any option table;
the same on the generated table against the two reference readings (`Extract.reading`, `Unrecognised.shape`): an
argument in flag position of a command line without recorded shapes has one of seven forms (`Form`) on which all
three agree, so such a command line can be taken apart form by form (`tame_rec`, the only place where the table and
`Extract.classesFrom` meet); and by that principle the left-to-right consume loop against the property-level scan. -/
namespace CbiVerif.ArgvLemmas
open CbiVerif.Argparse CbiVerif.Extract

-- core has no `DecidableEq` for `Except`; the witnesses and examples of `Props/C11*` compare results of the models by `decide`
instance instDecEqExcept {ε α : Type} [DecidableEq ε] [DecidableEq α] : DecidableEq (Except ε α)
  | .ok a, .ok b => if h : a = b then isTrue (h ▸ rfl) else isFalse (fun e => by cases e; exact h rfl)
  | .error a, .error b => if h : a = b then isTrue (h ▸ rfl) else isFalse (fun e => by cases e; exact h rfl)
  | .ok _, .error _ => isFalse (by intro e; cases e)
  | .error _, .ok _ => isFalse (by intro e; cases e)

/-! ### `_parse_optional` for any option table -/

theorem lookup_eq_none {t : List Opt} {s : List Char} (h : ∀ o ∈ t, o.flag ≠ s) : lookup t s = none := by
  induction t with
  | nil => rfl
  | cons o t ih =>
    rw [lookup, if_neg (h o List.mem_cons_self), ih fun o' ho' => h o' (List.mem_cons_of_mem _ ho')]

theorem lookup_mid {t1 : List Opt} (t2 : List Opt) (o : Opt) (h : ∀ o' ∈ t1, o'.flag ≠ o.flag) :
    lookup (t1 ++ o :: t2) o.flag = some o := by
  induction t1 with
  | nil => rw [List.nil_append, lookup, if_pos rfl]
  | cons o' t1 ih =>
    rw [List.cons_append, lookup, if_neg (h o' List.mem_cons_self), ih fun x hx => h x (List.mem_cons_of_mem _ hx)]

theorem tuples_eq_nil {t : List Opt} {a : List Char}
    (h : ∀ o ∈ t, o.flag ≠ a.take 2 ∧ a.isPrefixOf o.flag = false) : tuples t a = [] := by
  induction t with
  | nil => rfl
  | cons o t ih =>
    rw [tuples, if_neg (h o List.mem_cons_self).1, (h o List.mem_cons_self).2, if_neg Bool.false_ne_true,
      ih fun o' ho' => h o' (List.mem_cons_of_mem _ ho')]

theorem tuples_append (t1 t2 : List Opt) (a : List Char) : tuples (t1 ++ t2) a = tuples t1 a ++ tuples t2 a := by
  induction t1 with
  | nil => rfl
  | cons o t1 ih =>
    simp only [List.cons_append, tuples, ih]
    split
    · rfl
    · split <;> rfl

theorem splitEq_spec : ∀ (x l r : List Char), splitEq x = some (l, r) → x = l ++ '=' :: r
  | [], l, r, h => by simp [splitEq] at h
  | c :: cs, l, r, h => by
    simp only [splitEq] at h
    by_cases hc : c = '='
    · simp [hc] at h; obtain ⟨rfl, rfl⟩ := h; simp [hc]
    · simp only [hc, if_false] at h
      cases hs : splitEq cs with
      | none => simp [hs] at h
      | some p =>
        obtain ⟨l', r'⟩ := p
        simp [hs] at h
        obtain ⟨rfl, rfl⟩ := h
        have := splitEq_spec cs l' r' hs
        simp [this]

theorem viaEq_eq_none {t : List Opt} {a : List Char} (h : ∀ l r, splitEq a = some (l, r) → lookup t l = none) :
    viaEq t a = none := by
  unfold viaEq
  cases hs : splitEq a with
  | none => rfl
  | some p => simp only [h p.1 p.2 hs, Option.map_none]

theorem fallback_cases (t : List Opt) (a : List Char) : fallback t a = .positional ∨ fallback t a = .unknown := by
  unfold fallback
  split
  · exact Or.inl rfl
  · split
    · exact Or.inl rfl
    · exact Or.inr rfl

theorem classify_dash {t : List Opt} {c : Char} {rest : List Char} (h : lookup t ('-' :: c :: rest) = none)
    (hv : viaEq t ('-' :: c :: rest) = none) :
    classify t ('-' :: c :: rest) =
      pick t ('-' :: c :: rest) (if c = '-' then [] else tuples t ('-' :: c :: rest)) := by
  simp only [classify, ne_eq, not_true_eq_false, if_false, h, hv]

theorem isPrefixOf_append (p r : List Char) : p.isPrefixOf (p ++ r) = true :=
  List.isPrefixOf_iff_prefix.mpr (List.prefix_append p r)

theorem isPrefixOf_false_trans {p a b : List Char} (hp : p.isPrefixOf a = true) (h : p.isPrefixOf b = false) :
    a.isPrefixOf b = false := by
  rw [← Bool.not_eq_true, List.isPrefixOf_iff_prefix] at h ⊢
  exact fun hab => h ((List.isPrefixOf_iff_prefix.mp hp).trans hab)

theorem classify_fallback {t : List Opt} {c : Char} {rest : List Char} (h2 : lookup t ('-' :: c :: rest) = none)
    (h1 : ∀ l r, splitEq ('-' :: c :: rest) = some (l, r) → lookup t l = none)
    (h3 : c = '-' ∨ tuples t ('-' :: c :: rest) = []) :
    classify t ('-' :: c :: rest) = fallback t ('-' :: c :: rest) := by
  rw [classify_dash h2 (viaEq_eq_none h1)]
  rcases h3 with h | h
  · rw [if_pos h, pick]
  · rw [h, ite_self, pick]

theorem classify_nomatch {t : List Opt} {c : Char} {rest : List Char} (h2 : lookup t ('-' :: c :: rest) = none)
    (h1 : ∀ l r, splitEq ('-' :: c :: rest) = some (l, r) → lookup t l = none)
    (h3 : c = '-' ∨ tuples t ('-' :: c :: rest) = []) :
    classify t ('-' :: c :: rest) = .positional ∨ classify t ('-' :: c :: rest) = .unknown := by
  rw [classify_fallback h2 h1 h3]; exact fallback_cases t _

theorem classify_unrelated (t : List Opt) (c : Char) (rest : List Char)
    (h : ∀ o ∈ t, o.flag.isPrefixOf ('-' :: c :: rest) = false ∧ ('-' :: c :: rest).isPrefixOf o.flag = false) :
    classify t ('-' :: c :: rest) = fallback t ('-' :: c :: rest) := by
  have hne : ∀ l r, '-' :: c :: rest = l ++ r → ∀ o ∈ t, o.flag ≠ l := by
    intro l r e o ho hl
    have := (h o ho).1
    rw [hl, e, isPrefixOf_append] at this
    exact Bool.noConfusion this
  exact classify_fallback (lookup_eq_none (hne _ [] (List.append_nil _).symm))
    (fun l r e => lookup_eq_none (hne l _ (splitEq_spec _ l r e)))
    (Or.inr (tuples_eq_nil fun o ho => ⟨hne _ rest rfl o ho, (h o ho).2⟩))

/-- `-cREST` where `-c` is an option string and no other option string begins with `-c`: that option, with `REST`
less a leading `=` as its explicit argument -/
theorem classify_short (t : List Opt) (o : Opt) (c r : Char) (rs : List Char) (ho : o.flag = ['-', c])
    (hc : c ≠ '-') (he : c ≠ '=') (h : t.filter (fun o' => ['-', c].isPrefixOf o'.flag) = [o]) :
    classify t ('-' :: c :: r :: rs) = .opt o (some (if r = '=' then rs else r :: rs)) := by
  obtain ⟨t1, t2, rfl, h1, _, h2⟩ := List.filter_eq_cons_iff.mp h
  have hp : ∀ l, ['-', c].isPrefixOf ('-' :: c :: l) = true := fun l => isPrefixOf_append ['-', c] l
  have h1 : ∀ o' ∈ t1, ['-', c].isPrefixOf o'.flag = false := fun o' ho' => Bool.eq_false_iff.mpr (h1 o' ho')
  have h2 : ∀ o' ∈ t2, ['-', c].isPrefixOf o'.flag = false := fun o' ho' =>
    Bool.eq_false_iff.mpr (List.filter_eq_nil_iff.mp h2 o' ho')
  have hne : ∀ l, ∀ o' ∈ t1 ++ o :: t2, o'.flag ≠ '-' :: c :: r :: l := by
    intro l o' ho' e
    rcases List.mem_append.mp ho' with h | h
    · have := h1 o' h; rw [e, hp] at this; exact Bool.noConfusion this
    · rcases List.mem_cons.mp h with rfl | h
      · rw [ho] at e; cases e
      · have := h2 o' h; rw [e, hp] at this; exact Bool.noConfusion this
  have h0 : ('-' : Char) ≠ '=' := by decide
  by_cases hr : r = '='
  · subst hr
    have hlk : lookup (t1 ++ o :: t2) ['-', c] = some o := by
      rw [← ho]
      refine lookup_mid t2 o fun o' ho' e => ?_
      have := h1 o' ho'; rw [e, ho, hp []] at this; exact Bool.noConfusion this
    simp only [classify, ne_eq, not_true_eq_false, if_false, lookup_eq_none (hne rs), viaEq, splitEq, h0, he, if_true,
      hlk, Option.map_some]
  · have hv : viaEq (t1 ++ o :: t2) ('-' :: c :: r :: rs) = none := by
      unfold viaEq
      simp only [splitEq, h0, he, hr, if_false]
      cases splitEq rs with
      | none => rfl
      | some p => simp only [Option.map_some, lookup_eq_none (hne p.1), Option.map_none]
    have ht : ∀ t', (∀ o' ∈ t', ['-', c].isPrefixOf o'.flag = false) → tuples t' ('-' :: c :: r :: rs) = [] := by
      intro t' ht'
      refine tuples_eq_nil fun o' ho' => ⟨fun e => ?_, isPrefixOf_false_trans (hp _) (ht' o' ho')⟩
      have := ht' o' ho'; rw [e] at this; exact Bool.noConfusion (this.symm.trans (hp []))
    rw [classify_dash (lookup_eq_none (hne rs)) hv, if_neg hc, tuples_append, ht t1 h1, tuples,
      if_pos (show o.flag = List.take 2 ('-' :: c :: r :: rs) from ho), ht t2 h2, if_neg hr]
    rfl

theorem viewOf_ne (t : List Opt) (a : List Char) (hne : a ≠ ['-', '-']) : viewOf t a = viewOfCls (classify t a) := by
  unfold viewOf; rw [if_neg hne]

theorem toVal_ne (a : List Char) (h : a ≠ ['-', '-']) : toVal a = .str a := by
  unfold toVal; rw [if_neg h]

theorem viewOfCls_ne_ddash (c : Cls) : viewOfCls c ≠ .ddash := by
  cases c with
  | opt o e => cases e <;> simp only [viewOfCls] <;> split <;> simp
  | _ => simp [viewOfCls]

theorem viewOfCls_ambiguous (c : Cls) : viewOfCls c = .ambiguous ↔ c = .ambiguous := by
  cases c with
  | opt o e => cases e <;> simp only [viewOfCls] <;> split <;> simp
  | _ => simp [viewOfCls]

theorem viewOfCls_positional (c : Cls) : viewOfCls c = .positional ↔ c = .positional := by
  cases c with
  | opt o e => cases e <;> simp only [viewOfCls] <;> split <;> simp
  | _ => simp [viewOfCls]

/-! ### the consume loop for any option table: a run that succeeds has met no ambiguous prefix before `--` -/

/-- an option with an optional argument that is waiting: the next argument is read as from the idle state
(a positional is taken as its argument, or passed over: the four lists do not see the difference) -/
theorem step_optIgn (t : List Opt) (c : Cfg) (a : List Char) : step t .optIgn c a = step t .idle c a := by
  unfold step
  by_cases h : viewOf t a = .positional
  · simp [h, idleStep]
  · simp [h]

theorem applyIdle_ok {c : Cfg} {a : Act} {w : Val} {r : Pend × Cfg} (h : applyIdle c a w = .ok r) : r.1 = .idle := by
  unfold applyIdle at h
  split at h
  · cases h; rfl
  · cases h

theorem idleStep_ok {v : View} {c : Cfg} {r : Pend × Cfg} (h : idleStep v c = .ok r) :
    v ≠ .ambiguous ∧ (r.1 = .afterDD → v = .ddash) := by
  cases v <;> simp only [idleStep] at h <;> first
    | (cases h; simp)
    | cases h
    | (have := applyIdle_ok h; simp [this])

theorem step_ok {t : List Opt} {p : Pend} {c : Cfg} {a : List Char} {r : Pend × Cfg} (h : step t p c a = .ok r)
    (hp : p ≠ .afterDD) (ha : a ≠ ['-', '-']) : viewOf t a ≠ .ambiguous ∧ r.1 ≠ .afterDD := by
  have hdd : viewOf t a ≠ .ddash := by rw [viewOf_ne t a ha]; exact viewOfCls_ne_ddash _
  have idle : ∀ {r}, idleStep (viewOf t a) c = .ok r → viewOf t a ≠ .ambiguous ∧ r.1 ≠ .afterDD := fun h' =>
    ⟨(idleStep_ok h').1, fun e => hdd ((idleStep_ok h').2 e)⟩
  cases p with
  | afterDD => exact absurd rfl hp
  | idle => exact idle h
  | optIgn =>
    simp only [step] at h
    split at h
    · next hv => cases h; rw [hv]; simp
    · exact idle h
  | need d =>
    simp only [step] at h
    split at h
    · next hv => rw [hv, applyIdle_ok h]; simp
    · cases h
  | needIgn =>
    simp only [step] at h
    split at h
    · next hv => cases h; rw [hv]; simp
    · cases h

theorem run_ok_not_ambiguous (t : List Opt) : ∀ (argv : List (List Char)) (p : Pend) (c r : Cfg), p ≠ .afterDD →
    run t p c argv = .ok r → ambiguousUpfront t argv = false
  | [], _, _, _, _, _ => rfl
  | a :: rest, p, c, r, hp, h => by
    simp only [ambiguousUpfront]
    split
    · rfl
    · next ha =>
      simp only [run] at h
      split at h
      · next p' c' hs =>
        obtain ⟨hv, hp'⟩ := step_ok hs hp ha
        rw [run_ok_not_ambiguous t rest p' c' r hp' h, Bool.or_false, beq_eq_false_iff_ne]
        exact hv
      · cases h

/-! ### the generated table -/

def oD : Opt := ⟨['-','D'], .value (.append .defines)⟩
def oU : Opt := ⟨['-','U'], .value (.undef .defines)⟩
def oI : Opt := ⟨['-','I'], .value (.append .includePaths)⟩
def oSys : Opt := ⟨['-','i','s','y','s','t','e','m'], .value (.append .systemPaths)⟩
def oInc : Opt := ⟨['-','i','n','c','l','u','d','e'], .value (.append .includeFiles)⟩
def oO : Opt := ⟨['-','O'], .ignoreOpt⟩
def oo : Opt := ⟨['-','o'], .ignoreReq⟩
def og : Opt := ⟨['-','g'], .ignoreOpt⟩
def oc : Opt := ⟨['-','c'], .ignoreOpt⟩

def T : List Opt := [oD, oU, oI, oSys, oInc, oO, oo, og, oc]

/-- the generated table (re-extracted from the code on every run) is the one the proofs are about -/
theorem table_eq : table = T := by decide +kernel

theorem settings_ok : settingsOK = true := by decide +kernel

theorem T_supported : T.any (fun o => o.kind == .unsupported) = false := by decide

theorem argparseModel_eq (argv : List (List Char)) : argparseModel argv = (parseKnown T argv).map assemble := by
  unfold argparseModel
  rw [settings_ok, table_eq]
  rfl

theorem lookup_T (s : List Char) : lookup T s =
    if ['-','D'] = s then some oD else if ['-','U'] = s then some oU else if ['-','I'] = s then some oI
    else if ['-','i','s','y','s','t','e','m'] = s then some oSys
    else if ['-','i','n','c','l','u','d','e'] = s then some oInc
    else if ['-','O'] = s then some oO else if ['-','o'] = s then some oo
    else if ['-','g'] = s then some og else if ['-','c'] = s then some oc else none := by
  simp [lookup, T, oD, oU, oI, oSys, oInc, oO, oo, og, oc]

/-- no option string has the second character `c` -/
theorem lookup_none_second (c : Char) (l : List Char)
    (hD : c ≠ 'D') (hU : c ≠ 'U') (hI : c ≠ 'I') (hO : c ≠ 'O') (ho : c ≠ 'o') (hg : c ≠ 'g') (hc : c ≠ 'c') (hi : c ≠ 'i') :
    lookup T ('-' :: c :: l) = none := by
  rw [lookup_T]
  simp [Ne.symm hD, Ne.symm hU, Ne.symm hI, Ne.symm hO, Ne.symm ho, Ne.symm hg, Ne.symm hc, Ne.symm hi]

theorem lookup_dash : lookup T ['-'] = none := by decide

theorem stripPrefix_append : ∀ (p r : List Char), stripPrefix p (p ++ r) = some r :=
  ExtractLemmas.stripPrefix_append

theorem short_unrelated {x c : Char} (rest : List Char) (h : c ≠ x) :
    ['-', x].isPrefixOf ('-' :: c :: rest) = false ∧ ('-' :: c :: rest).isPrefixOf ['-', x] = false := by
  cases rest <;> simp [List.isPrefixOf, h, Ne.symm h]

theorem reading_dash_other (c : Char) (rest : List Char) (hD : c ≠ 'D') (hU : c ≠ 'U') (hI : c ≠ 'I')
    (hs : Flag.isystem.text.isPrefixOf ('-' :: c :: rest) = false)
    (hi : Flag.include.text.isPrefixOf ('-' :: c :: rest) = false) : reading ('-' :: c :: rest) = .other :=
  ExtractLemmas.reading_other fun f => by
    cases f
    · exact (short_unrelated rest hD).1
    · exact (short_unrelated rest hI).1
    · exact hs
    · exact hi
    · exact (short_unrelated rest hU).1

theorem _root_.CbiVerif.ArgvExtras.hasNeg_T : hasNegOptionals T = false := by decide

/-- `classify_unrelated` on `T`: an argument related to none of the nine option strings -/
theorem _root_.CbiVerif.ArgvExtras.unrelated_fallback (a : List Char) (c : Char) (rest : List Char)
    (ha : a = '-' :: c :: rest)
    (hD : c ≠ 'D') (hU : c ≠ 'U') (hI : c ≠ 'I') (hO : c ≠ 'O') (ho : c ≠ 'o') (hg : c ≠ 'g') (hc : c ≠ 'c')
    (hs1 : Flag.isystem.text.isPrefixOf a = false) (hs2 : a.isPrefixOf Flag.isystem.text = false)
    (hi1 : Flag.include.text.isPrefixOf a = false) (hi2 : a.isPrefixOf Flag.include.text = false) :
    classify T a = fallback T a := by
  subst ha
  refine classify_unrelated T c rest fun o ho' => ?_
  simp only [T, List.mem_cons, List.not_mem_nil, or_false] at ho'
  rcases ho' with rfl | rfl | rfl | rfl | rfl | rfl | rfl | rfl | rfl
  · exact short_unrelated rest hD
  · exact short_unrelated rest hU
  · exact short_unrelated rest hI
  · exact ⟨hs1, hs2⟩
  · exact ⟨hi1, hi2⟩
  · exact short_unrelated rest hO
  · exact short_unrelated rest ho
  · exact short_unrelated rest hg
  · exact short_unrelated rest hc

theorem unrelated_arg (a : List Char) (c : Char) (rest : List Char) (ha : a = '-' :: c :: rest) (hne : a ≠ ['-', '-'])
    (hD : c ≠ 'D') (hU : c ≠ 'U') (hI : c ≠ 'I') (hO : c ≠ 'O') (ho : c ≠ 'o') (hg : c ≠ 'g') (hc : c ≠ 'c')
    (hs1 : Flag.isystem.text.isPrefixOf a = false) (hs2 : a.isPrefixOf Flag.isystem.text = false)
    (hi1 : Flag.include.text.isPrefixOf a = false) (hi2 : a.isPrefixOf Flag.include.text = false) :
    (viewOf T a = .positional ∨ viewOf T a = .unknown) ∧ reading a = .other := by
  have hcl := ArgvExtras.unrelated_fallback a c rest ha hD hU hI hO ho hg hc hs1 hs2 hi1 hi2
  subst ha
  refine ⟨?_, reading_dash_other c rest hD hU hI hs1 hi1⟩
  rw [viewOf_ne T _ hne, hcl]
  rcases fallback_cases T ('-' :: c :: rest) with h | h <;> rw [h]
  · exact Or.inl rfl
  · exact Or.inr rfl

/-! ### what the recorded shapes exclude -/

theorem ite_nil {α : Type} (c : Prop) [Decidable c] (t : α) : (if c then [t] else []) = [] ↔ ¬ c := by
  by_cases h : c <;> simp [h]

theorem not_prefix_of_not_proper {p a : List Char} (hne : p ≠ a) (h : isProperPrefixOf p a = false) :
    p.isPrefixOf a = false := by
  unfold isProperPrefixOf at h
  cases hpa : p.isPrefixOf a with
  | false => rfl
  | true =>
    have hp : p <+: a := List.isPrefixOf_iff_prefix.mp hpa
    have hl : ¬ p.length < a.length := by simpa [hpa] using h
    exact absurd (hp.eq_of_length (Nat.le_antisymm hp.length_le (Nat.le_of_not_lt hl))) hne

theorem prefix_facts (p a : List Char) (hne : a ≠ p) (h1 : isProperPrefixOf p a = false)
    (h2 : isProperPrefixOf a p = false) : p.isPrefixOf a = false ∧ a.isPrefixOf p = false :=
  ⟨not_prefix_of_not_proper (Ne.symm hne) h1, not_prefix_of_not_proper hne h2⟩

theorem tagsOf1_nil (a : List Char) (h : tagsOf1 a = []) :
    (a ≠ ['-','-'] ∧ a ≠ ['-','D','-','-'] ∧ a ≠ ['-','I','-','-'] ∧ a ≠ ['-','U','-','-']) ∧
    (['-','D','='].isPrefixOf a = false ∧ ['-','I','='].isPrefixOf a = false ∧ ['-','U','='].isPrefixOf a = false) ∧
    (isProperPrefixOf Flag.isystem.text a = false ∧ isProperPrefixOf Flag.include.text a = false) ∧
    (2 ≤ a.length → isProperPrefixOf a Flag.isystem.text = false ∧ isProperPrefixOf a Flag.include.text = false) := by
  simp only [tagsOf1, List.append_eq_nil_iff, ite_nil] at h
  obtain ⟨⟨⟨h1, h2⟩, h3⟩, h4⟩ := h
  simp only [Bool.or_eq_true, decide_eq_true_eq, not_or, Extract.ddash, Flag.text, List.cons_append, List.nil_append,
    Bool.and_eq_true, not_and, Bool.not_eq_true] at h1 h2 h3 h4
  refine ⟨⟨of_decide_eq_false h1.1.1.1, of_decide_eq_false h1.1.1.2, of_decide_eq_false h1.1.2, of_decide_eq_false h1.2⟩,
    ⟨h2.1.1, h2.1.2, h2.2⟩, ⟨h3.1, h3.2⟩, ?_⟩
  intro hl
  have := h4 hl
  exact ⟨this.1, this.2⟩

theorem takesValue_false (a : List Char) (h : takesValue a = false) :
    a ≠ ['-','D'] ∧ a ≠ ['-','I'] ∧ a ≠ Flag.isystem.text ∧ a ≠ Flag.include.text ∧ a ≠ ['-','U'] ∧ a ≠ ['-','o'] := by
  simp only [takesValue, allFlags, List.any_cons, List.any_nil, Flag.text, dashO, Bool.or_false,
    Bool.or_eq_false_iff] at h
  obtain ⟨⟨h1, h2, h3, h4, h6⟩, h5⟩ := h
  exact ⟨fun e => (of_decide_eq_false h1) e.symm, fun e => (of_decide_eq_false h2) e.symm,
    fun e => (of_decide_eq_false h3) e.symm, fun e => (of_decide_eq_false h4) e.symm,
    fun e => (of_decide_eq_false h6) e.symm, of_decide_eq_false h5⟩

theorem takesValue_true (a : List Char) (h : takesValue a = true) : (∃ f : Flag, a = f.text) ∨ a = dashO := by
  simp only [takesValue, allFlags, List.any_cons, List.any_nil, Bool.or_false, Bool.or_eq_true, decide_eq_true_eq] at h
  rcases h with (h | h | h | h | h) | h
  · exact Or.inl ⟨.D, h.symm⟩
  · exact Or.inl ⟨.I, h.symm⟩
  · exact Or.inl ⟨.isystem, h.symm⟩
  · exact Or.inl ⟨.include, h.symm⟩
  · exact Or.inl ⟨.U, h.symm⟩
  · exact Or.inr h

theorem not_plain : ∀ a : List Char, plainValue a = false → ∃ c rest, a = '-' :: c :: rest
  | [], h => by simp [plainValue] at h
  | [c0], h => by
    by_cases hc : c0 = '-'
    · subst hc; simp [plainValue] at h
    · simp [plainValue, hc] at h
  | c0 :: c :: rest, h => by
    by_cases hc : c0 = '-'
    · exact ⟨c, rest, by rw [hc]⟩
    · simp [plainValue, hc] at h

/-! ### one argument in flag position: the parser's class against the two reference readings -/

section
open CbiVerif.Unrecognised

/-- the parser action that stands for a flag of the property -/
def actOf : Flag → Act
  | .D => .append .defines | .I => .append .includePaths | .isystem => .append .systemPaths
  | .include => .append .includeFiles | .U => .undef .defines

/-- the forms an argument in flag position of a command line without recorded shapes can have: the parser's class
of it, the property's reading, the shape the reference reading of the leftovers gives it, and whether the class scan
takes it for a flag waiting for its value -/
inductive Form : Cls → Reading → Shape → Bool → Prop
  | pos : Form .positional .other .operand false
  | unk : Form .unknown .other .unknownOpt false
  | bare (o : Opt) (h : o.kind = .ignoreOpt) : Form (.opt o none) .other .ignBare false
  | ignAtt (o : Opt) (e : List Char) (h : o.kind = .ignoreOpt ∨ o.kind = .ignoreReq) :
      Form (.opt o (some e)) .other .ignAtt false
  | att (o : Opt) (f : Flag) (w : List Char) (h : o.kind = .value (actOf f)) (hw : w ≠ ['-', '-']) :
      Form (.opt o (some w)) (.att f w) .flagAtt false
  | sep (o : Opt) (f : Flag) (h : o.kind = .value (actOf f)) : Form (.opt o none) (.sep f) .flagSep true
  | req (o : Opt) (h : o.kind = .ignoreReq) : Form (.opt o none) .other .ignReq true

theorem shape_att {a : List Char} {f : Flag} {v : List Char} (h : reading a = .att f v) : shape a = .flagAtt := by
  simp only [shape, h]

theorem shape_sep {a : List Char} {f : Flag} (h : reading a = .sep f) : shape a = .flagSep := by
  simp only [shape, h]

theorem plain_value (v : List Char) (h : plainValue v = true) :
    classify T v = .positional ∧ v ≠ ['-', '-'] ∧ reading v = .other ∧ shape v = .operand := by
  have hl : leftoverShape v = .operand := by simp [leftoverShape, operandLike, h]
  cases v with
  | nil => exact ⟨rfl, (List.cons_ne_nil _ _).symm, rfl, rfl⟩
  | cons c tl =>
    by_cases hc : c = '-'
    · subst hc
      cases tl with
      | nil => decide
      | cons x xs => simp [plainValue] at h
    · have hr : reading (c :: tl) = .other :=
        ExtractLemmas.reading_other fun f => by cases f <;> simp [Flag.text, List.isPrefixOf, Ne.symm hc]
      refine ⟨by simp [classify, hc], fun e => hc (List.cons.inj e).1, hr, ?_⟩
      unfold shape
      rw [hr]
      rcases tl with _ | ⟨x, _ | ⟨y, ys⟩⟩ <;> simp [hc, hl]

theorem fallback_leftover (c : Char) (rest : List Char) :
    Form (fallback T ('-' :: c :: rest)) .other (leftoverShape ('-' :: c :: rest)) false := by
  have hp : plainValue ('-' :: c :: rest) = false := by simp [plainValue]
  unfold fallback leftoverShape operandLike
  rw [ArgvExtras.hasNeg_T, hp]
  generalize isNegNumber ('-' :: c :: rest) = n
  generalize ('-' :: c :: rest).contains ' ' = m
  cases n <;> cases m <;> simp <;> constructor

/-- `-DX`, `-UX`, `-IX` -/
theorem att_position (f : Flag) (o : Opt) (c r : Char) (rs : List Char) (hf : f.text = ['-', c])
    (hk : o.kind = .value (actOf f)) (hd : '-' :: c :: r :: rs ≠ ['-', c, '-', '-'])
    (he : ['-', c, '='].isPrefixOf ('-' :: c :: r :: rs) = false)
    (hcl : classify T ('-' :: c :: r :: rs) = .opt o (some (if r = '=' then rs else r :: rs))) :
    Form (classify T ('-' :: c :: r :: rs)) (reading ('-' :: c :: r :: rs)) (shape ('-' :: c :: r :: rs)) false := by
  have hr : r ≠ '=' := by intro h; subst h; simp [List.isPrefixOf] at he
  have hrd : reading ('-' :: c :: r :: rs) = .att f (r :: rs) := by
    have := ExtractLemmas.reading_att f (r :: rs) (List.cons_ne_nil _ _); rwa [hf] at this
  rw [hcl, if_neg hr, hrd, shape_att hrd]
  exact .att o f _ hk fun h => hd (by rw [h])

/-- `-c…` where `-c` is no value flag and the argument is related to neither `-isystem` nor `-include`: an ignored
option letter, bare or with something attached, or an argument related to no option string at all -/
theorem other_position (c : Char) (rest : List Char) (hval : ¬ (c = 'D' ∨ c = 'U' ∨ c = 'I'))
    (no : '-' :: c :: rest ≠ ['-', 'o'])
    (hsys : Flag.isystem.text.isPrefixOf ('-' :: c :: rest) = false ∧
      ('-' :: c :: rest).isPrefixOf Flag.isystem.text = false)
    (hinc : Flag.include.text.isPrefixOf ('-' :: c :: rest) = false ∧
      ('-' :: c :: rest).isPrefixOf Flag.include.text = false) :
    Form (classify T ('-' :: c :: rest)) (reading ('-' :: c :: rest)) (shape ('-' :: c :: rest)) false := by
  simp only [not_or] at hval
  obtain ⟨hD, hU, hI⟩ := hval
  have hr := reading_dash_other c rest hD hU hI hsys.1 hinc.1
  rw [hr]
  by_cases hign : c = 'O' ∨ c = 'o' ∨ c = 'g' ∨ c = 'c'
  · cases rest with
    | nil =>
      rcases hign with rfl | rfl | rfl | rfl
      · exact .bare oO rfl
      · exact absurd rfl no
      · exact .bare og rfl
      · exact .bare oc rfl
    | cons r rs =>
      -- `-O2`, `-ofile`, `-g3`, `-ccbin`, `-o=x`
      obtain ⟨o, hk, hcl⟩ : ∃ o, (o.kind = .ignoreOpt ∨ o.kind = .ignoreReq) ∧
          classify T ('-' :: c :: r :: rs) = .opt o (some (if r = '=' then rs else r :: rs)) := by
        rcases hign with rfl | rfl | rfl | rfl
        · exact ⟨oO, .inl rfl, classify_short T oO 'O' r rs rfl (by decide) (by decide) (by decide)⟩
        · exact ⟨oo, .inr rfl, classify_short T oo 'o' r rs rfl (by decide) (by decide) (by decide)⟩
        · exact ⟨og, .inl rfl, classify_short T og 'g' r rs rfl (by decide) (by decide) (by decide)⟩
        · exact ⟨oc, .inl rfl, classify_short T oc 'c' r rs rfl (by decide) (by decide) (by decide)⟩
      have hs : shape ('-' :: c :: r :: rs) = .ignAtt := by
        simp only [shape, hr]
        rcases hign with rfl | rfl | rfl | rfl <;> rfl
      rw [hcl, hs]
      exact .ignAtt o _ hk
  · simp only [not_or] at hign
    obtain ⟨hO, ho, hg, hc⟩ := hign
    have hcl := ArgvExtras.unrelated_fallback _ c rest rfl hD hU hI hO ho hg hc hsys.1 hsys.2 hinc.1 hinc.2
    have hs : shape ('-' :: c :: rest) = leftoverShape ('-' :: c :: rest) := by
      unfold shape
      rw [hr]
      cases rest <;> simp [hO, ho, hg, hc]
    rw [hcl, hs]
    exact fallback_leftover c rest

/-- an argument in flag position that is no separate-form flag and has none of the recorded shapes -/
theorem flag_position (a : List Char) (h1 : takesValue a = false) (h2 : tagsOf1 a = []) :
    Form (classify T a) (reading a) (shape a) false := by
  obtain ⟨nD, nI, nS, nN, nU, no⟩ := takesValue_false a h1
  obtain ⟨⟨t1, t2, t3, t2u⟩, ⟨t4, t5, t4u⟩, ⟨t6, t7⟩, t8⟩ := tagsOf1_nil a h2
  cases hp : plainValue a with
  | true =>
    obtain ⟨hc, _, hr, hs⟩ := plain_value a hp
    rw [hc, hr, hs]; exact .pos
  | false =>
    obtain ⟨c, rest, rfl⟩ := not_plain a hp
    obtain ⟨t8a, t8b⟩ := t8 (by simp)
    have hsys := prefix_facts Flag.isystem.text _ nS t6 t8a
    have hinc := prefix_facts Flag.include.text _ nN t7 t8b
    by_cases hval : c = 'D' ∨ c = 'U' ∨ c = 'I'
    · cases rest with
      | nil =>
        rcases hval with rfl | rfl | rfl
        · exact absurd rfl nD
        · exact absurd rfl nU
        · exact absurd rfl nI
      | cons r rs =>
        rcases hval with rfl | rfl | rfl
        · exact att_position .D oD 'D' r rs rfl rfl t2 t4
            (classify_short T oD 'D' r rs rfl (by decide) (by decide) (by decide))
        · exact att_position .U oU 'U' r rs rfl rfl t2u t4u
            (classify_short T oU 'U' r rs rfl (by decide) (by decide) (by decide))
        · exact att_position .I oI 'I' r rs rfl rfl t3 t5
            (classify_short T oI 'I' r rs rfl (by decide) (by decide) (by decide))
    · exact other_position c rest hval no hsys hinc

theorem sep_flag (f : Flag) : classify T f.text = .opt ⟨f.text, .value (actOf f)⟩ none := by
  cases f <;> decide

theorem dash_o : classify T dashO = .opt oo none ∧ reading dashO = .other ∧ shape dashO = .ignReq := by decide

/-- the separate-form flags and `-o` -/
theorem takes_position (a : List Char) (h : takesValue a = true) : Form (classify T a) (reading a) (shape a) true := by
  rcases takesValue_true a h with ⟨f, rfl⟩ | rfl
  · rw [sep_flag f, ExtractLemmas.reading_sep f, shape_sep (ExtractLemmas.reading_sep f)]; exact .sep _ f rfl
  · rw [dash_o.1, dash_o.2.1, dash_o.2.2]; exact .req oo rfl

/-- `Tame`, as the proofs use it: a command line without recorded shapes is a sequence of arguments in flag
position, each of one of the seven forms, and of plain values after those that wait for one -/
theorem tame_rec {P : Bool → List (List Char) → Prop} (nil : P false [])
    (flag : ∀ a rest b, a ≠ ['-', '-'] → Form (classify T a) (reading a) (shape a) b → P b rest → P false (a :: rest))
    (value : ∀ a rest, a ≠ ['-', '-'] → classify T a = .positional → reading a = .other → P false rest →
      P true (a :: rest)) :
    ∀ (argv : List (List Char)) (b : Bool), classesFrom b argv = [] → P b argv := by
  intro argv
  induction argv with
  | nil =>
    intro b h
    cases b
    · exact nil
    · cases h
  | cons a rest ih =>
    intro b h
    cases b with
    | true =>
      simp only [classesFrom, List.append_eq_nil_iff] at h
      obtain ⟨hcl, hne, hr, _⟩ := plain_value a (by simpa using h.1)
      exact value a rest hne hcl hr (ih false h.2)
    | false =>
      simp only [classesFrom] at h
      by_cases htv : takesValue a = true
      · rw [if_pos htv] at h
        exact flag a rest true (fun e => by rw [e] at htv; exact absurd htv (by decide)) (takes_position a htv) (ih true h)
      · rw [if_neg htv, List.append_eq_nil_iff] at h
        exact flag a rest false (tagsOf1_nil a h.1).1.1 (flag_position a (by simpa using htv) h.1) (ih false h.2)

end

/-! ### the consume loop against the property-level scan -/

/-- the model's lists are the spec's lists, as strings -/
def toCfg (l : Lists) : Cfg :=
  ⟨l.defines.map .str, l.userDirs.map .str, l.systemDirs.map .str, l.files.map .str⟩

/-- the code's macro-name rule (stop characters read from `_UndefineAction`) is the property's -/
theorem macroName_eq (d : List Char) : Argparse.macroName d = Extract.macroName d := by
  unfold Argparse.macroName Extract.macroName
  congr 1
  funext c
  simp only [Gen.ArgTable.undefineStops, List.contains_cons, List.contains_nil, Bool.or_false, Bool.not_or]
  rfl

/-- `_UndefineAction` on a list of strings = the property's "cancel the definitions of this macro" -/
theorem undefList_str (v : List Char) : ∀ ds : List (List Char),
    undefList (.str v) (ds.map .str) = some ((surviving ds [v]).map .str)
  | [] => rfl
  | d :: r => by
    simp only [List.map_cons, undefList, undefList_str v r, macroName_eq, Val.str.injEq, surviving, List.filter_cons,
      List.contains_cons, List.contains_nil, Bool.or_false]
    by_cases h : Extract.macroName d = v
    · simp [h]
    · simp [h]

theorem toCfg_apply (l : Lists) (f : Flag) (v : List Char) :
    (toCfg l).apply (actOf f) (.str v) = .ok (toCfg (l.add f v)) := by
  cases f
  case U => simp [toCfg, Cfg.apply, Cfg.get, Cfg.set, Lists.add, actOf, undefList_str]
  all_goals simp [toCfg, Cfg.apply, Cfg.add, Lists.add, actOf]

theorem toCfg_applyIdle (l : Lists) (f : Flag) (v : List Char) :
    applyIdle (toCfg l) (actOf f) (.str v) = .ok (.idle, toCfg (l.add f v)) := by
  simp [applyIdle, toCfg_apply]

/-- what the parser waits for vs. what the property's scan waits for vs. what the class scan waits for -/
inductive Rel : Pend → Option Flag → Bool → Prop
  | idle : Rel .idle none false
  | need (f : Flag) : Rel (.need (actOf f)) (some f) true
  | needIgn : Rel .needIgn none true
  | optIgn : Rel .optIgn none false

/-- an argument of one of the seven forms, met in the idle state: the consume loop and the property's scan make the
same step -/
theorem Form.step {c : Cls} {r : Reading} {sh : Unrecognised.Shape} {b : Bool} (h : Form c r sh b) (l : Lists) :
    ∃ p' sp' l', idleStep (viewOfCls c) (toCfg l) = .ok (p', toCfg l') ∧ Rel p' sp' b ∧
      ∀ a rest, reading a = r → scan none l (a :: rest) = scan sp' l' rest := by
  cases h with
  | pos | unk => exact ⟨.idle, none, l, rfl, .idle, fun a rest hr => by simp only [scan, hr]⟩
  | bare o hk => exact ⟨.optIgn, none, l, by simp only [viewOfCls, hk, idleStep], .optIgn, fun a rest hr => by simp only [scan, hr]⟩
  | ignAtt o e hk =>
    exact ⟨.idle, none, l, by rcases hk with hk | hk <;> simp only [viewOfCls, hk, idleStep], .idle,
      fun a rest hr => by simp only [scan, hr]⟩
  | att o f w hk hw =>
    exact ⟨.idle, none, l.add f w, by simp only [viewOfCls, hk, idleStep, toVal_ne w hw, toCfg_applyIdle], .idle,
      fun a rest hr => by simp only [scan, hr]⟩
  | sep o f hk =>
    exact ⟨.need (actOf f), some f, l, by simp only [viewOfCls, hk, idleStep], .need f, fun a rest hr => by simp only [scan, hr]⟩
  | req o hk => exact ⟨.needIgn, none, l, by simp only [viewOfCls, hk, idleStep], .needIgn, fun a rest hr => by simp only [scan, hr]⟩

/-- the consume loop and the property's scan stay in step on a command line without recorded shapes -/
theorem run_eq_scan : ∀ (argv : List (List Char)) (p : Pend) (sp : Option Flag) (b : Bool) (l : Lists),
    Rel p sp b → classesFrom b argv = [] → run T p (toCfg l) argv = .ok (toCfg (scan sp l argv)) := by
  intro argv p sp b l hrel h
  revert p sp l
  refine tame_rec (P := fun b argv => ∀ p sp l, Rel p sp b → run T p (toCfg l) argv = .ok (toCfg (scan sp l argv)))
    ?_ ?_ ?_ argv b h
  · intro p sp l hrel
    cases hrel <;> rfl
  · intro a rest b' hne hf ih p sp l hrel
    obtain ⟨p', sp', l', hs, hrel', hsc⟩ := hf.step l
    have hrun : run T p (toCfg l) (a :: rest) = run T p' (toCfg l') rest := by
      cases hrel with
      | idle => simp only [run, step, viewOf_ne T a hne, hs]
      | optIgn => rw [run, step_optIgn]; simp only [step, viewOf_ne T a hne, hs]
    have hsp : sp = none := by cases hrel <;> rfl
    rw [hrun, hsp, hsc a rest rfl]
    exact ih p' sp' l' hrel'
  · intro a rest hne hcl hr ih p sp l hrel
    have hv : viewOf T a = .positional := by rw [viewOf_ne T a hne, hcl]; rfl
    cases hrel with
    | need f =>
      simp only [run, step, hv, if_true, toCfg_applyIdle, scan]
      exact ih .idle none (l.add f a) .idle
    | needIgn =>
      simp only [run, step, hv, if_true, scan, hr]
      exact ih .idle none l .idle

theorem run_tame (argv : List (List Char)) (h : Tame argv) : run T .idle {} argv = .ok (toCfg (lists argv)) :=
  run_eq_scan argv .idle none false {} .idle h

theorem not_ambiguous (argv : List (List Char)) (h : Tame argv) : ambiguousUpfront T argv = false :=
  run_ok_not_ambiguous T argv .idle _ _ (by simp) (run_tame argv h)

theorem parseKnown_tame (argv : List (List Char)) (h : Tame argv) : parseKnown T argv = .ok (toCfg (lists argv)) := by
  unfold parseKnown
  rw [not_ambiguous argv h, T_supported]
  exact run_tame argv h

/-- the spec's result as the model reports it (every value a string) -/
def toModel (r : Result) : MResult := ⟨r.defines.map .str, r.includePaths.map .str, r.includeFiles.map .str⟩

/-- the `PreprocessorConfiguration(...)` call found in the code assembles the lists as the property demands:
    defines; `-I` directories followed by `-isystem` directories; forced includes -/
theorem assemble_toCfg (l : Lists) : assemble (toCfg l) = toModel l.result := by
  simp only [assemble, gather, Gen.ArgTable.definesSrc, Gen.ArgTable.includePathsSrc, Gen.ArgTable.includeFilesSrc,
    List.flatMap_cons, List.flatMap_nil, List.append_nil, toModel, Lists.result, List.map_append]
  rfl

end CbiVerif.ArgvLemmas
