import CbiVerif.Model.ArgparseFull
import CbiVerif.Lemmas.Argv
/-! C11 helper: `sweep`, the one-pass (left-to-right) form of the full `parse_known_args` model — the
left-to-right model of `Model/Argparse.lean` extended by the `file` positional and the `extras` list — and the
proof that the index loop of `Model/ArgparseFull.lean` computes exactly it (`loop_eq_sweep`: every outcome, every
table); then that its four value lists are those of the left-to-right model (`parseFull_cfg`). -/
namespace CbiVerif.ArgvSweep
open CbiVerif.Argparse CbiVerif.ArgparseFull

/-- where the single positional `file` stands -/
inductive FileSt
  | pending                       -- no positional seen yet
  | opened (acc : List Arg)       -- inside the first run of positionals (raw strings)
  | closed (f : List Arg)         -- the first run is over: `namespace.file = f`
deriving DecidableEq, Repr, Inhabited

structure XSt where
  cfg : Cfg
  file : FileSt
  extras : List Arg
deriving DecidableEq, Repr, Inhabited

/-- a string in a run of positionals -/
def XSt.pos (s : XSt) (str : Arg) : XSt :=
  match s.file with
  | .pending => { s with file := .opened [str] }
  | .opened acc => { s with file := .opened (acc ++ [str]) }
  | .closed _ => { s with extras := s.extras ++ [str] }

/-- an option string ends the first run -/
def XSt.close (s : XSt) : XSt :=
  match s.file with
  | .opened acc => { s with file := .closed (acc.erase ddash) }
  | _ => s

def fileOf : FileSt → List Arg
  | .pending => []
  | .opened acc => acc.erase ddash
  | .closed f => f

def applyX (s : XSt) (a : Act) (w : Val) : Except PErr (Pend × XSt) :=
  match s.cfg.apply a w with
  | .ok c => .ok (.idle, { s with cfg := c })
  | .error e => .error e

def optStepX (s : XSt) (a : Arg) : Cls → Except PErr (Pend × XSt)
  | .opt o (some e) =>
    match o.kind with
    | .value d => applyX s d (toVal e)
    | .ignoreReq => .ok (.idle, s)
    | .ignoreOpt => .ok (.idle, s)
    | .unsupported => .error .unsupported
  | .opt o none =>
    match o.kind with
    | .value d => .ok (.need d, s)
    | .ignoreReq => .ok (.needIgn, s)
    | .ignoreOpt => .ok (.optIgn, s)
    | .unsupported => .error .unsupported
  | _ => .ok (.idle, { s with extras := s.extras ++ [a] })

def stepX (p : Pend) (s : XSt) : Tok → Except PErr (Pend × XSt)
  | .A a =>
    match p with
    | .need d => applyX s d (toVal a)
    | .needIgn => .ok (.idle, s)
    | .optIgn => .ok (.idle, s)
    | _ => .ok (.idle, s.pos a)
  | .DD =>
    match p with
    | .need _ => .error .argumentError
    | .needIgn => .error .argumentError
    | _ => .ok (.idle, s.pos ddash)
  | .O a c =>
    match p with
    | .need _ => .error .argumentError
    | .needIgn => .error .argumentError
    | _ => optStepX s.close a c

def XSt.result (s : XSt) : FResult :=
  ⟨s.cfg.defines, s.cfg.includePaths, s.cfg.systemPaths, s.cfg.includeFiles, fileOf s.file, s.extras⟩

def finishX (p : Pend) (s : XSt) : Except PErr FResult :=
  match p with
  | .need _ => .error .argumentError
  | .needIgn => .error .argumentError
  | _ => .ok s.result

def sweep : Pend → XSt → List Tok → Except PErr FResult
  | p, s, [] => finishX p s
  | p, s, tk :: rest =>
    match stepX p s tk with
    | .ok r => sweep r.1 r.2 rest
    | .error e => .error e

/-- the loop's state as a state of the one-pass form -/
def absSt (st : St) : XSt :=
  ⟨st.cfg, match st.file with | none => .pending | some f => .closed f, st.extras⟩

abbrev noOpt (l : List Tok) : Prop := ∀ x ∈ l, x.isO = false

/-- a token list is a run of non-options, then nothing or an option string and what follows it -/
theorem spanPos_spec (toks : List Tok) : ∃ run l, toks = run ++ l ∧ spanPos toks = (run, l) ∧ noOpt run ∧
    (l = [] ∨ ∃ a c r, l = .O a c :: r) := by
  induction toks with
  | nil => exact ⟨[], [], rfl, rfl, fun x hx => (by cases hx), Or.inl rfl⟩
  | cons x r ih =>
    cases x with
    | O a c => exact ⟨[], _, rfl, rfl, fun x hx => (by cases hx), Or.inr ⟨a, c, r, rfl⟩⟩
    | A _ | DD =>
      obtain ⟨run, l, rfl, h1, h2, h3⟩ := ih
      exact ⟨_ :: run, l, rfl, by simp only [spanPos, h1], List.forall_mem_cons.mpr ⟨rfl, h2⟩, h3⟩

theorem untilOpt_eq_spanPos (toks : List Tok) : untilOpt toks = spanPos toks := by
  induction toks with
  | nil => rfl
  | cons x r ih => cases x with
    | O _ _ => rfl
    | A _ | DD => simp only [untilOpt, spanPos, ih]

theorem hasOpt_noOpt (l : List Tok) (h : noOpt l) : hasOpt l = false := by
  simp only [hasOpt, List.any_eq_false]
  intro x hx; simp [h x hx]

theorem hasOpt_append (a b : List Tok) : hasOpt (a ++ b) = (hasOpt a || hasOpt b) := by simp [hasOpt]

theorem hasOpt_cons_O (a : Arg) (c : Cls) (r : List Tok) : hasOpt (.O a c :: r) = true := by simp [hasOpt, Tok.isO]

theorem stepX_pos (s : XSt) (x : Tok) (h : x.isO = false) : stepX .idle s x = .ok (.idle, s.pos x.str) := by
  cases x with
  | O _ _ => cases h
  | A _ | DD => rfl

theorem sweep_run_closed : ∀ (run l : List Tok) (c : Cfg) (f : List Arg) (ex : List Arg), noOpt run →
    sweep .idle ⟨c, .closed f, ex⟩ (run ++ l) = sweep .idle ⟨c, .closed f, ex ++ run.map Tok.str⟩ l
  | [], l, c, f, ex, _ => by simp
  | x :: run, l, c, f, ex, h => by
    simp only [List.cons_append, sweep, stepX_pos _ x (h x List.mem_cons_self), XSt.pos]
    rw [sweep_run_closed run l c f _ fun y hy => h y (List.mem_cons_of_mem _ hy)]
    simp

theorem sweep_run_opened : ∀ (run l : List Tok) (c : Cfg) (acc : List Arg) (ex : List Arg), noOpt run →
    sweep .idle ⟨c, .opened acc, ex⟩ (run ++ l) = sweep .idle ⟨c, .opened (acc ++ run.map Tok.str), ex⟩ l
  | [], l, c, acc, ex, _ => by simp
  | x :: run, l, c, acc, ex, h => by
    simp only [List.cons_append, sweep, stepX_pos _ x (h x List.mem_cons_self), XSt.pos]
    rw [sweep_run_opened run l c _ ex fun y hy => h y (List.mem_cons_of_mem _ hy)]
    simp

theorem sweep_run_pending (run l : List Tok) (c : Cfg) (ex : List Arg) (h : noOpt run) (hne : run ≠ []) :
    sweep .idle ⟨c, .pending, ex⟩ (run ++ l) = sweep .idle ⟨c, .opened (run.map Tok.str), ex⟩ l := by
  cases run with
  | nil => exact absurd rfl hne
  | cons x run =>
    simp only [List.cons_append, sweep, stepX_pos _ x (h x List.mem_cons_self), XSt.pos]
    rw [sweep_run_opened run l c _ ex fun y hy => h y (List.mem_cons_of_mem _ hy)]
    simp

theorem sweep_opened_closed (l : List Tok) (c : Cfg) (acc ex : List Arg)
    (hl : l = [] ∨ ∃ a cl r, l = .O a cl :: r) :
    sweep .idle ⟨c, .opened acc, ex⟩ l = sweep .idle ⟨c, .closed (acc.erase ddash), ex⟩ l := by
  rcases hl with rfl | ⟨a, cl, r, rfl⟩
  · simp [sweep, finishX, XSt.result, fileOf]
  · simp [sweep, stepX, XSt.close]

theorem absSt_close (st : St) : (absSt st).close = absSt st := by
  unfold absSt XSt.close
  cases st.file <;> rfl

theorem applyX_abs (st : St) (a : Act) (w : Val) :
    applyX (absSt st) a w =
      match st.cfg.apply a w with
      | .ok c => .ok (.idle, absSt { st with cfg := c })
      | .error e => .error e := by
  simp only [applyX, absSt]

theorem consumeOptional_arg (st : St) (a : Arg) (o : Opt) (v : Arg) (r : List Tok) :
    consumeOptional st a (.opt o none) (.A v :: r) = consumeOptional st a (.opt o (some v)) r := by
  obtain ⟨f, k⟩ := o
  cases k <;> rfl

theorem sweep_arg (s : XSt) (a : Arg) (o : Opt) (v : Arg) (r : List Tok) :
    sweep .idle s (.O a (.opt o none) :: .A v :: r) = sweep .idle s (.O a (.opt o (some v)) :: r) := by
  obtain ⟨f, k⟩ := o
  cases k <;> rfl

theorem consumeOptional_noArg (st : St) (a : Arg) (o : Opt) (l : List Tok) (h : ∀ v r, l ≠ .A v :: r) :
    consumeOptional st a (.opt o none) l =
      match nargsOf o.kind with
      | none => .error .unsupported
      | some .one => .error .argumentError
      | some .opt => .ok (st, l) := by
  obtain ⟨f, k⟩ := o
  cases l with
  | nil => cases k <;> rfl
  | cons x r =>
    cases x with
    | A v => exact absurd rfl (h v r)
    | DD | O _ _ => cases k <;> rfl

theorem sweep_noArg (s : XSt) (a : Arg) (o : Opt) (l : List Tok) (h : ∀ v r, l ≠ .A v :: r) :
    sweep .idle s (.O a (.opt o none) :: l) =
      match nargsOf o.kind with
      | none => .error .unsupported
      | some .one => .error .argumentError
      | some .opt => sweep .idle s.close l := by
  obtain ⟨f, k⟩ := o
  cases l with
  | nil => cases k <;> rfl
  | cons x r =>
    cases x with
    | A v => exact absurd rfl (h v r)
    | DD | O _ _ => cases k <;> rfl

theorem sweep_optIgn (s : XSt) (l : List Tok) (h : ∀ a r, l ≠ .A a :: r) : sweep .optIgn s l = sweep .idle s l := by
  cases l with
  | nil => rfl
  | cons x r =>
    cases x with
    | A v => exact absurd rfl (h v r)
    | DD | O _ _ => rfl

/-- `consume_optional` is the option step of the one-pass form, together with the step on the argument it takes -/
theorem consumeOptional_sweep (st : St) (a : Arg) (c : Cls) (rest : List Tok) :
    match consumeOptional st a c rest with
    | .ok r => r.2.length ≤ rest.length ∧ sweep .idle (absSt st) (.O a c :: rest) = sweep .idle (absSt r.1) r.2
    | .error e => sweep .idle (absSt st) (.O a c :: rest) = .error e := by
  have hsw : ∀ c rest, sweep .idle (absSt st) (.O a c :: rest) =
      match optStepX (absSt st) a c with
      | .ok r => sweep r.1 r.2 rest
      | .error e => .error e := by
    intro c rest; simp only [sweep, stepX, absSt_close]
  cases c with
  | positional | unknown | ambiguous => exact ⟨Nat.le_refl _, hsw _ rest⟩
  | opt o e =>
    have attached : ∀ (e : Arg) (rest : List Tok),
        match consumeOptional st a (.opt o (some e)) rest with
        | .ok r => r.2.length ≤ rest.length ∧
            sweep .idle (absSt st) (.O a (.opt o (some e)) :: rest) = sweep .idle (absSt r.1) r.2
        | .error err => sweep .idle (absSt st) (.O a (.opt o (some e)) :: rest) = .error err := by
      intro e rest
      rw [hsw]
      cases hk : o.kind with
      | value d =>
        simp only [consumeOptional, optStepX, hk, nargsOf, takeAction, applyX_abs]
        cases st.cfg.apply d (toVal e) with
        | error err => rfl
        | ok c => exact ⟨Nat.le_refl _, rfl⟩
      | ignoreReq | ignoreOpt =>
        simp only [consumeOptional, optStepX, hk, nargsOf, takeAction, Nat.le_refl, and_self]
      | unsupported => simp only [consumeOptional, optStepX, hk, nargsOf]
    cases e with
    | some e => exact attached e rest
    | none =>
      by_cases harg : ∃ v r, rest = .A v :: r
      · obtain ⟨v, r, rfl⟩ := harg
        rw [consumeOptional_arg, sweep_arg]
        have := attached v r
        revert this
        cases consumeOptional st a (.opt o (some v)) r with
        | error _ => exact id
        | ok q => exact fun h => ⟨Nat.le_succ_of_le h.1, h.2⟩
      · have hno : ∀ v r, rest ≠ .A v :: r := fun v r h => harg ⟨v, r, h⟩
        rw [consumeOptional_noArg st a o rest hno, sweep_noArg _ a o rest hno, absSt_close]
        cases nargsOf o.kind with
        | none => rfl
        | some k =>
          cases k with
          | one => rfl
          | opt => exact ⟨Nat.le_refl _, rfl⟩

/-- the loop's state after a maximal run of non-options: `consume_positionals` matches `file` against it, or, with
`file` matched before, the strings go to `extras` -/
def afterRun (st : St) (run : List Tok) : St :=
  match st.file with
  | none => { st with file := some ((run.map Tok.str).erase ddash) }
  | some _ => { st with extras := st.extras ++ run.map Tok.str }

theorem absSt_result (st : St) : (absSt st).result = st.result := by
  unfold absSt XSt.result St.result
  cases st.file <;> rfl

/-- the one-pass form over a maximal run of non-options (the last one may be empty) -/
theorem sweep_afterRun (st : St) (run l : List Tok) (hno : noOpt run) (hl : l = [] ∨ ∃ a c r, l = .O a c :: r)
    (hne : run ≠ [] ∨ l = []) : sweep .idle (absSt st) (run ++ l) = sweep .idle (absSt (afterRun st run)) l := by
  unfold absSt afterRun
  cases st.file with
  | some f => exact sweep_run_closed run l _ f _ hno
  | none =>
    cases run with
    | nil => obtain rfl := hne.resolve_left fun h => h rfl; rfl
    | cons x run => rw [sweep_run_pending _ l _ _ hno (List.cons_ne_nil _ _), sweep_opened_closed l _ _ _ hl]

/-- no option string is left: trailing positionals, then extras -/
theorem loop_last (n : Nat) (st : St) {toks : List Tok} (hno : noOpt toks) (hsp : spanPos toks = (toks, [])) :
    loop (n + 1) st toks = .ok (afterRun st toks) := by
  obtain ⟨cfg, f, ex⟩ := st
  cases f <;> simp only [loop, hasOpt_noOpt toks hno, Bool.not_false, if_true, consumePositionals, afterRun, hsp,
    List.map_nil, List.append_nil]

/-- a run of non-options with an option string ahead: `consume_positionals` takes it and the loop goes round once
more, or the strings go to `extras` and `consume_optional` follows in the same round -/
theorem loop_pos (n : Nat) (st : St) {run : List Tok} {a : Arg} {c : Cls} {r : List Tok}
    (hsp : spanPos (run ++ .O a c :: r) = (run, .O a c :: r)) (hno : noOpt run) (hne : run ≠ []) :
    loop (n + 1) st (run ++ .O a c :: r) =
      loop (if st.file = none then n else n + 1) (afterRun st run) (.O a c :: r) := by
  have hopt : hasOpt (run ++ .O a c :: r) = true := by rw [hasOpt_append, hasOpt_cons_O, Bool.or_true]
  have hlt : (Tok.O a c :: r).length < (run ++ .O a c :: r).length := by
    rw [List.length_append]; exact Nat.lt_add_of_pos_left (List.length_pos_iff.mpr hne)
  cases run with
  | nil => exact absurd rfl hne
  | cons x run =>
    cases x with
    | O _ _ => cases hno _ List.mem_cons_self
    | A _ | DD =>
      rw [List.cons_append] at hsp hopt hlt ⊢
      obtain ⟨cfg, f, ex⟩ := st
      cases f with
      | none => simp only [loop, hopt, Bool.not_true, Bool.false_eq_true, if_false, consumePositionals, hsp, if_pos hlt,
          afterRun, if_true]
      | some f => simp only [loop, hopt, Bool.not_true, Bool.false_eq_true, if_false, consumePositionals, Nat.lt_irrefl,
          untilOpt_eq_spanPos, hsp, afterRun, reduceCtorEq, hasOpt_cons_O]

theorem loop_eq_sweep : ∀ (n : Nat) (st : St) (toks : List Tok), toks.length < n →
    (loop n st toks).map St.result = sweep .idle (absSt st) toks := by
  intro n
  induction n with
  | zero => exact fun _ _ h => absurd h (Nat.not_lt_zero _)
  | succ n ih =>
    intro st toks hlen
    have hO : ∀ st a c r, r.length < n →
        (loop (n + 1) st (.O a c :: r)).map St.result = sweep .idle (absSt st) (.O a c :: r) := fun st a c r hr => by
      have hstep := consumeOptional_sweep st a c r
      simp only [loop, hasOpt_cons_O, Bool.not_true, Bool.false_eq_true, if_false]
      revert hstep
      cases consumeOptional st a c r with
      | error e => exact fun h => h.symm
      | ok q => exact fun h => (ih q.1 q.2 (Nat.lt_of_le_of_lt h.1 hr)).trans h.2.symm
    obtain ⟨run, l, rfl, hsp, hno, rfl | ⟨a, c, r, rfl⟩⟩ := spanPos_spec toks
    · have hs := sweep_afterRun st run [] hno (.inl rfl) (.inr rfl)
      rw [List.append_nil] at hsp hs ⊢
      rw [loop_last n st hno hsp, hs]
      exact congrArg Except.ok (absSt_result _).symm
    · rw [List.length_append, List.length_cons] at hlen
      by_cases hne : run = []
      · subst hne
        exact hO st a c r (by omega)
      · have := List.length_pos_iff.mpr hne
        rw [loop_pos n st hsp hno hne, sweep_afterRun st run _ hno (.inr ⟨a, c, r, rfl⟩) (.inl hne)]
        -- either way the loop now stands at the option string, with the run taken into account
        split
        · exact ih _ _ (by rw [List.length_cons]; omega)
        · exact hO _ a c r (by omega)

/-! ### the one-pass form, projected to the four value lists, is the left-to-right model of `Model/Argparse.lean` -/

theorem pos_cfg (s : XSt) (x : Arg) : (s.pos x).cfg = s.cfg := by
  unfold XSt.pos; cases s.file <;> rfl

theorem close_cfg (s : XSt) : s.close.cfg = s.cfg := by
  unfold XSt.close; cases s.file <;> rfl

theorem result_cfg (s : XSt) : s.result.cfg = s.cfg := by
  obtain ⟨⟨a, b, c, d⟩, f, e⟩ := s; rfl

theorem run_afterDD (t : List Opt) : ∀ (l : List Arg) (c : Cfg), run t .afterDD c l = .ok c
  | [], _ => rfl
  | _ :: r, c => by simp only [run, step]; exact run_afterDD t r c

theorem sweep_allA : ∀ (l : List Arg) (s : XSt), (sweep .idle s (l.map Tok.A)).map FResult.cfg = .ok s.cfg
  | [], s => by simp [sweep, finishX, Except.map, result_cfg]
  | a :: r, s => by
    simp only [List.map, sweep, stepX]
    rw [sweep_allA r (s.pos a), pos_cfg]

/-- the token the up-front pass makes of an argument of class `c` -/
def tokOf (a : Arg) : Cls → Tok
  | .positional => .A a
  | c => .O a c

theorem tokenize_cons (t : List Opt) (a : Arg) (rest : List Arg) (hne : a ≠ ddash)
    (hamb : classify t a ≠ .ambiguous) :
    tokenize t (a :: rest) = (tokenize t rest).map (tokOf a (classify t a) :: ·) := by
  simp only [tokenize, if_neg hne]
  cases hc : classify t a with
  | ambiguous => exact absurd hc hamb
  | positional | unknown | opt _ _ => rfl

theorem tokenize_cons_ok (t : List Opt) (a : Arg) (rest : List Arg) (toks : List Tok) (hne : a ≠ ddash)
    (h : tokenize t (a :: rest) = .ok toks) :
    classify t a ≠ .ambiguous ∧ ∃ toks', tokenize t rest = .ok toks' ∧ toks = tokOf a (classify t a) :: toks' := by
  have hamb : classify t a ≠ .ambiguous := fun hc => by simp [tokenize, if_neg hne, hc] at h
  rw [tokenize_cons t a rest hne hamb] at h
  cases hr : tokenize t rest with
  | error e => rw [hr] at h; cases h
  | ok toks' => rw [hr] at h; cases h; exact ⟨hamb, toks', rfl, rfl⟩

theorem applyX_cfg (s : XSt) (a : Act) (w : Val) :
    (applyX s a w).map (fun r => (r.1, r.2.cfg)) = applyIdle s.cfg a w := by
  unfold applyX applyIdle
  cases s.cfg.apply a w <;> rfl

theorem optStepX_cfg (s : XSt) (a : Arg) (c : Cls) (hp : c ≠ .positional) (hamb : c ≠ .ambiguous) :
    (optStepX s a c).map (fun r => (r.1, r.2.cfg)) = idleStep (viewOfCls c) s.cfg := by
  cases c with
  | positional => exact absurd rfl hp
  | ambiguous => exact absurd rfl hamb
  | unknown => rfl
  | opt o e =>
    cases e <;> cases hk : o.kind <;> simp only [optStepX, viewOfCls, hk] <;> first | rfl | exact applyX_cfg s _ _

theorem stepX_step (t : List Opt) (a : Arg) (p : Pend) (s : XSt) (hp : p ≠ .afterDD) (hne : a ≠ ddash)
    (hamb : classify t a ≠ .ambiguous) :
    (stepX p s (tokOf a (classify t a))).map (fun r => (r.1, r.2.cfg)) = step t p s.cfg a := by
  have hv : viewOf t a = viewOfCls (classify t a) := ArgvLemmas.viewOf_ne t a hne
  by_cases hc : classify t a = .positional
  · rw [hc] at hv ⊢
    have hv : viewOf t a = .positional := hv
    cases p with
    | afterDD => exact absurd rfl hp
    | need d => simp only [tokOf, stepX, step, hv, if_true, ArgvLemmas.toVal_ne a hne]; exact applyX_cfg s _ _
    | needIgn | optIgn => simp only [tokOf, stepX, step, hv, if_true]; rfl
    | idle => simp only [tokOf, stepX, step, hv, idleStep, Except.map, pos_cfg]
  · have hvp : ¬ viewOfCls (classify t a) = .positional := fun h => hc ((ArgvLemmas.viewOfCls_positional _).mp h)
    have hO : tokOf a (classify t a) = .O a (classify t a) := by
      unfold tokOf; split
      · next h => exact absurd h hc
      · rfl
    have := optStepX_cfg s.close a _ hc hamb
    rw [close_cfg] at this
    cases p with
    | afterDD => exact absurd rfl hp
    | need _ | needIgn => simp only [hO, stepX, step, hv, hvp, if_false]; rfl
    | optIgn | idle => simp only [hO, stepX, step, hv, hvp, if_false]; exact this

theorem sweep_cfg_eq_run (t : List Opt) : ∀ (argv : List Arg) (toks : List Tok) (p : Pend) (s : XSt),
    p ≠ .afterDD → tokenize t argv = .ok toks → (sweep p s toks).map FResult.cfg = run t p s.cfg argv := by
  intro argv
  induction argv with
  | nil =>
    intro toks p s hp h
    simp only [tokenize, Except.ok.injEq] at h
    subst h
    cases p <;> simp [sweep, finishX, run, finish, Except.map, result_cfg] at hp ⊢
  | cons a rest ih =>
    intro toks p s hp h
    by_cases hdd : a = ddash
    · subst hdd
      simp only [tokenize, if_true, Except.ok.injEq] at h
      subst h
      have hv : viewOf t ddash = .ddash := by unfold viewOf; rw [if_pos]; rfl
      cases p with
      | afterDD => exact absurd rfl hp
      | need _ | needIgn => simp [sweep, stepX, run, step, hv, Except.map]
      | idle | optIgn =>
        simp only [sweep, stepX, run, step, hv, idleStep, reduceCtorEq, if_false]
        rw [sweep_allA, pos_cfg, run_afterDD]
    · obtain ⟨hamb, toks', hr, rfl⟩ := tokenize_cons_ok t a rest toks hdd h
      have hs := stepX_step t a p s hp hdd hamb
      simp only [sweep, run]
      cases hx : stepX p s (tokOf a (classify t a)) with
      | error e => rw [hx] at hs; rw [← hs]; rfl
      | ok r =>
        rw [hx] at hs
        rw [← hs]
        exact ih toks' r.1 r.2 (ArgvLemmas.step_ok hs.symm hp hdd).2 hr

theorem tokenize_ambiguous (t : List Opt) : ∀ argv : List Arg,
    (ambiguousUpfront t argv = true → tokenize t argv = .error .systemExit) ∧
    (ambiguousUpfront t argv = false → ∃ toks, tokenize t argv = .ok toks)
  | [] => ⟨by simp [ambiguousUpfront], fun _ => ⟨[], rfl⟩⟩
  | a :: rest => by
    obtain ⟨ih1, ih2⟩ := tokenize_ambiguous t rest
    by_cases hdd : a = ddash
    · subst hdd
      have : ambiguousUpfront t (ddash :: rest) = false := by simp [ambiguousUpfront, ddash]
      exact And.intro (fun h => by rw [this] at h; cases h) (fun _ => ⟨Tok.DD :: rest.map Tok.A, by simp [tokenize]⟩)
    · have hdd' : ¬ a = ['-', '-'] := hdd
      simp only [ambiguousUpfront, if_neg hdd', ArgvLemmas.viewOf_ne t a hdd, Bool.or_eq_true, Bool.or_eq_false_iff,
        beq_iff_eq, beq_eq_false_iff_ne, ne_eq, ArgvLemmas.viewOfCls_ambiguous]
      by_cases hc : classify t a = .ambiguous
      · exact ⟨fun _ => by simp [tokenize, if_neg hdd, hc], fun h => absurd hc h.1⟩
      · rw [tokenize_cons t a rest hdd hc]
        constructor
        · rintro (h | h)
          · exact absurd h hc
          · simp [ih1 h, Except.map]
        · rintro ⟨_, h⟩
          obtain ⟨toks, ht⟩ := ih2 h
          exact ⟨tokOf a (classify t a) :: toks, by simp [ht, Except.map]⟩

theorem parseFull_eq_sweep (t : List Opt) (argv : List Arg) (toks : List Tok) (h : tokenize t argv = .ok toks)
    (hu : t.any (fun o => o.kind == .unsupported) = false) :
    parseFull t argv = sweep .idle ⟨{}, .pending, []⟩ toks := by
  unfold parseFull
  simp only [h, hu, Bool.false_eq_true, if_false]
  exact loop_eq_sweep _ {} toks (Nat.lt_succ_self _)

/-- behind `C11Full.full_refines_lr`: every table and every command line, failures included -/
theorem parseFull_cfg (t : List Opt) (argv : List Arg) :
    (parseFull t argv).map FResult.cfg = parseKnown t argv := by
  unfold parseKnown
  obtain ⟨h1, h2⟩ := tokenize_ambiguous t argv
  cases ha : ambiguousUpfront t argv with
  | true =>
    unfold parseFull
    simp [h1 ha, Except.map]
  | false =>
    obtain ⟨toks, ht⟩ := h2 ha
    cases hu : t.any (fun o => o.kind == .unsupported) with
    | true =>
      unfold parseFull
      simp [ht, hu, Except.map]
    | false =>
      rw [parseFull_eq_sweep t argv toks ht hu]
      simp only [Bool.false_eq_true, if_false]
      exact sweep_cfg_eq_run t argv toks .idle ⟨{}, .pending, []⟩ (by simp) ht

theorem fullModel_eq (argv : List Arg) : fullModel argv = parseFull ArgvLemmas.T argv := by
  unfold fullModel
  rw [ArgvLemmas.settings_ok, ArgvLemmas.table_eq]
  rfl

end CbiVerif.ArgvSweep
