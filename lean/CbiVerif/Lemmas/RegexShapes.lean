import CbiVerif.Spec.RegexShapes
import CbiVerif.Props.C12Regex
/-! Behind the all-values corollaries of `Props/C12RegexComplete.lean`: comma-joined option values through `str.split`, the
    `prefix$value` templates, the nvcc closed form on comma-joined architecture lists, flat patterns through the parser. -/
namespace CbiVerif.Regex
open CbiVerif.Compilers

/-! ## `str.split(c)` on a `c`-joined list of `c`-free fields -/

theorem splitAux_field (c : Char) : ∀ (f : List Char), c ∉ f → ∀ (fuel : Nat) (tail cur : List Char),
    splitAux [c] (fuel + f.length) (f ++ tail) cur = splitAux [c] fuel tail (f.reverse ++ cur) := by
  intro f
  induction f with
  | nil => intro _ fuel tail cur; rfl
  | cons x f ih =>
    intro hc fuel tail cur
    have hx : (c == x) = false := by
      have : c ≠ x := fun e => hc (by simp [e])
      simpa using this
    have := ih (fun h => hc (by simp [h])) fuel tail (x :: cur)
    simp only [List.length_cons, ← Nat.add_assoc, List.cons_append, splitAux, dropPrefix?, hx, List.reverse_cons, List.append_assoc]
    simpa using this

theorem splitAux_join (c : Char) (fields : List (List Char)) (hne : fields ≠ []) (hall : ∀ f ∈ fields, c ∉ f) :
    ∀ (fuel : Nat) (cur : List Char), (joinWith c fields).length < fuel →
    splitAux [c] fuel (joinWith c fields) cur = (cur.reverse ++ fields.headD []) :: fields.tail := by
  fun_induction joinWith c fields with
  | case1 => exact absurd rfl hne
  | case2 f =>
    intro fuel cur hl
    obtain ⟨k, rfl⟩ : ∃ k, fuel = (k + 1) + f.length := ⟨fuel - f.length - 1, by omega⟩
    have := splitAux_field c f (hall f (by simp)) (k + 1) [] cur
    rw [List.append_nil] at this
    rw [this]
    simp [splitAux]
  | case3 f g r ih =>
    intro fuel cur hl
    simp only [List.length_append, List.length_cons] at hl
    obtain ⟨k, rfl⟩ : ∃ k, fuel = (k + 1) + f.length := ⟨fuel - f.length - 1, by omega⟩
    rw [splitAux_field c f (hall f (by simp)) (k + 1) _ cur]
    simp only [splitAux, dropPrefix?, beq_self_eq_true, if_true]
    rw [ih (by simp) (fun x hx => hall x (by simp [hx])) k [] (by omega)]
    simp

/-! ## `string.Template(prefix + "$value")` -/

/-- a `$`-free beginning of a template is copied, whatever follows it -/
theorem substAux_copy (v : List Char) : ∀ (p : List Char), '$' ∉ p → ∀ (fuel : Nat) (t : List Char),
    substAux v (fuel + p.length) (p ++ t) = (substAux v fuel t).map (p ++ ·) := by
  intro p
  induction p with
  | nil => intro _ fuel t; show substAux v fuel t = _; cases substAux v fuel t <;> rfl
  | cons x p ih =>
    intro hp fuel t
    have hx : (x != '$') = true := by
      have : x ≠ '$' := fun e => hp (by simp [e])
      simpa using this
    show (if (x != '$') = true then (substAux v (fuel + p.length) (p ++ t)).map (x :: ·) else _) = _
    rw [if_pos hx, ih (fun h => hp (by simp [h])) fuel t]
    cases substAux v fuel t <;> rfl

theorem substAux_prefix_value (v p : List Char) (hp : '$' ∉ p) (fuel : Nat) (hl : p.length + 6 < fuel) :
    substAux v fuel (p ++ "$value".toList) = .ok (p ++ v) := by
  obtain ⟨k, rfl⟩ : ∃ k, fuel = k + 2 + p.length := ⟨fuel - p.length - 2, by omega⟩
  have : substAux v (k + 2) "$value".toList = .ok (v ++ []) := by rw [String.toList_ofList]; rfl
  rw [substAux_copy v p hp, this, List.append_nil]
  rfl

theorem mapM'_ok {α β : Type} (f : α → Except Compilers.PErr β) (g : α → β) : ∀ (l : List α), (∀ x ∈ l, f x = .ok (g x)) →
    mapM' f l = .ok (l.map g) := by
  intro l
  induction l with
  | nil => intro _; rfl
  | cons a t ih =>
    intro h
    simp only [mapM', h a (by simp), ih (fun x hx => h x (by simp [hx])), List.map_cons]

theorem mapM'_substitute {fmt : Option String} {p : List Char}
    (h : ∀ v, substitute fmt v = .ok (String.ofList (p ++ v.toList))) (fields : List (List Char)) :
    mapM' (substitute fmt) (fields.map String.ofList) = .ok (fields.map fun t => String.ofList (p ++ t)) := by
  rw [mapM'_ok _ (fun v => String.ofList (p ++ v.toList)) _ (fun x _ => h x), List.map_map]
  congr 1
  apply List.map_congr_left
  intro t _
  simp

/-! ## a scan over a joined list of tokens, for any recogniser; nvcc's recogniser on architecture names -/

theorem searchWith_some (at_ : List Char → Option (List Char × Caps)) (off : Nat) (s s' : List Char) (caps : Caps)
    (h : at_ s = some (s', caps)) : searchWith at_ off s = some (off, s, s', caps) := by
  cases s <;> simp only [searchWith, h]

theorem scanWith_hit (at_ : List Char → Option (List Char × Caps)) (s s' : List Char) (caps : Caps)
    (h : at_ s = some (s', caps)) (n off : Nat) :
    scanWith at_ (n + 1) off s =
      ⟨off, s.take (s.length - s'.length), caps⟩ :: scanWith at_ n (off + (s.length - s'.length)) s' := by
  simp only [scanWith, searchWith_some at_ off s s' caps h]

theorem scanWith_nil (at_ : List Char → Option (List Char × Caps)) (h : at_ [] = none) (n off : Nat) :
    scanWith at_ n off [] = [] := by
  cases n with
  | zero => rfl
  | succ n => simp only [scanWith, searchWith, h]

theorem scanWith_skip (at_ : List Char → Option (List Char × Caps)) (c : Char) (t : List Char) (h : at_ (c :: t) = none)
    (n off : Nat) : scanWith at_ n off (c :: t) = scanWith at_ n (off + 1) t := by
  cases n with
  | zero => rfl
  | succ n => simp only [scanWith, searchWith, h]

/-- a scan over a `c`-joined list of tokens, each of which `at_` recognises whenever it stands before a `c` or at the
    end, and which does not start at a `c`: one hit per token, in order -/
theorem scanWith_joined {α : Type} (at_ : List Char → Option (List Char × Caps)) (c : Char) (tok : α → List Char) (cap : α → Caps)
    (hnil : at_ [] = none) (hsep : ∀ t, at_ (c :: t) = none) : ∀ (xs : List α),
    (∀ x ∈ xs, ∀ rest, (rest = [] ∨ ∃ r, rest = c :: r) → at_ (tok x ++ rest) = some (rest, cap x)) →
    ∀ (fuel off : Nat), (joinWith c (xs.map tok)).length < fuel →
    (scanWith at_ fuel off (joinWith c (xs.map tok))).map (fun h => (h.text, h.caps)) = xs.map fun x => (tok x, cap x) := by
  intro xs
  induction xs with
  | nil => intro _ fuel off _; simp [joinWith, scanWith_nil at_ hnil]
  | cons x rest ih =>
    intro hall fuel off hl
    obtain ⟨k, rfl⟩ : ∃ k, fuel = k + 1 := ⟨fuel - 1, by omega⟩
    cases rest with
    | nil =>
      have h0 := hall x (by simp) [] (Or.inl rfl)
      rw [List.append_nil] at h0
      simp [joinWith, scanWith_hit at_ _ _ _ h0, scanWith_nil at_ hnil]
    | cons y r =>
      have h0 := hall x (by simp) _ (Or.inr ⟨joinWith c ((y :: r).map tok), rfl⟩)
      simp only [List.map_cons, joinWith, List.length_append, List.length_cons] at h0 hl ⊢
      rw [scanWith_hit at_ _ _ _ h0, scanWith_skip at_ c _ (hsep _)]
      simp only [List.map_cons, List.length_append, Nat.add_sub_cancel, List.take_left']
      exact congrArg _ (ih (fun z hz => hall z (by simp [hz])) k _ (by rw [List.map_cons]; omega))

/-- the "what starts here" function of `nvArchs` -/
def nvF : List Char → Option (List Char × Caps) := fun t => (nvAt t).map fun dr => (dr.2, [(1, dr.1)])

theorem nvF_archName (e : Bool × List Char) (hne : e.2 ≠ []) (hdig : e.2.all Char.isDigit = true) (rest : List Char)
    (hrest : rest = [] ∨ ∃ r, rest = ',' :: r) : nvF (archName e ++ rest) = some (rest, [(1, e.2)]) := by
  obtain ⟨c, d', hd⟩ := List.exists_cons_of_ne_nil hne
  have h := C12.nvAt_sm e.2 rest c d' hd hdig (by rcases hrest with rfl | ⟨r, rfl⟩ <;> trivial)
  obtain ⟨b, d⟩ := e
  cases b
  · simp only [nvF, archName, Bool.false_eq_true, if_false]; simp only at h; rw [h.1]; rfl
  · simp only [nvF, archName, if_true]; simp only at h; rw [h.2]; rfl

theorem archName_length (e : Bool × List Char) : (archName e ++ rest).length - rest.length = (archName e).length := by
  simp

/-! ## printing a flat expression and parsing it back -/

/-- the last case of `parseLoop`, for a character that starts none of the constructs handled before it -/
theorem parseLoop_other (fuel : Nat) (c : Char) (rest : List Char) (f : Frame) (stack : List Frame) (ng : Nat)
    (h : ['(', ')', '|', '[', '\\', '.', '$'].contains c = false) :
    parseLoop (fuel + 1) (c :: rest) f stack ng =
      if c == '*' || c == '+' || c == '?' then
        match f.cur with
        | (r, true) :: cur' =>
          if nullable r then unsup "quantified expression can match the empty string"
          else parseLoop fuel rest { f with cur := (quantify c r, false) :: cur' } stack ng
        | _ => unsup "quantifier without a quantifiable operand (or lazy / possessive / multiple repeat)"
      else if c == '^' || c == '{' || c == '}' || c == ']' then unsup ("metacharacter " ++ String.singleton c)
      else parseLoop fuel rest (f.push (.chr c) true) stack ng := by
  -- `rw` finds the last equation of `parseLoop`; its side conditions say that none of the earlier patterns applies
  rw [parseLoop]
  · rfl
  all_goals (intros; subst c; exact absurd h (by decide))

/-- one step of the parser on a backslash escape -/
theorem parseLoop_esc (fuel : Nat) (c : Char) (rest : List Char) (f : Frame) (stack : List Frame) (ng : Nat) :
    parseLoop (fuel + 1) ('\\' :: c :: rest) f stack ng =
      match escClass c with
      | some it => parseLoop fuel rest (f.push (.cls false [it]) true) stack ng
      | none => match escChar c with
        | some x => parseLoop fuel rest (f.push (.chr x) true) stack ng
        | none => unsup "escape" := by
  rw [parseLoop]
  rfl

theorem isMeta_eq (c : Char) :
    isMeta c = ['(', ')', '|', '[', '\\', '.', '$', '*', '+', '?', '^', '{', '}', ']'].contains c := by
  simp [isMeta]

/-- the three kinds of metacharacters, as `parseLoop` tells them apart -/
theorem isMeta_false {c : Char} (h : isMeta c = false) :
    ['(', ')', '|', '[', '\\', '.', '$'].contains c = false ∧ (c == '*' || c == '+' || c == '?') = false ∧
      (c == '^' || c == '{' || c == '}' || c == ']') = false := by
  rw [isMeta_eq] at h
  simp only [List.contains_cons, List.contains_nil, Bool.or_false, Bool.or_eq_false_iff] at h ⊢
  simp only [h, and_self]

theorem esc_meta (c : Char) (h : isMeta c = true) : escClass c = none ∧ escChar c = some c := by
  have all : ∀ x ∈ ['(', ')', '|', '[', '\\', '.', '$', '*', '+', '?', '^', '{', '}', ']'],
      escClass x = none ∧ escChar x = some x := by decide +kernel
  exact all c (by simpa [isMeta_eq] using h)

theorem parseLoop_atom (a : Re) (pa : List Char) (h : ppAtom a = some pa) :
    nullable a = false ∧ 1 ≤ pa.length ∧ ∀ (fuel : Nat) (rest : List Char) (f : Frame) (stack : List Frame) (ng : Nat),
      parseLoop (fuel + 1) (pa ++ rest) f stack ng = parseLoop fuel rest (f.push a true) stack ng := by
  match a, h with
  | .chr c, h =>
    obtain rfl := Option.some.inj h
    by_cases hc : isMeta c = true
    · rw [if_pos hc]
      refine ⟨rfl, Nat.le_succ 1, fun fuel rest f stack ng => ?_⟩
      rw [List.cons_append, List.cons_append, List.nil_append, parseLoop_esc, (esc_meta c hc).1, (esc_meta c hc).2]
    · rw [if_neg hc]
      obtain ⟨h1, h2, h3⟩ := isMeta_false (Bool.not_eq_true _ ▸ hc)
      refine ⟨rfl, Nat.le_refl _, fun fuel rest f stack ng => ?_⟩
      rw [List.cons_append, List.nil_append, parseLoop_other _ _ _ _ _ _ h1, h2, h3]
      rfl
  | .any, h => obtain rfl := Option.some.inj h; exact ⟨rfl, Nat.le_refl _, fun _ _ _ _ _ => rfl⟩
  | .cls false [it], h =>
    obtain ⟨e, he, rfl⟩ := Option.map_eq_some_iff.mp h
    have hcls : escClass e = some it := by cases it <;> cases he <;> rfl
    refine ⟨rfl, Nat.le_succ 1, fun fuel rest f stack ng => ?_⟩
    rw [List.cons_append, List.cons_append, List.nil_append, parseLoop_esc, hcls]

theorem parseLoop_quant (fuel : Nat) (q : Char) (hq : q = '*' ∨ q = '+' ∨ q = '?') (rest : List Char) (f : Frame) (stack : List Frame) (ng : Nat)
    (r : Re) (cur' : List (Re × Bool)) (hcur : f.cur = (r, true) :: cur') (hn : nullable r = false) :
    parseLoop (fuel + 1) (q :: rest) f stack ng = parseLoop fuel rest { f with cur := (quantify q r, false) :: cur' } stack ng := by
  have h1 : ['(', ')', '|', '[', '\\', '.', '$'].contains q = false ∧ (q == '*' || q == '+' || q == '?') = true := by
    rcases hq with rfl | rfl | rfl <;> exact ⟨rfl, rfl⟩
  simp only [parseLoop_other _ _ _ _ _ _ h1.1, h1.2, if_true, hcur, hn, Bool.false_eq_true, if_false]

theorem parseLoop_qitem (fuel : Nat) (q : Char) (hq : q = '*' ∨ q = '+' ∨ q = '?') (a : Re) (pa : List Char) (ha : ppAtom a = some pa)
    (rest : List Char) (f : Frame) (stack : List Frame) (ng : Nat) :
    parseLoop (fuel + 2) ((pa ++ [q]) ++ rest) f stack ng =
      parseLoop fuel rest { f with cur := (quantify q a, false) :: f.cur } stack ng ∧ 2 ≤ (pa ++ [q]).length := by
  obtain ⟨hnull, hlen, hstep⟩ := parseLoop_atom a pa ha
  refine ⟨?_, by simp only [List.length_append, List.length_singleton]; omega⟩
  rw [List.append_assoc, hstep, List.singleton_append, parseLoop_quant fuel q hq rest _ stack ng a f.cur rfl hnull]
  rfl

theorem parseLoop_item (r : Re) (pr : List Char) (h : ppItem r = some pr) (rest : List Char) (f : Frame) (stack : List Frame) (ng : Nat) :
    ∃ n q, n ≤ pr.length ∧ ∀ fuel, parseLoop (fuel + n) (pr ++ rest) f stack ng =
      parseLoop fuel rest { f with cur := (r, q) :: f.cur } stack ng := by
  have quantCase : ∀ (q : Char) (a : Re), q = '*' ∨ q = '+' ∨ q = '?' → (ppAtom a).map (· ++ [q]) = some pr →
      ∃ n q', n ≤ pr.length ∧ ∀ fuel, parseLoop (fuel + n) (pr ++ rest) f stack ng =
        parseLoop fuel rest { f with cur := (quantify q a, q') :: f.cur } stack ng := by
    intro q a hq h
    obtain ⟨pa, ha, rfl⟩ := Option.map_eq_some_iff.mp h
    exact ⟨2, false, (parseLoop_qitem 0 q hq a pa ha rest f stack ng).2, fun fuel => (parseLoop_qitem fuel q hq a pa ha rest f stack ng).1⟩
  -- one case per equation of `ppItem`
  unfold ppItem at h
  split at h
  · exact quantCase '*' _ (Or.inl rfl) h
  · exact quantCase '+' _ (Or.inr (Or.inl rfl)) h
  · exact quantCase '?' _ (Or.inr (Or.inr rfl)) h
  · obtain rfl := Option.some.inj h; exact ⟨1, false, Nat.le_refl _, fun _ => rfl⟩
  · exact ⟨1, true, (parseLoop_atom r pr h).2.1, fun fuel => (parseLoop_atom r pr h).2.2 fuel rest f stack ng⟩

/-- the text of a flat list of items is read back item by item, whatever groups are open and whatever follows -/
theorem parseLoop_items (stack : List Frame) (ng : Nat) (rest : List Char) (items : List Re) (p : List Char)
    (h : ppFlat items = some p) : ∀ (f : Frame), ∃ n cur, n ≤ p.length ∧ cur.map (·.1) = items.reverse ∧
      ∀ fuel, parseLoop (fuel + n) (p ++ rest) f stack ng = parseLoop fuel rest { f with cur := cur ++ f.cur } stack ng := by
  fun_induction ppFlat items generalizing p with
  | case1 => obtain rfl := Option.some.inj h; exact fun f => ⟨0, [], Nat.le_refl _, rfl, fun _ => rfl⟩
  | case2 r rs pr prs hrs hr ih =>
    obtain rfl := Option.some.inj h
    intro f
    obtain ⟨n1, q, hn1, step1⟩ := parseLoop_item r pr hr (prs ++ rest) f stack ng
    obtain ⟨n2, cur, hn2, hcur, step2⟩ := ih prs hrs { f with cur := (r, q) :: f.cur }
    refine ⟨n2 + n1, cur ++ [(r, q)], by rw [List.length_append]; omega, by simp [hcur], fun fuel => ?_⟩
    rw [← Nat.add_assoc, List.append_assoc, step1, step2, List.append_assoc]
    rfl
  | case3 => cases h

theorem parseLoop_flat (ng : Nat) : ∀ (items : List Re) (p : List Char), ppFlat items = some p →
    ∀ (fuel : Nat) (f : Frame), p.length < fuel → f.kind = none → f.alts = [] →
      parseLoop fuel p f [] ng = .ok (seqOf (f.cur.reverse.map (·.1) ++ items), ng) := by
  intro items p h fuel f hl hk ha
  obtain ⟨n, cur, hn, hcur, step⟩ := parseLoop_items [] ng [] items p h f
  obtain ⟨k, rfl⟩ : ∃ k, fuel = k + 1 + n := ⟨fuel - n - 1, by omega⟩
  rw [← List.append_nil p, step]
  have hrev : cur.reverse.map (·.1) = items := by rw [List.map_reverse, hcur, List.reverse_reverse]
  show (Except.ok (Frame.close _, ng) : Except PErr (Re × Nat)) = _
  simp [Frame.close, altOf, hk, ha, hrev]

theorem ppFlat_lit (p : List Char) (hp : ∀ c ∈ p, isMeta c = false) : ppFlat (p.map .chr) = some p := by
  induction p with
  | nil => rfl
  | cons c p ih => simp [ppFlat, ppItem, ppAtom, hp c (by simp), ih (fun x hx => hp x (by simp [hx]))]

theorem parseLoop_lit (ng : Nat) : ∀ (p : List Char), (∀ c ∈ p, isMeta c = false) → ∀ (fuel : Nat) (f : Frame),
    p.length < fuel → f.kind = none → f.alts = [] →
    parseLoop fuel p f [] ng = .ok (seqOf (f.cur.reverse.map (·.1) ++ p.map .chr), ng) :=
  fun p hp => parseLoop_flat ng (p.map .chr) p (ppFlat_lit p hp)

end CbiVerif.Regex
