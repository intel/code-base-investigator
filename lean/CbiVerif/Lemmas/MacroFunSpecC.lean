import CbiVerif.Lemmas.MacroFunSpecB
import CbiVerif.Lemmas.MacroObjTop
/-! # C03 against the specification, part C: top level

* `Ref_eq_prosser` — the reference started with nothing disabled = `Spec.Prosser.prosserToks` (the specification's own fuel is
  handled by a computed bound: `cost + L + 1 < defaultFuel`);
* `E_eq_prosser` — the same for the reference `E` of object-like tables (`PlainTbl`), which computes the relation `Expands` as well. -/
namespace CbiVerif.MX
open CbiVerif.PP
open CbiVerif.Spec.Prosser (T K Macros Unspec)

/-- **function-like fragment: reference `Ref` = specification** (spellings) -/
theorem Ref_eq_prosser (tbl : Table) (hC : ConfTbl tbl) (L d : Nat) (ts : List Tok) (hts : ∀ t ∈ ts, CTok tbl t)
    (hfit : fitsb tbl d [] ts = true) (hconf : confb tbl L d [] ts = true)
    (hfuel : cost tbl d [] ts + L + 1 < CbiVerif.Spec.Prosser.defaultFuel) :
    ∃ out, CbiVerif.Spec.Prosser.prosserToks (specTableF tbl) (ts.map (toSpec [])) = .ok out ∧
      out.map (·.text) = (Ref tbl d [] ts).map spellTok := by
  obtain ⟨c, hc, h⟩ := ref_expands tbl L d [] ts hfit hconf
  exact (expands_spec (specOf_specTableF tbl) hC.stbl h [] (fun _ => rfl) fun t ht => (hts t ht).stok).top (by omega)

/-! ## object-like tables: the reference `E` computes the relation too -/
theorem E_expands (tbl : Table) (hT : TblOK tbl) (L B : Nat) (hB : BodiesLe tbl B) : ∀ (d : Nat) (D : NoExp) (ts : List Tok),
    free D (keys tbl) < d → ∃ c, c ≤ ts.length * Cb B d ∧ Expands tbl L D ts (E tbl d D ts) c := by
  intro d
  induction d with
  | zero => exact fun D ts h => absurd h (Nat.not_lt_zero _)
  | succ d ihd =>
    intro D ts hfree
    induction ts with
    | nil => exact ⟨0, Nat.zero_le _, by rw [E_nil]; exact .nil D⟩
    | cons a as iha =>
      obtain ⟨c2, hc2, h2⟩ := iha
      obtain ⟨a', hh, -, hE⟩ | ⟨m, hh, hE⟩ := headOf_objLike hT.objLike D a as
      · exact ⟨c2 + 1, by rw [Nat.add_comm]; exact le_stay hc2 (Cb_pos B (d + 1)), hE d ▸ .stay hh h2⟩
      · obtain ⟨_, hq, hm, _⟩ := headOf_obj hh
        -- one more name is disabled, so the budget one lower suffices
        obtain ⟨c1, hc1, h1⟩ := ihd (some m.name :: D) (fixpw m.replacement a.pw)
          (Nat.lt_of_lt_of_le (free_name_lt hT.named hm hq) (Nat.le_of_lt_succ hfree))
        rw [fixpw_length] at hc1
        exact ⟨c1 + c2 + 1, Nat.le_trans (by omega) (le_obj (Ld := Lb B d) hc1 (hB _ _ hm) hc2), hE d ▸ .obj hh h1 h2⟩

/-- **object-like tables: reference `E` = specification** (spellings).  The bound on the number of iterations of the
    specification's loop must stay below `Spec.Prosser.defaultFuel`. -/
theorem E_eq_prosser (tbl : Table) (hT : PlainTbl tbl) (ts : List Tok) (hts : ∀ t ∈ ts, PlainTok t)
    (hfuel : ts.length * Cb (bodyMax tbl) (tbl.length + 1) < CbiVerif.Spec.Prosser.defaultFuel) :
    ∃ out, CbiVerif.Spec.Prosser.prosserToks (specTable tbl) (ts.map (toSpec [])) = .ok out ∧
      out.map (·.text) = (E tbl (tbl.length + 1) [] ts).map spellTok := by
  obtain ⟨c, hc, h⟩ := E_expands tbl hT.ok 0 _ (bodiesLe_bodyMax tbl) (tbl.length + 1) [] ts
    (Nat.lt_succ_of_le (free_le_keys [] tbl))
  exact (expands_spec (specOf_specTable tbl hT.ok.objLike) hT.stbl h [] (fun _ => rfl) fun t ht => hT.stok (hts t ht)).top
    (Nat.lt_of_le_of_lt hc hfuel)

end CbiVerif.MX
