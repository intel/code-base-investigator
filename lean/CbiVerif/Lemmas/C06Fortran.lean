import CbiVerif.Model.C06Fortran
import CbiVerif.Lemmas.C06ComposeText
import CbiVerif.Props.C17Nodes
/-! The language-dispatching front end of the composed C06 pipeline (`Model/C06Fortran.lean`): the Fortran front end satisfies
`C06C.ParseFacts` (from C17: `structural_*`, `nodes_of_ok`), hence so does `parseSrcL` for the guard, the
counted lines and the groups of the file's language.  Before that, a successful run of `analyseG` as its two loops. -/
namespace CbiVerif.C06L
open CbiVerif.SM CbiVerif.C06C

/-- the closed form (`C14C.analyseG_iff`) read back as the two `mapE` loops of the definition -/
theorem analyseG_ok (parse : SrcFile → Except PP.Err Parsed) (files : List SrcFile) (plats : List Plat) (fs : List FileRec)
    (h : analyseG parse files plats = .ok fs) :
    ∃ ps pr, List.Forall₂ (fun f p => parse f = .ok p) files ps ∧
      List.Forall₂ (fun pl r => runPlat files ps pl = .ok r) plats pr ∧
      fs = (files.zip ps).map (mkRec pr) := by
  obtain ⟨hg, rfl⟩ := (C14C.analyseG_iff parse files plats fs).mp h
  refine ⟨files.map (C14C.pfG parse), C14C.prOf (C14C.lkOfG parse files) plats, ?_, ?_, ?_⟩
  · rw [List.forall₂_map_right_iff, List.forall₂_same]
    exact fun _ => hg.parse_eq
  · rw [C14C.prOf, List.forall₂_map_right_iff, List.forall₂_same]
    exact fun pl hpl => (C14C.runPlat_iff _ files _ (funext (C14C.lookup_map_pfG parse files)) pl _).mpr ⟨hg.2 pl hpl, rfl⟩
  · rw [← List.map_prod_left_eq_zip, List.map_map]; rfl

/-! ## the Fortran front end -/

theorem pnodeOf_lines (n : Fortran.Node) (q : PP.PNode) (h : Fortran.pnodeOf n = .ok q) : q.lines = n.lines := by
  unfold Fortran.pnodeOf at h
  split at h
  · exact parseDirective_lines _ _ _ h
  · simp only [Except.ok.injEq] at h; subst h; rfl

theorem mapM_pnodeOf_forall₂ (ns : List Fortran.Node) (pn : List PP.PNode) (h : ns.mapM Fortran.pnodeOf = .ok pn) :
    List.Forall₂ (fun n q => q.lines = n.lines) ns pn :=
  (mapM_ok_forall₂ _ ns pn h).imp pnodeOf_lines

/-- a successful `fParseSrc`: the C17 line source accepts the text, the nodes are C17's groups, the payload list is C17's
    `fortranPNodes` (the node list `C17.conditionals_as_C` is about), and the tree builds -/
theorem fParseSrc_ok (t : List Char) (p : Parsed) (h : fParseSrc t = .ok p) :
    ∃ lls, Fortran.fortranSource (String.ofList t) = .ok lls ∧ p.nodes = (Fortran.group lls).map fNode ∧
      Fortran.fortranPNodes (String.ofList t) = .ok p.pnodes ∧
      List.Forall₂ (fun n q => q.lines = n.lines) p.nodes p.pnodes ∧
      ¬ (Cond.build (PP.labels p.pnodes)).isNone = true := by
  -- the one successful branch of `fParseSrc`
  revert h
  fun_cases fParseSrc t with
  | case4 lls hs pn hm hb =>
    rintro ⟨⟩
    refine ⟨lls, hs, rfl, ?_, List.forall₂_map_left_iff.mpr (mapM_pnodeOf_forall₂ _ _ hm), hb⟩
    rw [Fortran.fortranPNodes, hs]; exact hm
  | _ => nofun

theorem fNode_lines (ns : List Fortran.Node) : (ns.map fNode).flatMap (·.lines) = Fortran.nodesLines ns := by
  unfold Fortran.nodesLines
  rw [List.flatMap_map]; rfl

theorem fguard_iff (t : List Char) : fguard t = true ↔
    ∃ r, Fortran.refText (String.ofList t) = some r ∧ ∀ x ∈ r, x.2 = false := by
  unfold fguard
  cases Fortran.refText (String.ofList t) with
  | none => simp
  | some r => simp [List.all_eq_true]

theorem fParseSrc_facts (t : List Char) (p : Parsed) (h : fParseSrc t = .ok p) :
    ParseFacts (Fortran.splitLines (String.ofList t)).length (fguard t) (fcounted t) (Fortran.refNodes (String.ofList t)) p := by
  obtain ⟨lls, hs, hn, _, hfa, _⟩ := fParseSrc_ok t p h
  have hnl : p.nodes.flatMap (·.lines) = Fortran.countedOf lls := by
    rw [hn, fNode_lines]; exact (CbiVerif.C17.structural_nodes lls).1
  refine ⟨hnl ▸ CbiVerif.C17.structural_increasing _ lls hs, hnl ▸ CbiVerif.C17.structural_in_range _ lls hs,
    hn ▸ List.forall_mem_map.mpr (CbiVerif.C17.structural_nodes lls).2, hfa, fun hg => ?_, fun hg => ?_⟩ <;>
    obtain ⟨r, hr, hk⟩ := (fguard_iff t).mp hg <;> obtain ⟨hc, hgr, hnum⟩ := CbiVerif.C17.nodes_of_ok _ r hr hk lls hs
  · rw [hnl, hc, fcounted, hr]
  · rw [hn, ← hgr, List.map_map]
    exact ⟨List.map_congr_left fun nd _ => by cases hd : nd.isDir <;> simp [fNode, Fortran.nview, hd],
      List.forall_mem_map.mpr fun nd hnd => (hnum nd hnd).2⟩

/-! ## per file: what the parser of the file's language returns -/

theorem parseSrcL_c (f : SrcFile) (h : langOf f.path = .cFamily) : parseSrcL f = parseSrc f.text := by
  unfold parseSrcL; rw [h]

theorem parseSrcL_f (f : SrcFile) (h : langOf f.path = .fortranFree) : parseSrcL f = fParseSrc f.text := by
  unfold parseSrcL; rw [h]

theorem parseSrcL_facts (f : SrcFile) (p : Parsed) (h : parseSrcL f = .ok p) :
    ParseFacts (physLines f) (guardL f) (countedL f) (specNodesL f) p := by
  unfold parseSrcL at h
  unfold guardL countedL physLines specNodesL
  cases hl : langOf f.path <;> simp only [hl] at h ⊢
  · exact parseSrc_facts f.text p h
  · exact fParseSrc_facts f.text p h
  · cases h
  · cases h

end CbiVerif.C06L
