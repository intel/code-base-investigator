import CbiVerif.Lemmas.MacroSpecTok
import CbiVerif.Lemmas.LexRoundtrip
/-! # C03, `#` against the specification: `PP.stringify` (model of `Lexer.stringify`) and `Spec.Prosser.stringize` (C11 6.10.3.2p2),
    `MacroFunction.replace` and `Spec.Prosser.subst`

For `stringify` two independent components are compared:
* the spelling between the quotes (`PP.sanitized` per token and the blank rule against `escapeLit` and the blank rule of the
  specification): `specBody_eq`;
* the two lexers on the text `"` + body + `"` (`PP.lexString` against `Spec.Prosser.lexQuoted`): `lexString_of_lexQuoted`, and
  as whole tokens (`PP.tokenizeOne` against `Spec.Prosser.lexOne`): `tokenizeOne_of_lexOne_quote`.

Every token the lexer makes has a text these statements admit (`tokenize_tokOk`).

`hash_aux` compares the two passes of `MacroFunction.replace` (`strcatPass`, then `substArgs`) with the single pass of
`Spec.Prosser.subst` on replacement lists with `#` and without `##`, by induction along a successful run of the latter; what it
needs of `stringify` is a hypothesis. -/
namespace CbiVerif.MX.StrSpec
open CbiVerif.PP CbiVerif.MX
open CbiVerif.Spec.Prosser (T K)

/-- escaping of `"` and `\` (what `escapeLit` does, on characters) -/
def esc (cs : List Char) : List Char := cs.flatMap fun c => if c == '\\' || c == '"' then ['\\', c] else [c]

/-- texts in which every `"` directly follows a `\`: on these `sanitized_str` escapes like the standard (`sanitized_go`), and the
    texts `Lexer.string_constant` makes are among them (`lexString_go_ok`; not all of them: it never makes `\\"`) -/
def strTextOk : List Char → Bool
  | [] => true
  | '\\' :: '"' :: r => strTextOk r
  | '"' :: _ => false
  | _ :: r => strTextOk r

theorem strTextOk_cons_plain (c : Char) (m : List Char) (h1 : c ≠ '"') (h2 : c ≠ '\\') : strTextOk (c :: m) = strTextOk m := by
  -- the equation of the last case asks, as side goals, that the earlier patterns do not match (here and below)
  rw [strTextOk]
  all_goals (intros; simp_all)

theorem strTextOk_cons_bs (d : Char) (m : List Char) (h1 : d ≠ '"') : strTextOk ('\\' :: d :: m) = strTextOk (d :: m) := by
  rw [strTextOk]
  all_goals (intros; simp_all)

theorem strTextOk_cons {c : Char} {m : List Char} (hc : c ≠ '"') (hm : strTextOk m = true) : strTextOk (c :: m) = true := by
  by_cases hb : c = '\\'
  · subst hb
    cases m with
    | nil => rfl
    | cons d m =>
      by_cases hd : d = '"'
      · subst hd; cases hm
      · rw [strTextOk_cons_bs d m hd]; exact hm
  · rw [strTextOk_cons_plain c m hc hb]; exact hm

theorem esc_cons (c : Char) (r : List Char) : esc (c :: r) = (if c == '\\' || c == '"' then ['\\', c] else [c]) ++ esc r := by
  simp [esc]

theorem esc_append (a b : List Char) : esc (a ++ b) = esc a ++ esc b := by simp [esc]

theorem bs2 : "\\\\".toList = ['\\', '\\'] := by decide
theorem bs3 : "\\\\\\\"".toList = ['\\', '\\', '\\', '"'] := by decide
theorem bsq : "\\\"".toList = ['\\', '"'] := by decide
theorem q1 : "\"".toList = ['"'] := by decide
theorem sq1 : "'".toList = ['\''] := by decide

theorem sanitized_go (cs : List Char) : ∀ (fuel : Nat) (acc : String), cs.length < fuel → strTextOk cs = true →
    (sanitized.go fuel cs acc).toList = acc.toList ++ esc cs := by
  fun_induction strTextOk cs with
  | case1 => intro fuel acc hl _; cases fuel <;> simp [sanitized.go, esc]
  | case2 r ih =>
    intro fuel acc hl h
    obtain ⟨f, rfl⟩ : ∃ f, fuel = f + 1 := ⟨fuel - 1, by omega⟩
    rw [sanitized.go, ih f _ (by simp at hl ⊢; omega) h, esc_cons, esc_cons]
    simp [String.toList_append, bs3]
  | case3 => intro _ _ _ h; cases h
  | case4 c r h1 h2 ih =>
    intro fuel acc hl h
    obtain ⟨f, rfl⟩ : ∃ f, fuel = f + 1 := ⟨fuel - 1, by omega⟩
    have hi := fun acc => ih f acc (Nat.lt_of_succ_lt_succ hl) h
    by_cases hb : c = '\\'
    · subst hb
      rw [sanitized.go, hi, esc_cons]
      · simp [String.toList_append, bs2]
      · exact fun r' e => h1 r' rfl e
    · rw [sanitized.go, hi, esc_cons]
      · have hq : c ≠ '"' := h2
        simp [hb, hq, String.toList_push]
      all_goals (intros; simp_all)

/-- the class of tokens the statement is about: a string literal's text pairs every `"` with a preceding `\` (what
    `Lexer.string_constant` produces); every other kind is unrestricted -/
def tokOk (t : Tok) : Bool := t.kind != .str || strTextOk t.text.toList

/-- what `Spec.Prosser.stringize` appends for one token -/
def specPiece (t : T) : String :=
  if t.kind == .str || t.kind == .chr then CbiVerif.Spec.Prosser.escapeLit t.text else t.text

theorem escapeLit_toList (s : String) : (CbiVerif.Spec.Prosser.escapeLit s).toList = esc s.toList := by
  simp [CbiVerif.Spec.Prosser.escapeLit, esc]

/-- **one token**: `sanitized_str` of the code = the spelling with `"` and `\` escaped inside literals -/
theorem sanitized_spec (t : Tok) (h : tokOk t = true) : sanitized t = specPiece (toSpec [] t) := by
  obtain ⟨k, s, w, x⟩ := t
  apply String.toList_inj.mp
  cases k
  case str =>
    have hs : strTextOk s.toList = true := by simpa [tokOk] using h
    simp only [sanitized, specPiece, toSpec, kindOf, spellTok, beq_self_eq_true, Bool.true_or, if_true, escapeLit_toList,
      String.toList_append, bsq, q1]
    rw [sanitized_go _ _ _ (by have := @String.length_toList s; omega) hs]
    simp [esc]
  case chr =>
    simp [sanitized, specPiece, toSpec, kindOf, spellTok, escapeLit_toList, String.toList_append, sq1, esc]
  all_goals rfl

theorem fold_spec : ∀ (r : List Tok) (acc : String), (∀ t ∈ r, tokOk t = true) →
    r.foldl (fun acc p => acc ++ (if p.pw then " " else "") ++ sanitized p) acc
      = CbiVerif.Spec.Prosser.stringize.go (r.map (toSpec [])) false acc := by
  intro r
  induction r with
  | nil => intro acc _; rfl
  | cons p r ih =>
    intro acc h
    simp only [List.foldl_cons, List.map_cons, CbiVerif.Spec.Prosser.stringize.go]
    rw [ih _ (fun t ht => h t (List.mem_cons_of_mem _ ht)), sanitized_spec p (h p (List.mem_cons_self ..))]
    rfl

/-- the text `Lexer.stringify` puts between the quotes (`C03.strBody`) -/
def bodyOf : List Tok → String
  | [] => ""
  | f :: r => r.foldl (fun acc p => acc ++ (if p.pw then " " else "") ++ sanitized p) (sanitized f)

/-- **the spelling between the quotes**: model (`strBody`, i.e. `Lexer.stringify` before it lexes) = specification -/
theorem specBody_eq (ts : List Tok) (h : ∀ t ∈ ts, tokOk t = true) :
    CbiVerif.Spec.Prosser.stringize.go (ts.map (toSpec [])) true "" =
      bodyOf ts := by
  cases ts with
  | nil => rfl
  | cons f r =>
    simp only [List.map_cons, CbiVerif.Spec.Prosser.stringize.go, bodyOf]
    rw [fold_spec r _ (fun t ht => h t (List.mem_cons_of_mem _ ht)), sanitized_spec f (h f (List.mem_cons_self ..))]
    simp [specPiece]

/-- the class of arguments the `#` statements are about: in the text of every string-literal token each `"` directly follows a `\`.
    Every token the lexer makes is in it (`tokenize_tokOk`). -/
def StrArgOk (ts : List Tok) : Prop := ∀ t ∈ ts, tokOk t = true

instance (ts : List Tok) : Decidable (StrArgOk ts) := by unfold StrArgOk; exact inferInstance

/-! ## the two lexers on `"` + body + `"` -/
open CbiVerif.Spec.Prosser (lexQuoted lexOne)

theorem lexQuoted_go_nil (f : Nat) (acc : List Char) : lexQuoted.go '"' f acc [] = none := by
  cases f <;> rfl

theorem lexQuoted_go_cons (q : Char) (f : Nat) (acc : List Char) (c : Char) (r : List Char) :
    lexQuoted.go q (f + 1) acc (c :: r) =
      if c == q then some (acc ++ [c], r)
      else if c == '\\' then (match r with | c2 :: r2 => lexQuoted.go q f (acc ++ [c, c2]) r2 | [] => none)
      else if c == '\n' then none
      else lexQuoted.go q f (acc ++ [c]) r := rfl

theorem lexString_go_quote (g : Nat) (acc r : List Char) : lexString.go (g + 1) acc ('"' :: r) = some (acc, r) := rfl

/-- one step of `Lexer.string_constant` on a backslash followed by a character: an escape pair (repair of finding D45) -/
theorem lexString_go_bs (g : Nat) (acc : List Char) (c2 : Char) (r2 : List Char) :
    lexString.go (g + 1) acc ('\\' :: c2 :: r2) = lexString.go g (acc ++ ['\\', c2]) r2 := rfl

theorem lexString_go_bs_end (g : Nat) (acc : List Char) : lexString.go (g + 1) acc ['\\'] = none := by
  rw [lexString.go]
  · cases g <;> rfl
  all_goals (intros; simp_all)

theorem lexString_go_plain (g : Nat) (acc : List Char) (c : Char) (r : List Char) (h1 : c ≠ '"') (h2 : c ≠ '\\') :
    lexString.go (g + 1) acc (c :: r) = lexString.go g (acc ++ [c]) r := by
  rw [lexString.go]
  all_goals (intros; simp_all)

/-- **the lexers agree on a complete string literal**: if `lexQuoted` (specification, C11 6.4.5: `\` + any character is an escape
    pair) reads all of `s` as the rest of a string literal, so does `Lexer.string_constant` (as repaired for finding D45), with the
    same characters. -/
theorem lexString_of_lexQuoted (f : Nat) : ∀ (s acc acc' t : List Char), lexQuoted.go '"' f acc s = some (t, []) →
    ∀ f', s.length < f' →
    ∃ m, t = acc ++ m ++ ['"'] ∧ lexString.go f' acc' s = some (acc' ++ m, []) := by
  induction f with
  | zero => intro s acc acc' t h; cases h
  | succ f ih =>
    intro s acc acc' t h f' hf'
    cases s with
    | nil => cases h
    | cons c r =>
      obtain ⟨g, rfl⟩ : ∃ g, f' = g + 1 := ⟨f' - 1, by rw [List.length_cons] at hf'; omega⟩
      have hg : r.length < g := Nat.lt_of_succ_lt_succ hf'
      rw [lexQuoted_go_cons] at h
      by_cases hq : c = '"'
      · subst hq
        obtain ⟨rfl, rfl⟩ := Prod.mk.inj (Option.some.inj h)
        exact ⟨[], (List.append_nil _).symm ▸ rfl, by rw [lexString_go_quote, List.append_nil]⟩
      rw [if_neg (by simpa using hq)] at h
      by_cases hb : c = '\\'
      · subst hb
        cases r with
        | nil => cases h
        | cons c2 r2 =>
          obtain ⟨m, hm, hgo⟩ := ih r2 _ (acc' ++ ['\\', c2]) t h g (Nat.lt_of_succ_lt hg)
          refine ⟨['\\', c2] ++ m, by rw [hm, List.append_assoc acc], ?_⟩
          rw [lexString_go_bs, hgo, List.append_assoc]
      · rw [if_neg (by simpa using hb)] at h
        by_cases hn : c = '\n'
        · rw [if_pos (by simpa using hn)] at h; cases h
        rw [if_neg (by simpa using hn)] at h
        obtain ⟨m, hm, hgo⟩ := ih r _ (acc' ++ [c]) t h g hg
        exact ⟨[c] ++ m, by rw [hm, List.append_assoc acc], by rw [lexString_go_plain g acc' c r hq hb, hgo, List.append_assoc]⟩

/-- the specification's lexer on a text that begins with `"` -/
theorem lexOne_quote (x : List Char) : lexOne ('"' :: x) false =
    (lexQuoted.go '"' (x.length + 1) ['"'] x).map fun (t, r) => (⟨.str, String.ofList t, false, []⟩, r) := by
  simp [lexOne, CbiVerif.Spec.Prosser.lexNumber, lexQuoted, CbiVerif.Spec.Prosser.isIdStart]

/-- the code's lexer on a text that begins with `"`, when `string_constant` succeeds -/
theorem tokenizeOne_quote (x t r : List Char) (h : lexString.go (x.length + 1) [] x = some (t, r)) :
    tokenizeOne ('"' :: x) false = some (⟨.str, String.ofList t, false, true⟩, r) := by
  unfold tokenizeOne
  rw [CbiVerif.LexRT.lexNumber_none '"' x (by decide) (by decide), CbiVerif.LexRT.lexChar_none '"' x (by decide)]
  simp [lexString, h]

/-- **the two lexers on a text that begins with `"`**: where the specification's reads one string literal and nothing else, so
    does the code's, and it is the same token -/
theorem tokenizeOne_of_lexOne_quote (x : List Char) (st : T) (h : lexOne ('"' :: x) false = some (st, [])) :
    ∃ t, tokenizeOne ('"' :: x) false = some (t, []) ∧ toSpec [] t = st := by
  rw [lexOne_quote] at h
  cases hgo : lexQuoted.go '"' (x.length + 1) ['"'] x with
  | none => rw [hgo] at h; cases h
  | some pr =>
    obtain ⟨chars, rest⟩ := pr
    rw [hgo] at h
    cases h
    obtain ⟨m, rfl, hm⟩ := lexString_of_lexQuoted (x.length + 1) x ['"'] [] _ hgo (x.length + 1) (Nat.lt_succ_self _)
    refine ⟨_, tokenizeOne_quote x m [] hm, ?_⟩
    simp only [toSpec, kindOf, spellTok]
    congr 1
    apply String.toList_inj.mp
    simp [String.toList_append, q1]

/-! ## every token the lexer makes is in the class `tokOk` -/

/-- what `Lexer.string_constant` collects is a text of the class `strTextOk` -/
theorem lexString_go_ok (fuel : Nat) : ∀ (acc s t r : List Char), lexString.go fuel acc s = some (t, r) →
    ∃ m, t = acc ++ m ∧ strTextOk m = true ∧ s = m ++ '"' :: r := by
  induction fuel with
  | zero => intro acc s t r h; cases h
  | succ f ih =>
    intro acc s t r h
    match s, h with
    | [], h => cases h
    | c :: rest, h =>
      by_cases hq : c = '"'
      · subst hq
        obtain ⟨rfl, rfl⟩ := Prod.mk.inj (Option.some.inj h)
        exact ⟨[], (List.append_nil _).symm, rfl, rfl⟩
      by_cases hb : c = '\\'
      · subst hb
        match rest, h with
        | [], h => rw [lexString_go_bs_end f acc] at h; cases h
        | d :: rest2, h =>
          rw [lexString_go_bs f acc d rest2] at h
          obtain ⟨m, rfl, h2, rfl⟩ := ih _ _ _ _ h
          refine ⟨'\\' :: d :: m, by simp, ?_, rfl⟩
          by_cases hd : d = '"'
          · subst hd; exact h2
          · exact strTextOk_cons hq (strTextOk_cons hd h2)
      · rw [lexString_go_plain f acc c rest hq hb] at h
        obtain ⟨m, rfl, h2, rfl⟩ := ih _ _ _ _ h
        exact ⟨c :: m, by simp, strTextOk_cons hq h2, rfl⟩

theorem tokenizeOne_tokOk (s : List Char) (pw : Bool) (t : Tok) (r : List Char) (h : tokenizeOne s pw = some (t, r)) :
    tokOk t = true := by
  unfold tokenizeOne at h
  split at h
  · cases h; rfl
  · split at h
    · cases h; rfl
    · split at h
      · rename_i chars r' hs
        cases h
        have hgo : strTextOk chars = true := by
          unfold lexString at hs
          split at hs
          · obtain ⟨m, h1, h2, -⟩ := lexString_go_ok _ _ _ _ _ hs
            simp only [List.nil_append] at h1
            subst h1; exact h2
          · cases hs
        simp [tokOk, String.toList_ofList, hgo]
      · split at h
        · cases h; rfl
        · split at h
          · cases h; rfl
          · split at h
            · cases h; rfl
            · cases h

theorem tokenize_go_tokOk (fuel : Nat) : ∀ (s : List Char) (pw : Bool) (acc : List Tok), (∀ t ∈ acc, tokOk t = true) →
    ∀ t ∈ tokenize.go fuel s pw acc, tokOk t = true := by
  induction fuel with
  | zero => intro s pw acc h; simpa [tokenize.go] using h
  | succ f ih =>
    intro s pw acc h
    simp only [tokenize.go]
    split
    · exact h
    · split
      · rename_i t rest ht
        apply ih
        intro x hx
        rcases List.mem_append.mp hx with hx | hx
        · exact h x hx
        · simp at hx; subst hx; exact tokenizeOne_tokOk _ _ _ _ ht
      · apply ih
        intro x hx
        rcases List.mem_append.mp hx with hx | hx
        · exact h x hx
        · simp at hx; subst hx; rfl

/-- **every token of `Lexer.tokenize` is in the class** -/
theorem tokenize_tokOk (text : String) : ∀ t ∈ tokenize text, tokOk t = true :=
  tokenize_go_tokOk _ _ _ _ (by simp)

/-! ## `MacroFunction.replace` on replacement lists with `#` and without `##`, against `Spec.Prosser.subst` -/
open CbiVerif.Spec.Prosser (subst pidx isP setWs stringize Unspec)

/-- forget the hide set -/
def er (t : T) : T := { t with hs := [] }

/-- tokens of a replacement list with `#` but without `##`: no token is spelled `##`; the spelling `#` belongs to an operator or
    punctuator token (finding D42 is the other case) -/
def hashBodyTok (t : Tok) : Bool := t.text != "##" && (t.text != "#" || kindOf t.kind == .punct)

theorem isP_hash (hs : List String) (t : Tok) (h : hashBodyTok t = true) : isP (toSpec hs t) "#" = (t.text == "#") := by
  rw [isP_toSpec_eq]
  cases hx : t.text == "#" with
  | false => exact Bool.and_false _
  | true =>
    simp only [hashBodyTok, bne, hx, Bool.not_true, Bool.false_or, Bool.and_eq_true] at h
    rw [h.2]; rfl

theorem isP_cat (hs : List String) (t : Tok) (h : hashBodyTok t = true) : isP (toSpec hs t) "##" = false :=
  isP_toSpec_ne hs t "##" (by simp only [hashBodyTok, Bool.and_eq_true, bne_iff_ne] at h; exact h.1)

theorem substArgs_append (params : List String) (ia : List Arg) : ∀ (a b : List (Tok × Bool)),
    substArgs params ia (a ++ b) =
      (match substArgs params ia a with
       | .ok ra => (match substArgs params ia b with | .ok rb => .ok (ra ++ rb) | .error x => .error x)
       | .error x => .error x) := by
  intro a b
  induction a with
  | nil => simp only [List.nil_append, substArgs]; cases substArgs params ia b <;> rfl
  | cons hd a ih =>
    obtain ⟨tk, f⟩ := hd
    simp only [List.cons_append, substArgs, ih]
    cases (if f = true then none else paramIdx params tk) with
    | none =>
      simp only []
      cases substArgs params ia a <;> simp only []
      cases substArgs params ia b <;> simp
    | some i =>
      simp only []
      cases ia[i]? with
      | none => rfl
      | some ar =>
        simp only []
        cases ar.exp with
        | none => rfl
        | some e =>
          simp only []
          cases substArgs params ia a <;> simp only []
          cases substArgs params ia b <;> simp

theorem substArgs_arg (params : List String) (ia : List Arg) (t : Tok) : substArgs params ia [(t, true)] = .ok [t] := rfl

theorem substArgs_tok (params : List String) (ia : List Arg) (tok : Tok) :
    substArgs params ia [(tok, false)] =
      match paramIdx params tok with
      | some i => (match ia[i]?.bind (·.exp) with | some e => .ok (fixpw e tok.pw) | none => .error .index)
      | none => .ok [tok] := by
  show (match paramIdx params tok with | some i => _ | none => _) = _
  cases paramIdx params tok with
  | none => rfl
  | some i =>
    dsimp only
    cases ia[i]? with
    | none => rfl
    | some a =>
      dsimp only [Option.bind_some]
      cases a.exp with
      | none => rfl
      | some e => exact congrArg Except.ok (List.append_nil _)

theorem substArgs_append_ok (params : List String) (ia : List Arg) (a b : List (Tok × Bool)) (r : List Tok)
    (h : substArgs params ia (a ++ b) = .ok r) :
    ∃ ra rb, substArgs params ia a = .ok ra ∧ substArgs params ia b = .ok rb ∧ r = ra ++ rb := by
  rw [substArgs_append] at h
  cases h1 : substArgs params ia a with
  | error e => simp [h1] at h
  | ok r0 =>
    cases h2 : substArgs params ia b with
    | error e => simp [h1, h2] at h
    | ok y => simp [h1, h2] at h; exact ⟨r0, y, rfl, rfl, h.symm⟩

theorem setWs_fixpw (eS : List T) (e : List Tok) (w : Bool) (h : eS.map er = e.map (toSpec [])) :
    (setWs eS w).map er = (fixpw e w).map (toSpec []) := by
  cases eS <;> cases e <;> simp_all [setWs, fixpw, er, toSpec]
  rfl

theorem args_getD (ia : List Arg) (args : List (List T)) (hargs : args = ia.map (fun a => a.raw.map (toSpec [])))
    (i : Nat) (a : Arg) (ha : ia[i]? = some a) : args.getD i [] = a.raw.map (toSpec []) := by
  subst hargs
  simp [List.getD, List.getElem?_map, ha]

/-! ### one step of the `#` pass at a token of a replacement list without `##` (by unfolding: `strcatPass` is large, and so are
    its equation lemmas) -/
theorem strcatPass_nil (params : List String) (ia : List Arg) (f : Nat) (res : List (Tok × Bool)) (lc pm pmw : Bool) :
    strcatPass params ia (f + 1) [] res lc pm pmw = .ok res := rfl

theorem strcatPass_tok (params : List String) (ia : List Arg) (f : Nat) (tok : Tok) (rest : List Tok) (res : List (Tok × Bool))
    (lc pm pmw : Bool) (h2 : (tok.text == "##") = false) (h1 : (tok.text == "#") = false) :
    strcatPass params ia (f + 1) (tok :: rest) res lc pm pmw
      = strcatPass params ia f rest (res ++ [(tok, false)]) false false pmw := by
  show (if (tok.text == "##") = true then _ else if (tok.text == "#") = true then _ else _) = _
  rw [if_neg (by rw [h2]; exact Bool.false_ne_true), if_neg (by rw [h1]; exact Bool.false_ne_true)]

theorem strcatPass_hash (params : List String) (ia : List Arg) (f : Nat) (tok nx : Tok) (rest : List Tok) (res : List (Tok × Bool))
    (lc pm pmw : Bool) (h2 : (tok.text == "##") = false) (h1 : (tok.text == "#") = true) :
    strcatPass params ia (f + 1) (tok :: nx :: rest) res lc pm pmw =
      match paramIdx params nx with
      | none => .error (.parse "# not followed by argument")
      | some i =>
        match ia[i]? with
        | none => .error .index
        | some a =>
          match stringify a.raw with
          | none => .error .type_
          | some t => strcatPass params ia f rest (res ++ [({ t with pw := tok.pw }, true)]) true false pmw := by
  show (if (tok.text == "##") = true then _ else if (tok.text == "#") = true then _ else _) = _
  rw [if_neg (by rw [h2]; exact Bool.false_ne_true), if_pos h1]
  rfl

theorem strcatPass_hash_end (params : List String) (ia : List Arg) (f : Nat) (tok : Tok) (res : List (Tok × Bool))
    (lc pm pmw : Bool) (h2 : (tok.text == "##") = false) (h1 : (tok.text == "#") = true) :
    strcatPass params ia (f + 1) [tok] res lc pm pmw = .error (.parse "# at end") := by
  show (if (tok.text == "##") = true then _ else if (tok.text == "#") = true then _ else _) = _
  rw [if_neg (by rw [h2]; exact Bool.false_ne_true), if_pos h1]

theorem head_not_cat (rest : List Tok) (h : ∀ t ∈ rest, hashBodyTok t = true) :
    (((rest.map (toSpec [])).head?.map (isP · "##")).getD false) = false := by
  cases rest with
  | nil => rfl
  | cons n _ => exact isP_cat [] n (h n (List.mem_cons_self ..))

/-- what `MacroFunction.replace` needs to return at all on a replacement list without `##`: every `#` is followed by a parameter
    (C11 6.10.3.2p1, a constraint), every parameter has its argument, and a parameter used outside `#` comes with its
    pre-expansion (the expander provides it: `arg_needs_expansion`) -/
def replaceReady (params : List String) (ia : List Arg) : Nat → List Tok → Bool
  | 0, _ => true
  | _ + 1, [] => true
  | n + 1, t :: rest =>
    if t.text == "#" then
      match rest with
      | p :: r2 => (match paramIdx params p with | some i => ia[i]?.isSome | none => false) && replaceReady params ia n r2
      | [] => false
    else
      (match paramIdx params t with | some i => (ia[i]?.bind (·.exp)).isSome | none => true) && replaceReady params ia n rest

/-- the specification's "complete macro expansion" `ex` gives, on every argument handed over with a pre-expansion, the tokens of
    that pre-expansion (kinds, spellings, white space) -/
def PreExpOk (ex : List T → Except Unspec (List T)) (ia : List Arg) : Prop :=
  ∀ a ∈ ia, ∀ e, a.exp = some e → ∃ eS, ex (a.raw.map (toSpec [])) = .ok eS ∧ eS.map er = e.map (toSpec [])

/-- **`replace` against `subst`, replacement lists with `#` and without `##`**, for any accumulators, along one successful run of the
    specification's single pass: if the arguments are ready (`replaceReady` counts its fuel down as the `#` pass does), the `#`
    pass of `MacroFunction.replace` returns and its substitution loop returns on what that pass appended; and whatever the `#`
    pass returns, it has appended `add` where the specification appended `ob`, and, where `ex` agrees with the pre-expansions,
    what the substitution loop makes of `add` is `ob` token by token (kinds, spellings, white-space flags; hide sets are
    assigned by the caller) -/
theorem hash_aux (ex : List T → Except Unspec (List T)) (params : List String) (ia : List Arg) (args : List (List T))
    (hargs : args = ia.map (fun a => a.raw.map (toSpec [])))
    (hstr : ∀ (i : Nat) (a : Arg) (st : T), ia[i]? = some a → stringize (a.raw.map (toSpec [])) = .ok st →
      ∃ t, stringify a.raw = some t ∧ toSpec [] t = st)
    (fuel : Nat) : ∀ (body : List Tok) (res : List (Tok × Bool)) (lc pmw : Bool) (os : List T) (fuelS : Nat) (out : List T),
    (∀ t ∈ body, hashBodyTok t = true) → body.length < fuel → body.length < fuelS →
    subst ex (some params) args fuelS (body.map (toSpec [])) os false = .ok out →
    (replaceReady params ia fuel body = true →
      ∃ add rb, strcatPass params ia fuel body res lc false pmw = .ok (res ++ add) ∧ substArgs params ia add = .ok rb) ∧
    (∀ res', strcatPass params ia fuel body res lc false pmw = .ok res' →
      ∃ add ob, res' = res ++ add ∧ out = os ++ ob ∧
        (PreExpOk ex ia → ∀ rb, substArgs params ia add = .ok rb → ob.map er = rb.map (toSpec []))) := by
  induction fuel with
  | zero => intro body res lc pmw os fuelS out _ h; cases h
  | succ f ih =>
    intro body res lc pmw os fuelS out hb hl hlS hs
    obtain ⟨g, rfl⟩ : ∃ g, fuelS = g + 1 := ⟨fuelS - 1, by omega⟩
    cases body with
    | nil =>
      rw [List.map_nil, subst_nil] at hs
      cases hs
      refine ⟨fun _ => ⟨[], [], by rw [strcatPass_nil, List.append_nil], rfl⟩, fun res' hm => ?_⟩
      rw [strcatPass_nil] at hm
      cases hm
      exact ⟨[], [], (List.append_nil _).symm, (List.append_nil _).symm, fun _ rb h => by cases h; rfl⟩
    | cons tok rest =>
      have htok := hb tok (List.mem_cons_self ..)
      have hrest : ∀ t ∈ rest, hashBodyTok t = true := fun t ht => hb t (List.mem_cons_of_mem _ ht)
      have h2 : (tok.text == "##") = false := by
        simp only [hashBodyTok, Bool.and_eq_true, bne_iff_ne] at htok; exact beq_false_of_ne htok.1
      -- both passes go on behind this item (`rest'`) having appended `x` (which the substitution loop turns into `y`) and `oS`
      have step : ∀ (x : Tok × Bool) (oS : List T) (rest' : List Tok) (lc' : Bool), (∀ t ∈ rest', hashBodyTok t = true) →
          rest'.length < f → rest'.length < g →
          subst ex (some params) args g (rest'.map (toSpec [])) (os ++ oS) false = .ok out →
          (PreExpOk ex ia → ∀ y, substArgs params ia [x] = .ok y → oS.map er = y.map (toSpec [])) →
          (replaceReady params ia f rest' = true → (∃ y, substArgs params ia [x] = .ok y) →
            ∃ add rb, strcatPass params ia f rest' (res ++ [x]) lc' false pmw = .ok (res ++ add) ∧
              substArgs params ia add = .ok rb) ∧
          (∀ res', strcatPass params ia f rest' (res ++ [x]) lc' false pmw = .ok res' →
            ∃ add ob, res' = res ++ add ∧ out = os ++ ob ∧
              (PreExpOk ex ia → ∀ rb, substArgs params ia add = .ok rb → ob.map er = rb.map (toSpec []))) := by
        intro x oS rest' lc' hr' hf hg hs' hy
        obtain ⟨i1, i2⟩ := ih rest' (res ++ [x]) lc' pmw _ g out hr' hf hg hs'
        refine ⟨fun hrr ⟨y, hxy⟩ => ?_, fun res' hm' => ?_⟩
        · obtain ⟨add', rb', hx1, hx2⟩ := i1 hrr
          refine ⟨x :: add', y ++ rb', by rw [hx1, List.append_assoc]; rfl, ?_⟩
          rw [show x :: add' = [x] ++ add' from rfl, substArgs_append, hxy, hx2]
        · obtain ⟨add', ob', hx1, hx2, hx3⟩ := i2 res' hm'
          refine ⟨x :: add', oS ++ ob', by rw [hx1, List.append_assoc]; rfl, by rw [hx2, List.append_assoc],
            fun hex rb hrb => ?_⟩
          obtain ⟨y, rb', hy1, hy2, rfl⟩ := substArgs_append_ok params ia [x] add' rb hrb
          rw [List.map_append, List.map_append, hx3 hex _ hy2, hy hex _ hy1]
      rw [List.map_cons] at hs
      by_cases h1 : (tok.text == "#") = true
      · cases rest with
        | nil =>
          exact ⟨fun hr => by simp [replaceReady, h1] at hr,
            fun res' hm => by rw [strcatPass_hash_end _ _ _ _ _ _ _ _ h2 h1] at hm; cases hm⟩
        | cons nx rest2 =>
          cases hp : paramIdx params nx with
          | none =>
            exact ⟨fun hr => by simp [replaceReady, h1, hp] at hr,
              fun res' hm => by simp [strcatPass_hash _ _ _ _ _ _ _ _ _ _ h2 h1, hp] at hm⟩
          | some i =>
            cases ha : ia[i]? with
            | none =>
              exact ⟨fun hr => by simp [replaceReady, h1, hp, ha] at hr,
                fun res' hm => by simp [strcatPass_hash _ _ _ _ _ _ _ _ _ _ h2 h1, hp, ha] at hm⟩
            | some a =>
              rw [List.map_cons, subst_hash _ _ _ _ _ _ _ _ _ i ((isP_hash [] tok htok).trans h1) ((pidx_toSpec [] params nx).trans hp),
                args_getD ia args hargs i a ha] at hs
              split at hs
              · rename_i st hz
                obtain ⟨t, ht, rfl⟩ := hstr i a st ha hz
                rw [strcatPass_hash _ _ _ _ _ _ _ _ _ _ h2 h1]
                simp only [hp, ha, ht]
                obtain ⟨s1, s2⟩ := step ({ t with pw := tok.pw }, true) _ rest2 true (fun t ht => hrest t (List.mem_cons_of_mem _ ht))
                  (by simp at hl ⊢; omega) (by simp at hlS ⊢; omega) hs fun _ y hy => by
                    cases (substArgs_arg params ia _).symm.trans hy
                    rfl
                refine ⟨fun hr => ?_, s2⟩
                simp only [replaceReady, h1, if_true, Bool.and_eq_true] at hr
                exact s1 hr.2 ⟨_, rfl⟩
              · cases hs
      · have h1' : (tok.text == "#") = false := Bool.eq_false_iff.mpr h1
        rw [strcatPass_tok _ _ _ _ _ _ _ _ _ h2 h1']
        rw [subst_tok _ _ _ _ _ _ _ _ ((isP_hash [] tok htok).trans h1') (isP_cat [] tok htok) (head_not_cat rest hrest),
          pidx_toSpec] at hs
        have hf : rest.length < f := Nat.lt_of_succ_lt_succ hl
        have hg : rest.length < g := Nat.lt_of_succ_lt_succ hlS
        have ready : replaceReady params ia (f + 1) (tok :: rest) = true → replaceReady params ia f rest = true ∧
            (match paramIdx params tok with | some i => (ia[i]?.bind (·.exp)).isSome | none => true) = true := fun hr => by
          simp only [replaceReady, h1', Bool.false_eq_true, if_false, Bool.and_eq_true] at hr
          exact hr.symm
        cases hp : paramIdx params tok with
        | none =>
          rw [hp] at hs
          obtain ⟨s1, s2⟩ := step (tok, false) _ rest false hrest hf hg hs fun _ y hy => by
            rw [substArgs_tok, hp] at hy
            cases hy
            rfl
          exact ⟨fun hr => s1 (ready hr).1 ⟨[tok], by rw [substArgs_tok, hp]⟩, s2⟩
        | some i =>
          simp only [hp] at hs
          split at hs
          · rename_i eS hxe
            obtain ⟨s1, s2⟩ := step (tok, false) _ rest false hrest hf hg hs fun hex y hy => by
              rw [substArgs_tok] at hy
              simp only [hp] at hy
              split at hy
              · rename_i e he
                obtain ⟨a, ha, hae⟩ := Option.bind_eq_some_iff.mp he
                obtain ⟨eS2, he1, he2⟩ := hex a (List.mem_of_getElem? ha) e hae
                rw [args_getD ia args hargs i a ha, he1] at hxe
                cases hxe
                cases hy
                exact setWs_fixpw eS e tok.pw he2
              · cases hy
            refine ⟨fun hr => ?_, s2⟩
            obtain ⟨hr2, hr1⟩ := ready hr
            rw [hp] at hr1
            obtain ⟨e, he⟩ := Option.isSome_iff_exists.mp hr1
            exact s1 hr2 ⟨fixpw e tok.pw, by rw [substArgs_tok]; simp only [hp, he]⟩
          · cases hs

end CbiVerif.MX.StrSpec
