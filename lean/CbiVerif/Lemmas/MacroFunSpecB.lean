import CbiVerif.Lemmas.MacroFunSpecA
/-! # C03 against the specification, part B: the expansion inside the conformance fragment, and `Spec.Prosser.expand` computes it

`Expands tbl L D ts res c` is the expansion of `ts` (names `D` disabled) to `res`, as a relation with one rule for each thing that can
stand at the head of a list (`headOf`), restricted to what the standard determines:

* every call has exactly as many arguments as the macro has parameters (the specification rejects anything else, 6.10.3 p.4);
* the arguments of every call hold no macro name (`Inert`) and are at most `L` tokens long (the specification expands an argument
  with the fuel that is left, so `L` is what must be left at the end).

The first condition is forced by the standard.  The second is what keeps all tokens of a list under one hide set: without it
the reference `Ref` and Prosser's algorithm really differ (`C03.ref_vs_prosser_witness`: a function-like name left over by the
expansion of an argument carries the hide set of that expansion when it is finally called; gcc decides like `Ref` there — C11
6.10.3.4 p.4 leaves the nesting unspecified).

`expands_spec`, by induction on the relation, is the one comparison with the specification: its loop, started on the image of `ts`
under a hide set that agrees with `D`, emits the spellings of `res` (`SpecRuns` says what that means and how such runs compose).
The references compute the relation: `Ref` where the decidable conditions `fitsb` (`Lemmas/MacroFunRef.lean`) and `confb`
(`Lemmas/MacroFunSimple.lean`) hold (`ref_expands`, one level of scanning at a time: `scan_expands`; hence `ref_spec`), `E` on
object-like tables (`E_expands`, `Lemmas/MacroFunSpecC.lean`). -/
namespace CbiVerif.MX
open CbiVerif.PP
open CbiVerif.Spec.Prosser (T K Macros Unspec)

/-- tables of the comparison: macros keyed by their own name, replacement lists of comparable tokens -/
structure ConfTbl (tbl : Table) : Prop where
  named : ∀ n m, tbl.get n = some m → m.name = n
  toks : ∀ n m, tbl.get n = some m → ∀ t ∈ m.replacement, CTok tbl t

def confTblb (tbl : Table) : Bool :=
  tbl.all (fun e => e.2.name == e.1) && tbl.all (fun e => e.2.replacement.all (ctokb tbl))

theorem confTbl_of_check (tbl : Table) (h : confTblb tbl = true) : ConfTbl tbl := by
  simp only [confTblb, Bool.and_eq_true] at h
  exact ⟨fun n m hm => by simpa using all_get h.1 hm,
    fun n m hm t ht => ctok_of_check tbl t (List.all_eq_true.mp (all_get h.2 hm) t ht)⟩

theorem ConfTbl.stbl {tbl : Table} (h : ConfTbl tbl) : STbl tbl :=
  ⟨h.named, fun n m hm t ht => ⟨(h.toks n m hm t ht).stok, (h.toks n m hm t ht).nocat, fun _ => (h.toks n m hm t ht).nohash⟩⟩

/-- **the expansion inside the fragment in which the standard determines it**, as a relation: `ts` with the names `D` disabled
    expands to `res`.  The arguments of a call hold no macro name, so their own expansion only paints them (`pmark`); `c` counts
    the iterations of the specification's loop. -/
inductive Expands (tbl : Table) (L : Nat) : NoExp → List Tok → List Tok → Nat → Prop
  | nil (D : NoExp) : Expands tbl L D [] [] 0
  | stay {D : NoExp} {a a' : Tok} {as r : List Tok} {c : Nat} : headOf tbl D a as = .stay a' true → Expands tbl L D as r c →
      Expands tbl L D (a :: as) (a' :: r) (c + 1)
  | obj {D : NoExp} {a : Tok} {as r1 r2 : List Tok} {m : Macro} {c1 c2 : Nat} : headOf tbl D a as = .obj m →
      Expands tbl L (some m.name :: D) (fixpw m.replacement a.pw) r1 c1 → Expands tbl L D as r2 c2 →
      Expands tbl L D (a :: as) (r1 ++ r2) (c1 + c2 + 1)
  | call {D : NoExp} {a : Tok} {as rest r1 r2 : List Tok} {m : Macro} {ps : List String} {args : List (List Tok)} {c1 c2 : Nat} :
      headOf tbl D a as = .call m ps args rest → arityOk ps args = true → (∀ x ∈ args, x.length ≤ L ∧ ∀ t ∈ x, Inert tbl t) →
      Expands tbl L (some m.name :: D) (fixpw (substRef ps (args.map (·.map (pmark (none :: D)))) m.replacement) a.pw) r1 c1 →
      Expands tbl L D rest r2 c2 → Expands tbl L D (a :: as) (r1 ++ r2) (c1 + c2 + 1)

/-- the specification's loop, started on `ts` followed by anything, consumes `ts` in `c` iterations and appends tokens spelled like
    `res` to its output; fuel above `L` is what must be left (the specification expands arguments with it) -/
def SpecRuns (ms : Macros) (L : Nat) (ts : List T) (c : Nat) (res : List Tok) : Prop :=
  ∃ R : List T, R.map (·.text) = res.map spellTok ∧
    ∀ (f : Nat) (top : Bool) (rest out : List T), L < f →
      Spec.Prosser.expand ms (f + c) top (ts ++ rest) out = Spec.Prosser.expand ms f top rest (out ++ R)

theorem SpecRuns.nil (ms : Macros) (L : Nat) : SpecRuns ms L [] 0 [] :=
  ⟨[], rfl, fun f top rest out _ => by rw [List.append_nil]; rfl⟩

theorem SpecRuns.append {ms : Macros} {L : Nat} {ts1 ts2 : List T} {c1 c2 : Nat} {r1 r2 : List Tok}
    (h1 : SpecRuns ms L ts1 c1 r1) (h2 : SpecRuns ms L ts2 c2 r2) : SpecRuns ms L (ts1 ++ ts2) (c1 + c2) (r1 ++ r2) := by
  obtain ⟨R1, hR1, hx1⟩ := h1
  obtain ⟨R2, hR2, hx2⟩ := h2
  refine ⟨R1 ++ R2, by rw [List.map_append, List.map_append, hR1, hR2], fun f top rest out hL => ?_⟩
  rw [show f + (c1 + c2) = f + c2 + c1 by omega, List.append_assoc, hx1 (f + c2) top _ out (by omega), hx2 f top rest _ hL,
    List.append_assoc]

/-- an iteration that puts `body` in the place of `t` and the tokens up to `tl'`: then the runs on `body` and on `tl'` -/
theorem SpecRuns.step {ms : Macros} {L : Nat} {t : T} {tl body tl' : List T} {c1 c2 : Nat} {r1 r2 : List Tok}
    (hstep : ∀ (f : Nat) (top : Bool) (rest out : List T), L < f →
      Spec.Prosser.expand ms (f + 1) top (t :: (tl ++ rest)) out = Spec.Prosser.expand ms f top (body ++ (tl' ++ rest)) out)
    (h1 : SpecRuns ms L body c1 r1) (h2 : SpecRuns ms L tl' c2 r2) : SpecRuns ms L (t :: tl) (c1 + c2 + 1) (r1 ++ r2) := by
  obtain ⟨R, hR, hx⟩ := h1.append h2
  refine ⟨R, hR, fun f top rest out hL => ?_⟩
  rw [← Nat.add_assoc, List.cons_append, hstep (f + (c1 + c2)) top rest out (by omega), ← List.append_assoc, hx f top rest out hL]

theorem SpecRuns.copy {ms : Macros} {L : Nat} {t : T} {tl : List T} {c : Nat} {a' : Tok} {r : List Tok} (ht : t.text = spellTok a')
    (hstep : ∀ (f : Nat) (top : Bool) (rest out : List T),
      Spec.Prosser.expand ms (f + 1) top (t :: (tl ++ rest)) out = Spec.Prosser.expand ms f top (tl ++ rest) (out ++ [t]))
    (h : SpecRuns ms L tl c r) : SpecRuns ms L (t :: tl) (c + 1) (a' :: r) := by
  obtain ⟨R, hR, hx⟩ := h
  refine ⟨t :: R, by rw [List.map_cons, List.map_cons, hR, ht], fun f top rest out hL => ?_⟩
  rw [← Nat.add_assoc, List.cons_append, hstep, hx f top rest _ hL, List.append_assoc]; rfl

theorem SpecRuns.top {ms : Macros} {L c : Nat} {ts : List T} {res : List Tok} (h : SpecRuns ms L ts c res)
    (hfuel : c + L < CbiVerif.Spec.Prosser.defaultFuel) :
    ∃ out, CbiVerif.Spec.Prosser.prosserToks ms ts = .ok out ∧ out.map (·.text) = res.map spellTok := by
  obtain ⟨R, hR, hx⟩ := h
  refine ⟨R, ?_, hR⟩
  obtain ⟨g, hg, hgL⟩ : ∃ g, CbiVerif.Spec.Prosser.defaultFuel = (g + 1) + c ∧ L < g + 1 :=
    ⟨CbiVerif.Spec.Prosser.defaultFuel - c - 1, by omega, by omega⟩
  have := hx (g + 1) true [] [] hgL
  simp only [List.append_nil, List.nil_append] at this
  unfold CbiVerif.Spec.Prosser.prosserToks
  rw [hg, this]
  simp [Spec.Prosser.expand]

/-! ## one iteration of the specification's loop for each rule of `Expands`, on the images of model tokens -/
/-- what the specification's tests give at the name `a` of an enabled macro `m` -/
theorem spec_name {ms : Macros} {tbl : Table} (hms : SpecOf ms tbl) {hs : List String} {D : NoExp} (hag : Agree D hs) {a : Tok} {m : Macro}
    (hca : STok tbl a) (hk : (a.kind != TKind.ident) = false) (hq : (!a.expandable || D.contains (some a.text)) = false)
    (hm : tbl.get a.text = some m) :
    (toSpec hs a).text = a.text ∧ Spec.Prosser.isDefinedTok (toSpec hs a) = false ∧
      ((toSpec hs a).kind != K.id || (toSpec hs a).hs.contains (toSpec hs a).text) = false ∧
      Macros.get ms (toSpec hs a).text = some (specMacro a.text m) := by
  have hki : a.kind = .ident := by simpa using hk
  have hsp : (toSpec hs a).text = a.text := spellTok_ident a hki
  exact ⟨hsp, isDef_toSpec hs a hca.nodef, by rw [copyTest_toSpec, hk, ← hag, (Bool.or_eq_false_iff.mp hq).2]; rfl,
    by rw [hsp, hms, hm]; rfl⟩

theorem spec_stay {ms : Macros} {tbl : Table} (hms : SpecOf ms tbl) (hs : List String) (D : NoExp) (hag : Agree D hs) (a a' : Tok)
    (as : List Tok) (hca : STok tbl a) (hct : ∀ t ∈ as, STok tbl t) (hh : headOf tbl D a as = .stay a' true)
    (f : Nat) (top : Bool) (rest out : List T) :
    Spec.Prosser.expand ms (f + 1) top (toSpec hs a :: (as.map (toSpec hs) ++ rest)) out
      = Spec.Prosser.expand ms f top (as.map (toSpec hs) ++ rest) (out ++ [toSpec hs a]) := by
  obtain ⟨hk', -⟩ | ⟨hki, ⟨hq, -⟩ | ⟨hq, -, hm | ⟨m, ps, x, xs, hm, ha, rfl, hx⟩⟩⟩ := headOf_stay hh
  · exact spec_keep hms hs a hca.nodef (fun hk => absurd hk hk') ..
  · -- painted earlier (its name is not in the hide set): not the name of a macro
    exact spec_keep hms hs a hca.nodef (fun hk hn => hca.live.resolve_left (fun h => by rw [h, hag, hn] at hq; cases hq) hk) ..
  · exact spec_keep hms hs a hca.nodef (fun _ _ => hm) ..
  · -- the name of a function-like macro, and what follows is no opening parenthesis
    obtain ⟨-, hdef, hcond, hget⟩ := spec_name hms hag hca (by rw [hki]; rfl) hq hm
    exact step_bare _ _ _ _ _ _ _ _ ps hdef hcond hget ha (by
      rw [isP_paren hs x ((hct x (List.mem_cons_self ..)).paren _ m hm (by rw [ha]; exact Option.some_ne_none _)) "(" (Or.inl rfl)]
      simpa using hx)

theorem spec_obj {ms : Macros} {tbl : Table} (hms : SpecOf ms tbl) (hT : STbl tbl) {hs : List String} {D : NoExp} (hag : Agree D hs)
    {a : Tok} {as : List Tok} {m : Macro} (hca : STok tbl a) (hh : headOf tbl D a as = .obj m)
    (f : Nat) (top : Bool) (ts out : List T) :
    Spec.Prosser.expand ms (f + 1) top (toSpec hs a :: ts) out
      = Spec.Prosser.expand ms f top ((fixpw m.replacement a.pw).map (toSpec (Spec.Prosser.union hs [a.text])) ++ ts) out := by
  obtain ⟨hk, hq, hm, hargs⟩ := headOf_obj hh
  obtain ⟨hsp, hdef, hcond, hget⟩ := spec_name hms hag hca hk hq hm
  have h5 : ∀ x ∈ m.replacement.map (toSpec []), Spec.Prosser.isP x "##" = false := by
    intro x hx
    obtain ⟨y, hy, rfl⟩ := List.mem_map.mp hx
    exact isP_toSpec_ne [] y "##" (hT.toks _ _ hm y hy).2.1
  rw [step_macro _ _ _ _ _ _ (specMacro a.text m) hdef hcond hget hargs h5, show (specMacro a.text m).body = m.replacement.map (toSpec []) from rfl,
    show (toSpec hs a).hs = hs from rfl, hsp, show (toSpec hs a).ws = a.pw from rfl, map_hs_toSpec, union_nil_left, setWs_map_toSpec]

theorem getD_map_map {α β : Type} (f : α → β) (l : List (List α)) (i : Nat) : (l.map (·.map f)).getD i [] = (l.getD i []).map f := by
  rw [List.getD_eq_getElem?_getD, List.getD_eq_getElem?_getD, List.getElem?_map]
  cases l[i]? <;> rfl

theorem paramIdx_nil (tok : Tok) : paramIdx [] tok = none := by
  simp [paramIdx, List.idxOf?]

theorem bind_ok (sm : Spec.Prosser.Macro) (ps : List String) (c : Spec.Prosser.Call) (hs : List String) (args : List (List Tok))
    (hpar : sm.params = some ps) (hv : sm.variadic = false) (hc : c.args = args.map (·.map (toSpec hs)))
    (har : arityOk ps args = true) :
    ∃ A, Spec.Prosser.bindArgs sm c = .ok A ∧ ∀ i, A.getD i [] = (args.getD i []).map (toSpec hs) := by
  simp only [arityOk, Bool.or_eq_true, Bool.and_eq_true, decide_eq_true_eq, List.isEmpty_iff] at har
  by_cases h0 : ps = [] ∧ args.length = 1 ∧ args.headD [] = []
  · -- `F()`: the one empty argument stands for none
    obtain ⟨rfl, h1, h2⟩ := h0
    obtain ⟨x, rfl⟩ := List.length_eq_one_iff.mp h1
    obtain rfl : x = [] := h2
    exact ⟨[], by simp [Spec.Prosser.bindArgs, hpar, hv, hc], fun i => by cases i <;> rfl⟩
  · have hl : c.args.length = ps.length := by
      rw [hc, List.length_map]
      exact har.resolve_left fun h => h0 ⟨h.1.1, h.1.2, h.2⟩
    refine ⟨c.args, ?_, fun i => by rw [hc]; exact getD_map_map _ args i⟩
    simp only [Spec.Prosser.bindArgs, hpar, hv, Bool.false_eq_true, if_false, Option.getD_some, hl]
    by_cases hz : ps.length = 0
    · have : ¬ (ps.length = 1) := by omega
      simp [hz]
    · simp [hz]

/-- what `splitArgs` returns is made of the tokens it was given -/
theorem splitArgs_all (P : Tok → Prop) (r : List Tok) (args : List (List Tok)) (cur : List Tok) (depth : Nat)
    (args' : List (List Tok)) (rest : List Tok) (h : splitArgs r args cur depth = some (args', rest)) :
    (∀ x ∈ args, ∀ t ∈ x, P t) → (∀ t ∈ cur, P t) → (∀ t ∈ r, P t) → (∀ x ∈ args', ∀ t ∈ x, P t) ∧ (∀ t ∈ rest, P t) := by
  have snoc : ∀ {α} {Q : α → Prop} {l : List α} {x : α}, (∀ y ∈ l, Q y) → Q x → ∀ y ∈ l ++ [x], Q y := fun hl hx y hy => by
    rcases List.mem_append.mp hy with h | h
    · exact hl y h
    · rw [List.mem_singleton.mp h]; exact hx
  exact splitArgs_rec
    (P := fun r args cur => (∀ x ∈ args, ∀ t ∈ x, P t) → (∀ t ∈ cur, P t) → (∀ t ∈ r, P t) → (∀ x ∈ args', ∀ t ∈ x, P t) ∧ (∀ t ∈ rest, P t))
    (fun _ _ _ _ ih ha hc hr => ih (snoc ha hc) (fun _ h => nomatch h) fun t ht => hr t (List.mem_cons_of_mem _ ht))
    (fun _ _ _ _ ih ha hc hr => ih ha (snoc hc (hr _ (List.mem_cons_self ..))) fun t ht => hr t (List.mem_cons_of_mem _ ht))
    (fun _ _ _ e ha hc hr => ⟨by rw [e]; exact snoc ha hc, fun t ht => hr t (List.mem_cons_of_mem _ ht)⟩) r args cur depth h

section call
variable {tbl : Table} {L : Nat} {D : NoExp} {a : Tok} {as rest' : List Tok} {m : Macro} {ps : List String} {args : List (List Tok)}
  (hh : headOf tbl D a as = .call m ps args rest') (hargs : ∀ x ∈ args, x.length ≤ L ∧ ∀ t ∈ x, Inert tbl t)
include hh hargs

/-- the token class goes through a call -/
theorem call_toks (hT : STbl tbl) (hct : ∀ t ∈ as, STok tbl t) :
    (∀ t ∈ rest', STok tbl t) ∧ ∀ t ∈ fixpw (substRef ps (args.map (·.map (pmark (none :: D)))) m.replacement) a.pw, STok tbl t := by
  obtain ⟨_, _, hm, _, hcall⟩ := headOf_call hh
  obtain ⟨lp, r, rfl, -, hsplit⟩ := callOf_some hcall
  obtain ⟨hargC, hrest⟩ := splitArgs_all (STok tbl) r [] [] 1 args rest' hsplit (fun _ h => nomatch h) (fun _ h => nomatch h)
    fun t ht => hct t (List.mem_cons_of_mem _ ht)
  exact ⟨hrest, all_call_body (STok tbl) (fun _ w h => h.pw w) _ ps args _ _ (fun t ht => (hT.toks _ _ hm t ht).1)
    fun x hx y hy => ⟨hargC x hx y hy, (hargC x hx y hy).paint ((hargs x hx).2 y hy)⟩⟩

theorem spec_call {ms : Macros} (hms : SpecOf ms tbl) (hT : STbl tbl) {hs : List String} (hag : Agree D hs)
    (hct : ∀ t ∈ a :: as, STok tbl t) (har : arityOk ps args = true) (f : Nat) (hL : L < f) (top : Bool) (rest out : List T) :
    Spec.Prosser.expand ms (f + 1) top ((a :: as).map (toSpec hs) ++ rest) out
      = Spec.Prosser.expand ms f top
          ((fixpw (substRef ps (args.map (·.map (pmark (none :: D)))) m.replacement) a.pw).map (toSpec (Spec.Prosser.union hs [a.text]))
            ++ (rest'.map (toSpec hs) ++ rest)) out := by
  obtain ⟨hk, hq, hm, hps, hcall⟩ := headOf_call hh
  obtain ⟨hsp, hdef, hcond, hget⟩ := spec_name hms hag (hct a (List.mem_cons_self ..)) hk hq hm
  have hbp := hT.toks _ _ hm
  have hfun : m.args ≠ none := by rw [hps]; exact Option.some_ne_none _
  obtain ⟨lp, r, rfl, hlp, hsplit⟩ := callOf_some hcall
  have hpar : ∀ t ∈ lp :: r, ParenOk t := fun t ht => (hct t (List.mem_cons_of_mem _ ht)).paren _ m hm hfun
  have hargI : ∀ x ∈ args, ∀ t ∈ x, Inert tbl t := fun x hx => (hargs x hx).2
  -- the specification collects the same arguments
  obtain ⟨commas', rp, hcol, hrp⟩ := collect_split hs r [] [] 1 args rest' hsplit Nat.one_ne_zero
    (fun t ht => hpar t (List.mem_cons_of_mem _ ht)) rest []
  have hpl : Spec.Prosser.isP (toSpec hs lp) "(" = true := by
    rw [isP_paren hs lp (hpar lp (List.mem_cons_self ..)) "(" (Or.inl rfl), hlp]; rfl
  have hnd : (args.map (·.map (toSpec hs))).any (·.any Spec.Prosser.isDefinedTok) = false := by
    simp only [List.any_map, List.any_eq_false, Function.comp_apply, Bool.not_eq_true]
    exact fun x hx t ht => isDef_toSpec hs t fun _ => (hargI x hx t ht).1
  obtain ⟨A, hbind, hA⟩ := bind_ok (specMacro a.text m) ps
    ⟨args.map (·.map (toSpec hs)), commas', rp, rest'.map (toSpec hs) ++ rest⟩ hs args hps rfl rfl har
  -- an argument is its own complete macro expansion
  have hex : ∀ i, Spec.Prosser.expand ms f false (A.getD i []) [] = .ok (A.getD i []) := by
    intro i
    rw [hA i]
    rcases getD_nil_or_mem args i with h0 | hmem
    · rw [h0]; exact spec_inert hms hs [] f false [] (Nat.zero_lt_of_lt hL) (fun _ h => nomatch h)
    · exact spec_inert hms hs _ f false [] (Nat.lt_of_le_of_lt (hargs _ hmem).1 hL) (hargI _ hmem)
  have hsub := subst_fun (fun a => Spec.Prosser.expand ms f false a []) ps A hex m.replacement
    (m.replacement.length + 1) [] false (fun t ht => ⟨(hbp t ht).2.2 hfun, (hbp t ht).2.1⟩) (Nat.lt_succ_self _)
  rw [List.map_cons, List.map_cons, List.cons_append, List.cons_append,
    step_call _ _ _ _ _ _ _ (specMacro a.text m) ps _ A _ hdef hcond hget hps hpl hcol hnd hbind
      (by dsimp only [specMacro]; rw [List.length_map]; exact hsub),
    List.nil_append, show (toSpec hs a).hs = hs from rfl, hsp, show (toSpec hs a).ws = a.pw from rfl, hrp, inter_self,
    specSubst_map ps A (args.map (·.map (pmark (none :: D)))) (Spec.Prosser.union hs [a.text])
      (fun i => by rw [hA i, map_hs_toSpec, union_union_self, getD_map_map, map_toSpec_pmark]) m.replacement,
    setWs_map_toSpec]

end call

/-- **inside the fragment the specification computes the relation**.  The invariant: the whole list stands under one hide set, and
    that hide set agrees with the disabled names. -/
theorem expands_spec {ms : Macros} {tbl : Table} (hms : SpecOf ms tbl) (hT : STbl tbl) {L : Nat} {D : NoExp} {ts res : List Tok} {c : Nat}
    (h : Expands tbl L D ts res c) :
    ∀ hs : List String, Agree D hs → (∀ t ∈ ts, STok tbl t) → SpecRuns ms L (ts.map (toSpec hs)) c res := by
  induction h with
  | nil D => exact fun _ _ _ => SpecRuns.nil ms L
  | @stay D a a' as r c hh _ ih =>
    intro hs hag hct
    have hct' : ∀ t ∈ as, STok tbl t := fun t ht => hct t (List.mem_cons_of_mem _ ht)
    -- `a'` is `a` or `paint a`: the same spelling
    exact SpecRuns.copy (by obtain ⟨-, rfl⟩ | ⟨-, ⟨-, rfl⟩ | ⟨-, rfl, -⟩⟩ := headOf_stay hh <;> rfl)
      (spec_stay hms hs D hag a a' as (hct a (List.mem_cons_self ..)) hct' hh) (ih hs hag hct')
  | @obj D a as r1 r2 m c1 c2 hh _ _ ih1 ih2 =>
    intro hs hag hct
    have hm := (headOf_obj hh).2.2.1
    exact SpecRuns.step (fun f top rest out _ => spec_obj hms hT hag (hct a (List.mem_cons_self ..)) hh f top _ out)
      (ih1 (Spec.Prosser.union hs [a.text]) (by rw [hT.named _ _ hm]; exact agree_step D hs a.text hag)
        (forall_mem_fixpw (STok tbl) (fun _ w h => h.pw w) _ _ fun t ht => (hT.toks _ _ hm t ht).1))
      (ih2 hs hag fun t ht => hct t (List.mem_cons_of_mem _ ht))
  | @call D a as rest' r1 r2 m ps args c1 c2 hh har hargs _ _ ih1 ih2 =>
    intro hs hag hct
    have hm := (headOf_call hh).2.2.1
    obtain ⟨hrest, hbody⟩ := call_toks hh hargs hT fun t ht => hct t (List.mem_cons_of_mem _ ht)
    exact SpecRuns.step (fun f top rest out hL => spec_call hh hargs hms hT hag hct har f hL top rest out)
      (ih1 (Spec.Prosser.union hs [a.text]) (by rw [hT.named _ _ hm]; exact agree_step D hs a.text hag) hbody) (ih2 hs hag hrest)

/-! ## the reference computes the relation -/
theorem inert_ref_spec (tbl : Table) (d : Nat) (D : NoExp) (a : List Tok) (h : ∀ t ∈ a, Inert tbl t) (hs : List String) :
    (Ref tbl d D a).map (toSpec hs) = a.map (toSpec hs) := by
  cases d with
  | zero => rfl
  | succ d => rw [(inert_ref tbl d D a h).2.2, map_toSpec_pmark]

/-- one level of scanning computes the relation where the level below does; what is needed of the level below besides is that it
    only paints a list without macro names, so that the arguments of a call appear as the rule `Expands.call` has them -/
theorem scan_expands (tbl : Table) (L : Nat) (ex : NoExp → List Tok → List Tok) (fit conf : NoExp → List Tok → Bool)
    (cost : NoExp → List Tok → Nat)
    (hex : ∀ D ts, fit D ts = true → conf D ts = true → ∃ c, c ≤ cost D ts ∧ Expands tbl L D ts (ex D ts) c)
    (hpaint : ∀ D ts, (∀ t ∈ ts, Inert tbl t) → fit D ts = true → ex D ts = ts.map (pmark D)) (D : NoExp) :
    ∀ (n : Nat) (ts : List Tok), scanFit tbl ex fit n D ts = true → scanConf tbl L ex conf n D ts = true →
      ∃ c, c ≤ scanCost tbl ex cost n D ts ∧ Expands tbl L D ts (scanRef tbl ex n D ts) c := by
  intro n
  induction n with
  | zero =>
    intro ts hf _
    obtain rfl : ts = [] := List.isEmpty_iff.mp hf
    exact ⟨0, Nat.le_refl _, .nil D⟩
  | succ n ih =>
    intro ts hf hcf
    cases ts with
    | nil => exact ⟨0, Nat.zero_le _, .nil D⟩
    | cons a as =>
      rw [scanFit_cons, Bool.and_eq_true] at hf
      replace hf := hf.2
      rw [scanConf_cons] at hcf
      rw [scanCost_cons, scanRef_cons]
      cases hh : headOf tbl D a as with
      | stay a' ok =>
        simp only [hh, Head.elim, Bool.and_eq_true] at hf hcf ⊢
        obtain ⟨rfl, hf⟩ := hf
        obtain ⟨c, hc, h⟩ := ih as hf hcf
        exact ⟨c + 1, by omega, .stay hh h⟩
      | obj m =>
        simp only [hh, Head.elim, Bool.and_eq_true] at hf hcf ⊢
        obtain ⟨c1, hc1, h1⟩ := hex _ _ hf.1 hcf.1
        obtain ⟨c2, hc2, h2⟩ := ih as hf.2 hcf.2
        exact ⟨c1 + c2 + 1, by omega, .obj hh h1 h2⟩
      | call m ps args rest =>
        simp only [hh, Head.elim, Bool.and_eq_true, decide_eq_true_eq, List.all_eq_true] at hf hcf ⊢
        obtain ⟨⟨⟨har, hinert⟩, hcf1⟩, hcf2⟩ := hcf
        have hI : ∀ x ∈ args, ∀ t ∈ x, Inert tbl t := fun x hx t ht => (inertb_iff tbl t).mp ((hinert x hx).2 t ht)
        rw [List.map_congr_left fun x hx => hpaint _ x (hI x hx) (hf.1.1.2 x hx)] at hf hcf1 ⊢
        obtain ⟨c1, hc1, h1⟩ := hex _ _ hf.1.2 hcf1
        obtain ⟨c2, hc2, h2⟩ := ih rest hf.2 hcf2
        exact ⟨c1 + c2 + 1, by omega, .call hh har (fun x hx => ⟨(hinert x hx).1, hI x hx⟩) h1 h2⟩

theorem ref_expands (tbl : Table) (L : Nat) : ∀ (d : Nat) (D : NoExp) (ts : List Tok), fitsb tbl d D ts = true →
    confb tbl L d D ts = true → ∃ c, c ≤ cost tbl d D ts ∧ Expands tbl L D ts (Ref tbl d D ts) c := by
  intro d
  induction d with
  | zero =>
    intro D ts hf _
    obtain rfl : ts = [] := List.isEmpty_iff.mp hf
    exact ⟨0, Nat.le_refl _, .nil D⟩
  | succ d ihd => exact fun D ts => scan_expands tbl L _ _ _ _ ihd (inert_ref_fit tbl d) D ts.length ts

theorem ref_spec (tbl : Table) (hT : ConfTbl tbl) (L : Nat) :
    ∀ (d : Nat) (D : NoExp) (ts : List Tok) (hs : List String), Agree D hs → (∀ t ∈ ts, CTok tbl t) →
      fitsb tbl d D ts = true → confb tbl L d D ts = true →
      ∃ (c : Nat) (R : List T), c ≤ cost tbl d D ts ∧ R.map (·.text) = (Ref tbl d D ts).map spellTok ∧
        ∀ (f : Nat) (top : Bool) (rest out : List T), L < f →
          Spec.Prosser.expand (specTableF tbl) (f + c) top (ts.map (toSpec hs) ++ rest) out
            = Spec.Prosser.expand (specTableF tbl) f top rest (out ++ R) := by
  intro d D ts hs hag hct hf hcf
  obtain ⟨c, hc, h⟩ := ref_expands tbl L d D ts hf hcf
  obtain ⟨R, hR⟩ := expands_spec (specOf_specTableF tbl) hT.stbl h hs hag fun t ht => (hct t ht).stok
  exact ⟨c, R, hc, hR⟩

end CbiVerif.MX
