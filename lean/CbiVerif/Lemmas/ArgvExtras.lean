import CbiVerif.Lemmas.Argv
import CbiVerif.Lemmas.ArgvSweep
import CbiVerif.Spec.Unrecognised
/-! C11 helper: what the full parser model leaves over (`extras`, `file`) against the reference reading
`Unrecognised.scanU`: per argument in flag position, the parser's class against `Unrecognised.shape` (`Link`,
`link_single`); then the invariant (`Sim`) that keeps `ArgvSweep.sweep` and `scanU` in step on a command line without
recorded shapes (`sweep_scanU`, by `ArgvLemmas.tame_rec`; one step: `link_step`). -/
namespace CbiVerif.ArgvExtras
open CbiVerif.Argparse CbiVerif.ArgparseFull CbiVerif.Extract CbiVerif.ArgvLemmas CbiVerif.ArgvSweep
open CbiVerif.Unrecognised

abbrev dd : List Char := ['-', '-']

/-- `ArgvLemmas.Form` without the property's reading: the parser's class of an argument in flag position, the
reference reading's shape of it, and whether the class scan treats it as a flag waiting for its value, say the same -/
inductive Link : Cls → Shape → Bool → Prop
  | pos : Link .positional .operand false
  | unk : Link .unknown .unknownOpt false
  | bare (o : Opt) (h : o.kind = .ignoreOpt) : Link (.opt o none) .ignBare false
  | ignAtt (o : Opt) (e : List Char) (h : o.kind = .ignoreOpt ∨ o.kind = .ignoreReq) : Link (.opt o (some e)) .ignAtt false
  | att (o : Opt) (e : List Char) (d : Act) (h : o.kind = .value d) : Link (.opt o (some e)) .flagAtt false
  | sep (o : Opt) (d : Act) (h : o.kind = .value d) : Link (.opt o none) .flagSep true
  | req (o : Opt) (h : o.kind = .ignoreReq) : Link (.opt o none) .ignReq true

theorem _root_.CbiVerif.ArgvLemmas.Form.link {c : Cls} {r : Reading} {sh : Shape} {b : Bool} : Form c r sh b → Link c sh b
  | .pos => .pos
  | .unk => .unk
  | .bare o h => .bare o h
  | .ignAtt o e h => .ignAtt o e h
  | .att o _ w h _ => .att o w _ h
  | .sep o _ h => .sep o _ h
  | .req o h => .req o h

theorem link_single (a : List Char) (h1 : takesValue a = false) (h2 : tagsOf1 a = []) :
    Link (classify T a) (shape a) false :=
  (flag_position a h1 h2).link

/-- where the model's positional `file` stands vs where the reference reading's operand list stands -/
inductive FR : FileSt → Run → List (List Char) → Prop
  | pending : FR .pending .pending []
  | opened (acc : List (List Char)) (h : ¬ (ArgparseFull.ddash ∈ acc)) : FR (.opened acc) .opened acc
  | closed (f : List (List Char)) : FR (.closed f) .closed f

/-- what the one-pass model waits for vs what `scanU` waits for vs what the class scan waits for -/
inductive WR : Pend → Wait → Bool → Prop
  | idle : WR .idle .none false
  | need (d : Act) : WR (.need d) .value true
  | needIgn : WR .needIgn .value true
  | optIgn : WR .optIgn .optional false

theorem FR_fileOf (fs : FileSt) (r : Run) (f : List (List Char)) (h : FR fs r f) : fileOf fs = f := by
  cases h with
  | pending => rfl
  | opened acc h => simp [fileOf, List.erase_of_not_mem h]
  | closed f => rfl

theorem FR_close (s : XSt) (r : Run) (f : List (List Char)) (h : FR s.file r f) :
    FR s.close.file r.close f ∧ s.close.extras = s.extras := by
  obtain ⟨cfg, fs, ex⟩ := s
  simp only at h
  cases h with
  | pending => exact ⟨FR.pending, rfl⟩
  | opened acc h =>
    simp only [XSt.close, Run.close, List.erase_of_not_mem h]
    exact ⟨FR.closed _, trivial⟩
  | closed f => exact ⟨FR.closed _, rfl⟩

/-- the state of `scanU` -/
structure USt where
  wait : Wait
  run : Run
  out : Leftover

def USt.scan (q : USt) (argv : List (List Char)) : Leftover := scanU q.wait q.run q.out argv

/-- one step of `scanU` on an argument in flag position, by shape -/
def USt.step (q : USt) (a : List Char) : Shape → USt
  | .operand =>
    if q.wait = .optional then { q with wait := .none }
    else if q.run = .closed then ⟨.none, .closed, { q.out with extras := q.out.extras ++ [a] }⟩
    else ⟨.none, .opened, { q.out with file := q.out.file ++ [a] }⟩
  | .unknownOpt => ⟨.none, q.run.close, { q.out with extras := q.out.extras ++ [a] }⟩
  | .flagSep | .ignReq => ⟨.value, q.run.close, q.out⟩
  | .flagAtt | .ignAtt => ⟨.none, q.run.close, q.out⟩
  | .ignBare => ⟨.optional, q.run.close, q.out⟩

/-- what keeps the one-pass model and `scanU` in step: what each waits for (and whether the class scan waits), where
`file` stands, equal extras -/
inductive Sim : Pend → XSt → USt → Bool → Prop
  | mk {p : Pend} {s : XSt} {w : Wait} {r : Run} {o : Leftover} {b : Bool} (wait : WR p w b)
      (file : FR s.file r o.file) (extras : s.extras = o.extras) : Sim p s ⟨w, r, o⟩ b

theorem USt.scan_flag {p : Pend} {s : XSt} {q : USt} (h : Sim p s q false) (a : List Char) (rest : List (List Char)) :
    q.scan (a :: rest) = (q.step a (shape a)).scan rest := by
  obtain ⟨hw, -, -⟩ := h
  cases hw <;> simp only [USt.scan, scanU, USt.step] <;> cases shape a <;> simp <;> split <;> rfl

/-- an operand other than `--` joins the positionals as it joins the operands -/
theorem Sim.pos {s : XSt} {r : Run} {o : Leftover} {a : List Char} (h : FR s.file r o.file) (hex : s.extras = o.extras)
    (hdd : ArgparseFull.ddash ≠ a) : Sim .idle (s.pos a) (USt.step ⟨.none, r, o⟩ a .operand) false := by
  obtain ⟨cfg, fs, ex⟩ := s
  obtain ⟨of, oe⟩ := o
  simp only at h hex
  subst hex
  cases h with
  | pending => exact ⟨.idle, FR.opened [a] (by simpa using hdd), rfl⟩
  | opened _ hacc => exact ⟨.idle, FR.opened _ (by simpa [hacc] using hdd), rfl⟩
  | closed _ => exact ⟨.idle, FR.closed of, rfl⟩

/-- one step in flag position: the model's step on the token and the reference reading's step on the shape -/
theorem link_step {a : List Char} {c : Cls} {sh : Shape} {b : Bool} (hl : Link c sh b) {p : Pend} {s : XSt} {q : USt}
    (h : Sim p s q false) (hdd : a ≠ ArgparseFull.ddash) :
    match stepX p s (tokOf a c) with
    | .ok x => Sim x.1 x.2 (q.step a sh) b
    | .error _ => True := by
  obtain ⟨hw, hfr, hex⟩ := h
  obtain ⟨hcl, hcx⟩ := FR_close s _ _ hfr
  have hO : ∀ c', stepX p s (.O a c') = optStepX s.close a c' := by
    intro c'; cases hw <;> rfl
  cases hl with
  | unk => simp only [tokOf, hO, optStepX]; exact ⟨.idle, hcl, by rw [← hex, ← hcx]⟩
  | bare ob hk => simp only [tokOf, hO, optStepX, hk]; exact ⟨.optIgn, hcl, hcx.trans hex⟩
  | ignAtt ob e hk =>
    rcases hk with hk | hk <;> simp only [tokOf, hO, optStepX, hk] <;> exact ⟨.idle, hcl, hcx.trans hex⟩
  | att ob e d hk =>
    simp only [tokOf, hO, optStepX, hk, applyX]
    cases s.close.cfg.apply d (toVal e) with
    | error _ => trivial
    | ok cf => exact ⟨.idle, hcl, hcx.trans hex⟩
  | sep ob d hk => simp only [tokOf, hO, optStepX, hk]; exact ⟨.need d, hcl, hcx.trans hex⟩
  | req ob hk => simp only [tokOf, hO, optStepX, hk]; exact ⟨.needIgn, hcl, hcx.trans hex⟩
  | pos =>
    cases hw with
    | optIgn => exact ⟨.idle, hfr, hex⟩
    | idle => exact Sim.pos hfr hex (Ne.symm hdd)

/-- the one-pass model and the reference reading stay in step on a command line without recorded shapes:
whatever the one-pass model returns, its `extras` and `file` are the reference reading's -/
theorem sweep_scanU : ∀ (argv : List (List Char)) (p : Pend) (w : Wait) (b : Bool) (s : XSt) (r : Run) (o : Leftover)
    (toks : List Tok) (res : FResult),
    WR p w b → classesFrom b argv = [] → FR s.file r o.file → s.extras = o.extras →
    tokenize T argv = .ok toks → sweep p s toks = .ok res →
    res.extras = (scanU w r o argv).extras ∧ res.file = (scanU w r o argv).file := by
  intro argv p w b s r o toks res hw hc hfr hex
  refine tame_rec (P := fun b argv => ∀ p s q toks res, Sim p s q b → tokenize T argv = .ok toks →
    sweep p s toks = .ok res → res.extras = (q.scan argv).extras ∧ res.file = (q.scan argv).file)
    ?_ ?_ ?_ argv b hc p s ⟨w, r, o⟩ toks res ⟨hw, hfr, hex⟩
  · intro p s ⟨w, r, o⟩ toks res ⟨hw, hfr, hex⟩ ht hs
    cases ht
    cases hw <;> cases hs <;> exact ⟨hex, FR_fileOf _ _ _ hfr⟩
  · intro a rest b' hne hf ih p s q toks res hsim ht hs
    obtain ⟨_, toks', ht', rfl⟩ := tokenize_cons_ok T a rest toks hne ht
    have hstep := link_step (a := a) hf.link hsim hne
    rw [USt.scan_flag hsim]
    simp only [sweep] at hs
    cases hst : stepX p s (tokOf a (classify T a)) with
    | error e => rw [hst] at hs; cases hs
    | ok x =>
      rw [hst] at hs hstep
      exact ih x.1 x.2 _ toks' res hstep ht' hs
  · intro a rest hne hcl _ ih p s ⟨w, r, o⟩ toks res ⟨hw, hfr, hex⟩ ht hs
    obtain ⟨_, toks', ht', rfl⟩ := tokenize_cons_ok T a rest toks hne ht
    rw [hcl] at hs
    have hsc : USt.scan ⟨.value, r, o⟩ (a :: rest) = USt.scan ⟨.none, r, o⟩ rest := by simp only [USt.scan, scanU]
    cases hw with
    | needIgn =>
      rw [hsc]
      exact ih .idle s _ toks' res ⟨.idle, hfr, hex⟩ ht' hs
    | need d =>
      rw [hsc]
      simp only [sweep, tokOf, stepX, applyX] at hs
      cases hap : s.cfg.apply d (toVal a) with
      | error er => rw [hap] at hs; cases hs
      | ok cf =>
        rw [hap] at hs
        exact ih .idle { s with cfg := cf } _ toks' res ⟨.idle, hfr, hex⟩ ht' hs

end CbiVerif.ArgvExtras
