import CbiVerif.Lemmas.FindInc
/-! Memo erasure for C04.include_semantics: the associator with the memoised resolver and the one with the
memo-free compiler's rule walk in lock step; their worlds differ only in the memo. -/
namespace CbiVerif.Inc
open CbiVerif.PP CbiVerif.Cond CbiVerif.MF CbiVerif.IncludeSearch

def World.erase (w : World) : World := { w with plat := { w.plat with memo := [] } }

@[simp] theorem erase_st (w : World) : w.erase.st = w.st := rfl
@[simp] theorem erase_tbl (w : World) : w.erase.plat.tbl = w.plat.tbl := rfl
@[simp] theorem erase_skip (w : World) : w.erase.plat.skip = w.plat.skip := rfl
@[simp] theorem erase_incPaths (w : World) : w.erase.plat.incPaths = w.plat.incPaths := rfl
@[simp] theorem erase_name (w : World) : w.erase.plat.name = w.plat.name := rfl
@[simp] theorem erase_memo (w : World) : w.erase.plat.memo = [] := rfl
@[simp] theorem erase_setErr (w : World) (e : Err) : (w.setErr e).erase = w.erase.setErr e := rfl

/-- the two runs are in step: same world up to the memo, and the memo of the code's run is sound -/
def ERel (fs : FS) (w w' : World) : Prop :=
  w' = w.erase ∧ IncMemo.Sound IncMemo.Query.key (IncMemo.resolveM fs.env w.plat.incPaths) w.plat.memo

/-- only the look-up touches the memo: a sound memo answers as the compiler's rule does; everything else commutes with
erasing the memo by computation -/
theorem erase (fs : FS) (pfs : ParsedFS) : Steps true false fs pfs (ERel fs) (fun _ => True) where
  ctl := fun ⟨e, _⟩ => e ▸ ⟨rfl, rfl, rfl⟩
  setErr _ := fun ⟨e, h⟩ => e ▸ ⟨rfl, h⟩
  setPlat _ := fun ⟨e, h⟩ _ => e ▸ ⟨rfl, h⟩
  lookup := fun {w _} file idx line name sys ⟨e, h⟩ => by
    subst e
    obtain ⟨h1, h2⟩ := lookupWith_true_spec fs w.plat.incPaths w.plat.memo ⟨name, dirnameK file, sys⟩ h
    refine ⟨h1, ?_, h2⟩
    unfold World.lookup
    dsimp only
    rw [h1]
    rfl
  insertFile _ := fun ⟨e, h⟩ => e ▸ ⟨rfl, h⟩
  record _ _ _ := fun ⟨e, h⟩ => e ▸ ⟨rfl, h⟩
  next _ _ _ _ _ _ _ _ _ _ _ := trivial

/-- every parsed file is a structured (well-nested) program -/
def WFparsed (pfs : ParsedFS) : Prop := ∀ f p, pfs.get f = some (.ok p) → ∃ b : Block, p.lbls = b.lines

theorem wellNested_of_WFparsed (m : Bool) (fs : FS) (pfs : ParsedFS) (h : WFparsed pfs) : WellNested (opsWith m fs pfs) := by
  intro file
  simp only [opsWith]
  cases hg : pfs.get file with
  | none => exact ⟨.nil, by simp [Block.lines]⟩
  | some r =>
    cases r with
    | error e => exact ⟨.nil, by simp [Block.lines]⟩
    | ok p => exact h file p hg

theorem runFileRef_opsSpec (fs : FS) (pfs : ParsedFS) (hwf : WFparsed pfs) (fuel : Nat) :
    runFileRef (opsSpec fs pfs) fuel = assocFile (opsWith false fs pfs) fuel :=
  funext fun file => funext fun w => (assocFile_eq_ref _ (wellNested_of_WFparsed false fs pfs hwf) fuel file w).symm

/-- one file: the code's associator with the memo, and the flat reference with the compiler's rule, in step -/
theorem assocFile_erase (fs : FS) (pfs : ParsedFS) (hwf : WFparsed pfs) (fuel : Nat) (file : String) (w : World)
    (h : IncMemo.Sound IncMemo.Query.key (IncMemo.resolveM fs.env w.plat.incPaths) w.plat.memo) :
    runFileRef (opsSpec fs pfs) fuel file w.erase = (assocFile (ops fs pfs) fuel file w).erase := by
  rw [runFileRef_opsSpec fs pfs hwf]
  exact ((erase fs pfs).file fuel trivial ⟨rfl, h⟩).1

theorem find_erase (fs : FS) (codebase : List String) (config : List (String × List Entry)) (fuel : Nat)
    (hwf : WFparsed (parseAll fs)) : findSpec fs codebase config fuel = find fs codebase config fuel := by
  have hs : findSpec fs codebase config fuel =
      findWith false (fun pfs => assocFile (opsWith false fs pfs) fuel) fs codebase config := by
    unfold findSpec findWith
    dsimp only
    rw [runFileRef_opsSpec fs _ hwf]
  rw [hs]
  exact (find_steps (PS := fun _ => True) (R := fun _ _ => ERel fs) (Q := fun _ _ _ => True)
    (fun _ _ _ _ => erase fs (parseAll fs)) codebase fuel (h0 := trivial) (hins := fun _ _ _ => trivial)
    (hset := fun _ _ _ => trivial) (hin := fun _ _ _ _ _ => ⟨rfl, IncMemo.sound_nil _ _⟩)
    (hout := fun _ _ _ _ ⟨e, _⟩ => ⟨by rw [e]; rfl, trivial⟩)
    (hroot := fun _ _ => trivial) (hforced := fun _ _ _ _ _ _ _ _ _ => trivial)).1

end CbiVerif.Inc
