import CbiVerif.Model.MacroExpand
/-! # C03, function-like fragment: the recursive reference `Ref`, the fragment predicate `fitsb` and the iteration bound `cost`

Helper definitions for the proof that the stream-stack machine `MX.step` (the definitions the driver executes) computes
function-like macro expansion as the C standard describes it for macros without `#` / `##` / variadic parameters:

* `callOf`  : the tokens after a function-like macro name form a complete call `( a1 , … , an )` in the same token list;
* `substRef`: every parameter in the replacement list is replaced by the (completely macro-expanded) argument;
* `Ref d D ts`: the expansion of `ts` with the names in `D` disabled and nesting budget `d`:
  arguments are expanded on their own first (same disabled names), substituted, and the result is rescanned with the macro's
  own name disabled;
* `fitsb d D ts`: the run described by `Ref` stays inside the fragment (every enabled function-like macro name met during the
  expansion — in the text, in an argument, in a substituted replacement list — is followed, in the same token list, either by a
  complete call with enough arguments or by a token other than `(` (then it is not a call and stays); no `defined`; nesting
  budget never exhausted);
* `cost d D ts`: bound on the number of loop iterations;
* `FunTbl` (checked by `funTblb`): the tables of the fragment; `argList`: the arguments of a call as the loop of `expand`
  hands them to `MacroFunction.replace` (`pre_expanded`; in the model `processArgs`).

`Ref`, `fitsb` and `cost` are structurally recursive (outer recursion on the budget, inner scan on a length bound), so that they can be
evaluated by the kernel (`decide +kernel`) in the non-vacuity examples.  Core Lean only. -/
namespace CbiVerif.MX
open CbiVerif.PP

/-- the argument-collection loop on a plain token list (the tokens after the opening parenthesis): collected arguments and
    the tokens after the closing parenthesis; `none`: the list ends inside the call -/
def splitArgs : List Tok → List (List Tok) → List Tok → Nat → Option (List (List Tok) × List Tok)
  | [], _, _, _ => none
  | tok :: r, args, cur, depth =>
    if dtext tok == "," && depth == 1 then splitArgs r (args ++ [cur]) [] depth
    else if dtext tok == "(" then splitArgs r args (cur ++ [tok]) (depth + 1)
    else if dtext tok == ")" then
      if depth == 1 then some (args ++ [cur], r)
      else splitArgs r args (cur ++ [tok]) (depth - 1)
    else splitArgs r args (cur ++ [tok]) depth

/-- the tokens after a function-like macro name: `( a1 , … , an ) rest` ↦ `([a1, …, an], rest)` -/
def callOf : List Tok → Option (List (List Tok) × List Tok)
  | lp :: r => if dtext lp == "(" then splitArgs r [] [] 1 else none
  | [] => none

/-- plain parameter substitution: a parameter (an identifier spelled like one) is replaced by the expanded argument, which
    inherits the parameter's `prev_white` -/
def substRef (params : List String) (eargs : List (List Tok)) : List Tok → List Tok
  | [] => []
  | tok :: r =>
    match paramIdx params tok with
    | some i => fixpw (eargs.getD i []) tok.pw ++ substRef params eargs r
    | none => tok :: substRef params eargs r

/-- one level of scanning; `ex` expands at the next lower nesting budget; the `Nat` bounds the length of the list -/
def scanRef (tbl : Table) (ex : NoExp → List Tok → List Tok) : Nat → NoExp → List Tok → List Tok
  | 0, _, ts => ts
  | _ + 1, _, [] => []
  | n + 1, D, t :: ts =>
    if t.kind != .ident then t :: scanRef tbl ex n D ts
    else if !t.expandable || D.contains (some t.text) then paint t :: scanRef tbl ex n D ts
    else
      match tbl.get t.text with
      | none => t :: scanRef tbl ex n D ts
      | some m =>
        match m.args with
        | none => ex (some m.name :: D) (fixpw m.replacement t.pw) ++ scanRef tbl ex n D ts
        | some ps =>
          match callOf ts with
          | none => t :: scanRef tbl ex n D ts
          | some (args, rest) =>
            ex (some m.name :: D) (fixpw (substRef ps (args.map (ex (none :: D))) m.replacement) t.pw)
              ++ scanRef tbl ex n D rest

/-- **the reference**: recursive macro expansion with disabled names `D` and nesting budget `d` -/
def Ref (tbl : Table) : Nat → NoExp → List Tok → List Tok
  | 0, _, ts => ts
  | d + 1, D, ts => scanRef tbl (Ref tbl d) ts.length D ts

def scanFit (tbl : Table) (ex : NoExp → List Tok → List Tok) (fit : NoExp → List Tok → Bool) : Nat → NoExp → List Tok → Bool
  | 0, _, ts => ts.isEmpty
  | _ + 1, _, [] => true
  | n + 1, D, t :: ts =>
    t.text != "defined" &&
    (if t.kind != .ident then scanFit tbl ex fit n D ts
     else if !t.expandable || D.contains (some t.text) then scanFit tbl ex fit n D ts
     else
       match tbl.get t.text with
       | none => scanFit tbl ex fit n D ts
       | some m =>
         match m.args with
         | none => fit (some m.name :: D) (fixpw m.replacement t.pw) && scanFit tbl ex fit n D ts
         | some ps =>
           match callOf ts with
           | none => (match ts with | x :: _ => dtext x != "(" | [] => false) && scanFit tbl ex fit n D ts
           | some (args, rest) =>
             decide (ps.length ≤ args.length) && args.all (fit (none :: D)) &&
             fit (some m.name :: D) (fixpw (substRef ps (args.map (ex (none :: D))) m.replacement) t.pw) &&
             scanFit tbl ex fit n D rest)

/-- **the fragment**, as a decidable predicate on (table, budget, disabled names, text) -/
def fitsb (tbl : Table) : Nat → NoExp → List Tok → Bool
  | 0, _, ts => ts.isEmpty
  | d + 1, D, ts => scanFit tbl (Ref tbl d) (fitsb tbl d) ts.length D ts

def scanCost (tbl : Table) (ex : NoExp → List Tok → List Tok) (cost : NoExp → List Tok → Nat) : Nat → NoExp → List Tok → Nat
  | 0, _, _ => 0
  | _ + 1, _, [] => 0
  | n + 1, D, t :: ts =>
    if t.kind != .ident then 1 + scanCost tbl ex cost n D ts
    else if !t.expandable || D.contains (some t.text) then 1 + scanCost tbl ex cost n D ts
    else
      match tbl.get t.text with
      | none => 1 + scanCost tbl ex cost n D ts
      | some m =>
        match m.args with
        | none => cost (some m.name :: D) (fixpw m.replacement t.pw) + 2 + scanCost tbl ex cost n D ts
        | some ps =>
          match callOf ts with
          | none => 1 + scanCost tbl ex cost n D ts
          | some (args, rest) =>
            (args.map fun a => cost (none :: D) a + 2).sum +
            cost (some m.name :: D) (fixpw (substRef ps (args.map (ex (none :: D))) m.replacement) t.pw) + 2 +
            scanCost tbl ex cost n D rest

/-- bound on the number of loop iterations of the machine on a text of the fragment -/
def cost (tbl : Table) : Nat → NoExp → List Tok → Nat
  | 0, _, _ => 0
  | d + 1, D, ts => scanCost tbl (Ref tbl d) (cost tbl d) ts.length D ts

/-- the machine pre-expands argument `i` of a call of `m` -/
def needs (m : Macro) (i : Nat) : Bool := decide (i ≥ m.needsExp.length) || m.needsExp.getD i true

/-- the argument list `expand` builds (`pre_expanded`): an argument is pre-expanded (by `ex`) iff the macro marks it -/
def argList (m : Macro) (ex : List Tok → List Tok) : List (List Tok) → Nat → List Arg
  | [], _ => []
  | a :: r, i => (if needs m i then ⟨a, some (ex a)⟩ else ⟨a, none⟩) :: argList m ex r (i + 1)

/-- tables of the fragment: a function-like macro is not variadic, has no `#` / `##` (`has_strcat` unset), and every parameter
    that occurs in its replacement list is marked for pre-expansion (what `make_macro` computes for such a definition) -/
structure FunTbl (tbl : Table) : Prop where
  plain : ∀ n m ps, tbl.get n = some m → m.args = some ps → m.variadic = false ∧ m.hasStrcat = false
  marked : ∀ n m ps, tbl.get n = some m → m.args = some ps →
    ∀ tok ∈ m.replacement, ∀ i, paramIdx ps tok = some i → needs m i = true

def funMacrob (m : Macro) : Bool :=
  match m.args with
  | none => true
  | some ps => !m.variadic && !m.hasStrcat &&
      m.replacement.all fun tok => match paramIdx ps tok with | some i => needs m i | none => true

def funTblb (tbl : Table) : Bool := tbl.all fun e => funMacrob e.2

end CbiVerif.MX
