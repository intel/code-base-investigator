import CbiVerif.Model.FindInc
import CbiVerif.Lemmas.MultiFile
import CbiVerif.Lemmas.IncludeMemo
/-! Helper lemmas about the concrete multi-file model `CbiVerif.Inc` (C04 / C13 / C18).

The model is made of few operations on a world: set the error, change macro table and once-list (`directive`: every
directive but `#include`), look an include request up (`World.lookup`), parse a file, record attributions; an include
directive and a `-include` option do the same thing up to the point where the file is entered (`request`).  A relation
between two runs that these operations keep (`Steps`) is kept by the associator across files (`Steps.file`) and by the
whole analysis (`find_steps`); an invariant of one run (`Inv`) is the case of a run related to itself. -/
namespace CbiVerif.Inc
open CbiVerif.PP CbiVerif.Cond CbiVerif.MF CbiVerif.IncludeSearch

/-! ## frames: what the individual operations leave alone -/

theorem evalCondW_cases (w : World) (toks : List Tok) :
    (evalCondW w toks).2 = w ∨ ∃ e, (evalCondW w toks).2 = w.setErr e := by
  unfold evalCondW
  split
  · exact .inl rfl
  · split
    · exact .inl rfl
    · exact .inr ⟨_, rfl⟩

theorem addAssoc_frame (s : PState) (f : String) (i : Nat) (p : String) :
    (s.addAssoc f i p).warns = s.warns ∧ (s.addAssoc f i p).visits = s.visits ∧ (s.addAssoc f i p).dwarns = s.dwarns ∧
    (s.addAssoc f i p).inserted = s.inserted ∧ (s.addAssoc f i p).err = s.err := by
  unfold PState.addAssoc
  split
  · split <;> simp
  · simp

theorem foldl_addAssoc_frame (out : List Nat) (s : PState) (f p : String) :
    let s' := out.foldl (fun s i => s.addAssoc f i p) s
    s'.warns = s.warns ∧ s'.visits = s.visits ∧ s'.dwarns = s.dwarns ∧ s'.inserted = s.inserted ∧ s'.err = s.err := by
  induction out generalizing s with
  | nil => simp
  | cons i out ih =>
    simp only [List.foldl_cons]
    obtain ⟨a, b, c, d, e⟩ := ih (s.addAssoc f i p)
    obtain ⟨a', b', c', d', e'⟩ := addAssoc_frame s f i p
    exact ⟨a.trans a', b.trans b', c.trans c', d.trans d', e.trans e'⟩

theorem insertFile_frame (s : PState) (pfs : ParsedFS) (f : String) :
    (s.insertFile pfs f).warns = s.warns ∧ (s.insertFile pfs f).visits = s.visits ∧ (s.insertFile pfs f).assoc = s.assoc := by
  unfold PState.insertFile
  split
  · simp
  · split <;> simp

theorem insertFile_err_none (s : PState) (pfs : ParsedFS) (f : String) (p : Parsed) (hs : s.err = none)
    (hp : pfs.get f = some (.ok p)) : (s.insertFile pfs f).err = none := by
  unfold PState.insertFile
  split
  · exact hs
  · simp [hp, hs]

theorem realpath_id (fs : FS) (h : fs.links = []) (p : String) : fs.realpath p = p := by
  simp [FS.realpath, h, realpathLoop]

/-! ## the operations the model is made of -/

/-- what a directive other than `#include` does to the macro table and the once-list (it reads and writes nothing else) -/
def directive (file : String) (n : PNode) (tbl : Table) (skip : List String) : Except Err (Table × List String) :=
  match n.kind with
  | .pragma =>
    match n.toks with
    | t :: _ => .ok (tbl, if t.spell == "once" && !skip.contains file then skip ++ [file] else skip)
    | [] => .ok (tbl, skip)
  | .define =>
    match makeMacro n.name n.margs n.toks with
    | .ok m => .ok (if (tbl.get n.name).isSome then tbl else tbl ++ [(n.name, m)], skip)
    | .error e => .error e
  | .undef => .ok (tbl.filter (·.1 != n.name), skip)
  | _ => .ok (tbl, skip)

def World.setPlat (w : World) (ts : Table × List String) : World := { w with plat := { w.plat with tbl := ts.1, skip := ts.2 } }

theorem directive_skip {file : String} {n : PNode} {tbl : Table} {skip : List String} {ts : Table × List String}
    (h : directive file n tbl skip = .ok ts) : ∀ x ∈ skip, x ∈ ts.2 := by
  revert h
  unfold directive
  cases n.kind
  case pragma =>
    cases n.toks with
    | nil => rintro ⟨⟩; exact fun _ hx => hx
    | cons t _ =>
      rintro ⟨⟩ x hx
      dsimp only
      split
      · exact List.mem_append_left _ hx
      · exact hx
  case define =>
    cases makeMacro n.name n.margs n.toks with
    | ok m => rintro ⟨⟩; exact fun _ hx => hx
    | error e => nofun
  all_goals rintro ⟨⟩; exact fun _ hx => hx

theorem enter_eq (m : Bool) (fs : FS) (pfs : ParsedFS) (file : String) (w : World) (idx : Nat) :
    enter m fs pfs file w idx =
      match w.st.err, pfs.node file idx with
      | none, some n =>
        if n.kind = .include then includeStep m fs pfs file w idx n else
        match directive file n w.plat.tbl w.plat.skip with
        | .ok ts => (none, w.setPlat ts)
        | .error e => (none, w.setErr e)
      | _, _ => (none, w) := by
  unfold enter directive
  cases w.st.err with
  | some e => rfl
  | none =>
    cases pfs.node file idx with
    | none => rfl
    | some n =>
      dsimp only
      cases n.kind
      case pragma =>
        cases n.toks with
        | nil => rfl
        | cons t ts => dsimp only; split <;> rfl
      case define =>
        cases makeMacro n.name n.margs n.toks with
        | error e => rfl
        | ok mc => dsimp only; split <;> rfl
      all_goals rfl

/-- the search for the file an include request names: the memo is consulted (`m`) or not, the request is entered in the
ghost log, and a warning is issued if nothing was found -/
def World.lookup (w : World) (m : Bool) (fs : FS) (file : String) (idx line : Nat) (name : String) (sys : Bool) :
    Option String × World :=
  let q : IncMemo.Query := ⟨name, dirnameK file, sys⟩
  let r := lookupWith m fs.env w.plat.incPaths w.plat.memo q
  let v : Visit := ⟨file, idx, line, name, sys, w.plat.incPaths, IncMemo.resolveM fs.env w.plat.incPaths q⟩
  (r.1, { st := { w.st with visits := w.st.visits ++ [v]
                            warns := match r.1 with | none => w.st.warns ++ [v] | some _ => w.st.warns }
          plat := { w.plat with memo := r.2 } })

/-- `IncludeNode.evaluate_for_platform` after the path is known, and the body of the `-include` loop of `finder.find`,
up to the recursive `associate`: the look-up; a file that is found and not on the once-list is parsed (`insert_file`)
and returned for processing -/
def request (m : Bool) (fs : FS) (pfs : ParsedFS) (file : String) (idx line : Nat) (name : String) (sys : Bool)
    (w : World) : Option String × World :=
  let l := w.lookup m fs file idx line name sys
  match l.1 with
  | none => (none, l.2)
  | some inc =>
    if l.2.plat.skip.contains (fs.realpath inc) then (none, l.2)
    else
      let w2 : World := { l.2 with st := l.2.st.insertFile pfs (fs.realpath inc) }
      (if w2.st.err.isSome then none else some (fs.realpath inc), w2)

theorem request_some {m : Bool} {fs : FS} {pfs : ParsedFS} {file : String} {idx line : Nat} {name : String} {sys : Bool}
    {w : World} {g : String} (h : (request m fs pfs file idx line name sys w).1 = some g) :
    ∃ inc, (w.lookup m fs file idx line name sys).1 = some inc ∧ g = fs.realpath inc := by
  unfold request at h
  dsimp only at h
  split at h
  · cases h
  · rename_i inc hinc
    refine ⟨inc, hinc, ?_⟩
    split at h
    · cases h
    · dsimp only at h
      split at h
      · cases h
      · exact (Option.some.inj h).symm

theorem includeStep_eq (m : Bool) (fs : FS) (pfs : ParsedFS) (file : String) (w : World) (idx : Nat) (n : PNode) :
    includeStep m fs pfs file w idx n =
      match includeTarget w.plat.tbl n.toks with
      | .error e => (none, w.setErr e)
      | .ok ps => request m fs pfs file idx (n.lines.headD 0) ps.1 ps.2 w := by
  unfold includeStep request World.lookup
  cases includeTarget w.plat.tbl n.toks with
  | error e => rfl
  | ok ps =>
    dsimp only
    generalize lookupWith m fs.env w.plat.incPaths w.plat.memo ⟨ps.1, dirnameK file, ps.2⟩ = r
    obtain ⟨_ | f, m'⟩ := r
    · rfl
    · dsimp only
      generalize PState.insertFile _ pfs (fs.realpath f) = s'
      cases w.plat.skip.contains (fs.realpath f) <;> cases s'.err.isSome <;> rfl

theorem forcedWith_eq (m : Bool) (run : String → World → World) (fs : FS) (pfs : ParsedFS) (src : String) (w : World)
    (inc : String) :
    forcedWith m run fs pfs src w inc =
      if w.st.err.isSome then w else
      match (request m fs pfs src 0 0 inc false w).1 with
      | none => (request m fs pfs src 0 0 inc false w).2
      | some g => run g (request m fs pfs src 0 0 inc false w).2 := by
  unfold forcedWith request World.lookup
  dsimp only
  generalize lookupWith m fs.env w.plat.incPaths w.plat.memo ⟨inc, dirnameK src, false⟩ = r
  obtain ⟨_ | f, m'⟩ := r
  · cases w.st.err.isSome <;> rfl
  · dsimp only
    generalize PState.insertFile _ pfs (fs.realpath f) = s'
    cases w.st.err.isSome <;> cases w.plat.skip.contains (fs.realpath f) <;> cases s'.err.isSome <;> rfl

/-! ## two runs of the model

`Steps m m' fs pfs R Q`: two runs, one with include resolution `m` and one with `m'`, whose worlds are related by `R`
take the same way through the model (`ctl`: the control flow reads the error flag, the macro table and the once-list)
and every operation the model is made of keeps `R`.  `Q` is a property of the file being processed that every file
entered from it inherits (`next`).  An invariant of one run (`Inv`) is the relation `Diag P` of the run with itself. -/

structure Steps (m m' : Bool) (fs : FS) (pfs : ParsedFS) (R : World → World → Prop) (Q : String → Prop) : Prop where
  ctl : ∀ {w w'}, R w w' → w'.st.err = w.st.err ∧ w'.plat.tbl = w.plat.tbl ∧ w'.plat.skip = w.plat.skip
  setErr : ∀ {w w'} e, R w w' → R (w.setErr e) (w'.setErr e)
  setPlat : ∀ {w w'} ts, R w w' → (∀ x ∈ w.plat.skip, x ∈ ts.2) → R (w.setPlat ts) (w'.setPlat ts)
  lookup : ∀ {w w'} file idx line name sys, R w w' →
    (w.lookup m fs file idx line name sys).1 = (w'.lookup m' fs file idx line name sys).1 ∧
    R (w.lookup m fs file idx line name sys).2 (w'.lookup m' fs file idx line name sys).2
  insertFile : ∀ {w w'} f, R w w' → R { w with st := w.st.insertFile pfs f } { w' with st := w'.st.insertFile pfs f }
  record : ∀ {w w'} file out, Q file → R w w' →
    R ((opsWith m fs pfs).record w file out) ((opsWith m' fs pfs).record w' file out)
  next : ∀ {w w'} file idx n ps inc, Q file → R w w' → pfs.node file idx = some n → n.kind = .include →
    includeTarget w.plat.tbl n.toks = .ok ps → (w.lookup m fs file idx (n.lines.headD 0) ps.1 ps.2).1 = some inc →
    Q (fs.realpath inc)

section
variable {m m' : Bool} {fs : FS} {pfs : ParsedFS} {R : World → World → Prop} {Q : String → Prop}

theorem Steps.req (S : Steps m m' fs pfs R Q) (file : String) (idx line : Nat) (name : String) (sys : Bool)
    {w w' : World} (h : R w w') :
    (request m fs pfs file idx line name sys w).1 = (request m' fs pfs file idx line name sys w').1 ∧
    R (request m fs pfs file idx line name sys w).2 (request m' fs pfs file idx line name sys w').2 := by
  obtain ⟨h1, h2⟩ := S.lookup file idx line name sys h
  unfold request
  dsimp only
  rw [← h1, (S.ctl h2).2.2]
  cases (w.lookup m fs file idx line name sys).1 with
  | none => exact ⟨rfl, h2⟩
  | some inc =>
    dsimp only
    split
    · exact ⟨rfl, h2⟩
    · have h3 := S.insertFile (fs.realpath inc) h2
      rw [(S.ctl h3).1]
      exact ⟨rfl, h3⟩

theorem Steps.opsSim (S : Steps m m' fs pfs R Q) : OpsSim R Q (opsWith m fs pfs) (opsWith m' fs pfs) where
  evalIf file w w' i h := by
    obtain ⟨he, ht, _⟩ := S.ctl h
    simp only [opsWith]
    cases pfs.node file i with
    | none => exact ⟨rfl, h⟩
    | some n =>
      simp only [evalCondW, he, ht]
      cases w.st.err with
      | some _ => exact ⟨rfl, h⟩
      | none =>
        cases condValue w.plat.tbl n.toks with
        | ok b => exact ⟨rfl, h⟩
        | error e => exact ⟨rfl, S.setErr e h⟩
  enter file w w' i hq h := by
    obtain ⟨he, ht, hs⟩ := S.ctl h
    simp only [opsWith]
    rw [enter_eq, enter_eq, he, ht, hs]
    cases w.st.err with
    | some _ => exact ⟨rfl, h, nofun⟩
    | none =>
      cases hn : pfs.node file i with
      | none => exact ⟨rfl, h, nofun⟩
      | some n =>
        dsimp only
        by_cases hk : n.kind = .include
        · rw [if_pos hk, if_pos hk, includeStep_eq, includeStep_eq, ht]
          cases hps : includeTarget w.plat.tbl n.toks with
          | error e => exact ⟨rfl, S.setErr e h, nofun⟩
          | ok ps =>
            obtain ⟨h1, h2⟩ := S.req file i (n.lines.headD 0) ps.1 ps.2 h
            refine ⟨h1, h2, fun g hg => ?_⟩
            obtain ⟨inc, hi, rfl⟩ := request_some hg
            exact S.next file i n ps inc hq h hn hk hps hi
        · rw [if_neg hk, if_neg hk]
          cases hd : directive file n w.plat.tbl w.plat.skip with
          | error e => exact ⟨rfl, S.setErr e h, nofun⟩
          | ok ts => exact ⟨rfl, S.setPlat ts h (directive_skip hd), nofun⟩
  labels _ := rfl
  record w w' file out hq h := S.record file out hq h
  noFuel w w' h := S.setErr _ h
  crash w w' h := S.setErr _ h

theorem Steps.file (S : Steps m m' fs pfs R Q) (fuel : Nat) {file : String} (hq : Q file) {w w' : World} (h : R w w') :
    R (assocFile (opsWith m fs pfs) fuel file w) (assocFile (opsWith m' fs pfs) fuel file w') :=
  assocFile_simQ S.opsSim fuel file hq w w' h

theorem Steps.forced (S : Steps m m' fs pfs R Q) (fuel : Nat) (src inc : String) {w w' : World}
    (hq : ∀ r, (w.lookup m fs src 0 0 inc false).1 = some r → Q (fs.realpath r)) (h : R w w') :
    R (forcedWith m (assocFile (opsWith m fs pfs) fuel) fs pfs src w inc)
      (forcedWith m' (assocFile (opsWith m' fs pfs) fuel) fs pfs src w' inc) := by
  obtain ⟨h1, h2⟩ := S.req src 0 0 inc false h
  rw [forcedWith_eq, forcedWith_eq, (S.ctl h).1, ← h1]
  split
  · exact h
  · cases hg : (request m fs pfs src 0 0 inc false w).1 with
    | none => exact h2
    | some g =>
      obtain ⟨r, hr, rfl⟩ := request_some hg
      exact S.file fuel (hq r hr) h2

/-- one database entry, from a state both runs share: they return the same state, and it satisfies `PS` if the state they
started from does -/
theorem Steps.entry (S : Steps m m' fs pfs R Q) (fuel : Nat) (p : String) (e : Entry) {PS : PState → Prop} {st : PState} (h : PS st)
    (hset : ∀ er, PS { st with err := some er })
    (hin : ∀ tbl, R { st := st, plat := { name := p, tbl := tbl, incPaths := e.includePaths } }
      { st := st, plat := { name := p, tbl := tbl, incPaths := e.includePaths } })
    (hout : ∀ w w', R w w' → w'.st = w.st ∧ PS w.st) (hroot : Q (fs.realpath e.file))
    (hforced : ∀ w w' inc r, inc ∈ e.includeFiles → R w w' →
      (w.lookup m fs e.file 0 0 inc false).1 = some r → Q (fs.realpath r)) :
    runEntryWith m' (assocFile (opsWith m' fs pfs) fuel) fs pfs p st e =
      runEntryWith m (assocFile (opsWith m fs pfs) fuel) fs pfs p st e ∧
    PS (runEntryWith m (assocFile (opsWith m fs pfs) fuel) fs pfs p st e) := by
  unfold runEntryWith
  split
  · exact ⟨rfl, h⟩
  · split
    · exact ⟨rfl, hset _⟩
    · rename_i tbl _
      have h1 := List.foldl_rel (r := R) (f := forcedWith m _ fs _ e.file) (g := forcedWith m' _ fs _ e.file) (hin tbl)
        fun inc hinc w w' hw => S.forced fuel e.file inc (fun r => hforced w w' inc r hinc hw) hw
      dsimp only
      rw [(S.ctl h1).1]
      split
      · exact hout _ _ h1
      · exact hout _ _ (S.file fuel hroot h1)

end

/-- the whole analysis: two runs that are in step while an entry is processed (`R`, `Q` may depend on the platform's name
and the entry) return the same, and what they return satisfies `PS` if the states between entries do -/
theorem find_steps {m m' : Bool} {fs : FS} {config : List (String × List Entry)} {PS : PState → Prop}
    {R : String → Entry → World → World → Prop} {Q : String → Entry → String → Prop}
    (S : ∀ pe ∈ config, ∀ e ∈ pe.2, Steps m m' fs (parseAll fs) (R pe.1 e) (Q pe.1 e)) (codebase : List String) (fuel : Nat)
    (h0 : PS {}) (hins : ∀ s f, PS s → PS (s.insertFile (parseAll fs) f)) (hset : ∀ s er, PS s → PS { s with err := some er })
    (hin : ∀ p e s tbl, PS s → R p e { st := s, plat := { name := p, tbl := tbl, incPaths := e.includePaths } }
      { st := s, plat := { name := p, tbl := tbl, incPaths := e.includePaths } })
    (hout : ∀ p e w w', R p e w w' → w'.st = w.st ∧ PS w.st)
    (hroot : ∀ p e, Q p e (fs.realpath e.file))
    (hforced : ∀ p e w w' inc r, inc ∈ e.includeFiles → R p e w w' →
      (w.lookup m fs e.file 0 0 inc false).1 = some r → Q p e (fs.realpath r)) :
    findWith m' (fun pfs => assocFile (opsWith m' fs pfs) fuel) fs codebase config =
      findWith m (fun pfs => assocFile (opsWith m fs pfs) fuel) fs codebase config ∧
    PS (findWith m (fun pfs => assocFile (opsWith m fs pfs) fuel) fs codebase config) := by
  unfold findWith
  dsimp only
  refine List.foldl_rel (r := fun s s' => s' = s ∧ PS s)
    (List.foldl_rel (r := fun s s' => s' = s ∧ PS s) ⟨rfl, h0⟩ fun f _ _ _ ⟨e, h⟩ => ⟨by rw [e], hins _ _ h⟩)
    fun pe hpe st _ hst => ?_
  refine List.foldl_rel (r := fun s s' => s' = s ∧ PS s) hst fun e he _ _ ⟨hs, h⟩ => ?_
  subst hs
  exact (S pe hpe e he).entry fuel pe.1 e h (fun er => hset _ er h) (fun tbl => hin pe.1 e _ tbl h) (hout pe.1 e)
    (hroot pe.1 e) (hforced pe.1 e)

/-! ## one run: invariants -/

structure Inv (m : Bool) (fs : FS) (pfs : ParsedFS) (P : World → Prop) (Q : String → Prop) : Prop where
  setErr : ∀ {w} e, P w → P (w.setErr e)
  setPlat : ∀ {w} ts, P w → (∀ x ∈ w.plat.skip, x ∈ ts.2) → P (w.setPlat ts)
  lookup : ∀ {w} file idx line name sys, P w → P (w.lookup m fs file idx line name sys).2
  insertFile : ∀ {w} f, P w → P { w with st := w.st.insertFile pfs f }
  record : ∀ {w} file out, Q file → P w → P ((opsWith m fs pfs).record w file out)
  next : ∀ {w} file idx n ps inc, Q file → P w → pfs.node file idx = some n → n.kind = .include →
    includeTarget w.plat.tbl n.toks = .ok ps → (w.lookup m fs file idx (n.lines.headD 0) ps.1 ps.2).1 = some inc →
    Q (fs.realpath inc)

section
variable {m : Bool} {fs : FS} {pfs : ParsedFS} {P : World → Prop} {Q : String → Prop}

theorem Inv.steps (I : Inv m fs pfs P Q) : Steps m m fs pfs (Diag P) Q where
  ctl := fun ⟨rfl, _⟩ => ⟨rfl, rfl, rfl⟩
  setErr er := fun ⟨rfl, h⟩ => ⟨rfl, I.setErr er h⟩
  setPlat ts := fun ⟨rfl, h⟩ hs => ⟨rfl, I.setPlat ts h hs⟩
  lookup file idx line name sys := fun ⟨rfl, h⟩ => ⟨rfl, rfl, I.lookup file idx line name sys h⟩
  insertFile f := fun ⟨rfl, h⟩ => ⟨rfl, I.insertFile f h⟩
  record file out hq := fun ⟨rfl, h⟩ => ⟨rfl, I.record file out hq h⟩
  next file idx n ps inc hq := fun ⟨_, h⟩ => I.next file idx n ps inc hq h

theorem Inv.file (I : Inv m fs pfs P Q) (fuel : Nat) {file : String} (hq : Q file) {w : World} (h : P w) :
    P (assocFile (opsWith m fs pfs) fuel file w) :=
  (I.steps.file fuel hq ⟨rfl, h⟩).2

end

/-! ## the C18 invariant: warnings = unresolved visits, memo sound, ghost = compiler's rule -/

def unresolved (vs : List Visit) : List Visit := vs.filter fun v => v.spec.isNone

theorem unresolved_append (a b : List Visit) : unresolved (a ++ b) = unresolved a ++ unresolved b := by
  simp [unresolved]

/-- the ghost entry of a visit is the compiler's rule applied to what the directive requested -/
def Visit.ok (fs : FS) (v : Visit) : Prop :=
  v.spec = IncMemo.resolveM fs.env v.paths ⟨v.name, dirnameK v.file, v.sys⟩

structure StInv (fs : FS) (s : PState) : Prop where
  warns : s.warns = unresolved s.visits
  ghost : ∀ v ∈ s.visits, v.ok fs

structure WarnInv (fs : FS) (w : World) : Prop where
  sound : IncMemo.Sound IncMemo.Query.key (IncMemo.resolveM fs.env w.plat.incPaths) w.plat.memo
  st : StInv fs w.st

theorem StInv.empty (fs : FS) : StInv fs {} := ⟨rfl, fun _ h => nomatch h⟩

theorem StInv.insertFile {fs : FS} {s : PState} (h : StInv fs s) (pfs : ParsedFS) (f : String) :
    StInv fs (s.insertFile pfs f) := by
  obtain ⟨fa, fb, _⟩ := insertFile_frame s pfs f
  exact ⟨by rw [fa, fb]; exact h.warns, by rw [fb]; exact h.ghost⟩

theorem StInv.visit {fs : FS} {s : PState} (h : StInv fs s) (v : Visit) (hv : v.ok fs) :
    StInv fs { s with visits := s.visits ++ [v], warns := match v.spec with | none => s.warns ++ [v] | some _ => s.warns } := by
  refine ⟨?_, fun u hu => ?_⟩
  · rw [unresolved_append, ← h.warns]
    cases hs : v.spec <;> simp [unresolved, hs]
  · rcases List.mem_append.mp hu with hu | hu
    · exact h.ghost u hu
    · rw [List.mem_singleton.mp hu]; exact hv

theorem StInv.record {fs : FS} {s : PState} (h : StInv fs s) (out : List Nat) (f p : String) :
    StInv fs (out.foldl (fun s i => s.addAssoc f i p) s) := by
  obtain ⟨a, b, _⟩ := foldl_addAssoc_frame out s f p
  exact ⟨by rw [a, b]; exact h.warns, by rw [b]; exact h.ghost⟩

theorem WarnInv.setErr {fs : FS} {w : World} (h : WarnInv fs w) (e : Err) : WarnInv fs (w.setErr e) :=
  ⟨h.sound, ⟨h.st.warns, h.st.ghost⟩⟩

theorem lookupWith_true_spec (fs : FS) (paths : List String) (m : IncMemo.Memo IncMemo.Key) (q : IncMemo.Query)
    (h : IncMemo.Sound IncMemo.Query.key (IncMemo.resolveM fs.env paths) m) :
    (lookupWith true fs.env paths m q).1 = IncMemo.resolveM fs.env paths q ∧
    IncMemo.Sound IncMemo.Query.key (IncMemo.resolveM fs.env paths) (lookupWith true fs.env paths m q).2 := by
  simp only [lookupWith, if_true, IncMemo.find]
  exact IncMemo.findBy_spec _ _ (IncMemo.key_determines fs.env paths) m q h

theorem WarnInv.lookup {fs : FS} {w : World} (h : WarnInv fs w) (file : String) (idx line : Nat) (name : String) (sys : Bool) :
    WarnInv fs (w.lookup true fs file idx line name sys).2 := by
  obtain ⟨h1, h2⟩ := lookupWith_true_spec fs w.plat.incPaths w.plat.memo ⟨name, dirnameK file, sys⟩ h.sound
  refine ⟨h2, ?_⟩
  unfold World.lookup
  dsimp only
  rw [h1]
  exact h.st.visit ⟨file, idx, line, name, sys, w.plat.incPaths, _⟩ rfl

theorem warnInv (fs : FS) (pfs : ParsedFS) : Inv true fs pfs (WarnInv fs) (fun _ => True) where
  setErr e h := h.setErr e
  setPlat _ h _ := ⟨h.sound, h.st⟩
  lookup file idx line name sys h := h.lookup file idx line name sys
  insertFile f h := ⟨h.sound, h.st.insertFile pfs f⟩
  record file out _ h := ⟨h.sound, h.st.record out file _⟩
  next _ _ _ _ _ _ _ _ _ _ _ := trivial

theorem find_inv (fs : FS) (codebase : List String) (config : List (String × List Entry)) (fuel : Nat) :
    StInv fs (find fs codebase config fuel) :=
  (find_steps (R := fun _ _ => Diag (WarnInv fs)) (Q := fun _ _ _ => True)
    (fun _ _ _ _ => (warnInv fs (parseAll fs)).steps) codebase fuel (h0 := StInv.empty fs)
    (hins := fun _ f h => h.insertFile _ f) (hset := fun _ _ h => ⟨h.warns, h.ghost⟩)
    (hin := fun _ _ _ _ h => ⟨rfl, IncMemo.sound_nil _ _, h⟩) (hout := fun _ _ _ _ ⟨e, h⟩ => ⟨by rw [e], h.st⟩)
    (hroot := fun _ _ => trivial) (hforced := fun _ _ _ _ _ _ _ _ _ => trivial)).2

/-! ## `#pragma once`: the once-list only grows -/
theorem skipHas (m : Bool) (fs : FS) (pfs : ParsedFS) (x : String) :
    Inv m fs pfs (fun w => x ∈ w.plat.skip) (fun _ => True) where
  setErr _ h := h
  setPlat _ h hs := hs x h
  lookup _ _ _ _ _ h := h
  insertFile _ h := h
  record _ _ _ h := h
  next _ _ _ _ _ _ _ _ _ _ _ := trivial

end CbiVerif.Inc
