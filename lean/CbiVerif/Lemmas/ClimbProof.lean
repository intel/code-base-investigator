import CbiVerif.Model.Climb
/-! Correctness of the generic precedence-climbing definition (`Model/Climb.lean`) for every table satisfying `TableOK`.

    The parser with fuel `f + 1` is one round (`andThen`, `loopF`, `primaryF`: written with the two ways the parser
    continues after a recursive call, `andThen` and `expect`) over the parser with fuel `f`, and one unfolding is stated
    per form of input.  A relation between results that `andThen` respects is kept by a round (`Respects.loopF`,
    `Respects.primaryF`), hence holds between two runs by induction on the fuel: more fuel (`mono_all`), flags erased
    (`EvalFlags.erase_all`), the prototype's definition against this one (`Climb2.sim`).
    The climbing invariant (`main_fuel`) carries the fuel explicitly and is stated for any class `C` of continuations the
    leaf parser accepts (`WFc`): `Ast.WF` is `C = noLP` (`main_lemma`, `climb_correct`), the prototype `Climb2` needs
    `C` = all. -/
namespace CbiVerif.Climb
open CbiVerif.PP
variable {V : Type} (O : EvOps V)

/-! ### the two ways the parser continues after a recursive call -/

def andThen {ε V W : Type} (x : Except ε (V × List Tok)) (k : V → List Tok → Except ε W) : Except ε W :=
  match x with
  | .ok (v, r) => k v r
  | .error e => .error e

def expect {ε W : Type} (pe : ε) (p : Tok → Bool) (k : List Tok → Except ε W) : List Tok → Except ε W
  | c :: r => if p c then k r else .error pe
  | [] => .error pe

/-! ### one round of the parser

`loopF` and `primaryF` are the bodies of `loop` and `primary` over the recursive calls `E`, `L` (that of `expr` is
`andThen`), so that the parser with fuel `f + 1` is one round over the parser with fuel `f`.  Of `O` they read the table
and the operations; the leaf parser `lf` and the parse error `pe` are arguments, at any error type, because the
prototype `Climb2` has its own. -/

variable {ε ε' : Type}

section
variable (pe : ε) (E : Nat → List Tok → Except ε (V × List Tok))

def loopF (L : Nat → V → List Tok → Except ε (V × List Tok)) (m : Nat) (v : V) : List Tok → Except ε (V × List Tok)
  | [] => .ok (v, [])
  | t :: rest =>
    match O.binInfo t.text with
    | some (p, ra) =>
      if p ≥ m then
        if t.kind != .op then .error pe
        else if t.text == "?" then
          andThen (E 0 rest) fun tv => expect pe (isOp · ":") fun rest2 =>
            andThen (E (if ra then p else p + 1) rest2) fun ev => L m (O.tern v tv ev)
        else andThen (E (if ra then p else p + 1) rest) fun r => L m (O.bin t.text v r)
      else .ok (v, t :: rest)
    | none => .ok (v, t :: rest)

def primaryF (lf : List Tok → Except ε (V × List Tok)) : List Tok → Except ε (V × List Tok)
  | [] => .error pe
  | t :: rest =>
    if t.kind == .op then
      match O.unPrec t.text with
      | some q => andThen (E q rest) fun v rest2 => .ok (O.un t.text v, rest2)
      | none => .error pe
    else if isPunct t "(" then
      andThen (E 0 rest) fun v => expect pe (isPunct · ")") fun rest2 => .ok (v, rest2)
    else lf (t :: rest)

end

theorem expr_succ (f m : Nat) (ts : List Tok) : expr O (f+1) m ts = andThen (primary O f ts) (loop O f m) := by
  rw [expr]; cases primary O f ts <;> rfl

theorem loop_succ (f m : Nat) (v : V) (ts : List Tok) :
    loop O (f+1) m v ts = loopF O .parse (expr O f) (loop O f) m v ts := by
  match ts with
  | [] => rfl
  | t :: rest =>
    rw [loop, loopF]
    cases O.binInfo t.text with
    | none => rfl
    | some pa =>
      obtain ⟨p, ra⟩ := pa
      -- the two sides differ only in how they take the results of the recursive calls apart
      cases t.text == "?"
      · simp only [Bool.false_eq_true, if_false]
        cases expr O f (if ra then p else p + 1) rest <;> rfl
      · simp only [if_true]
        rcases expr O f 0 rest with e | ⟨tv, _ | ⟨c, rest2⟩⟩
        · rfl
        · rfl
        · simp only [andThen, expect]
          cases expr O f (if ra then p else p + 1) rest2 <;> rfl

theorem primary_succ (f : Nat) (ts : List Tok) : primary O (f+1) ts = primaryF O .parse (expr O f) O.leaf ts := by
  match ts with
  | [] => rfl
  | t :: rest =>
    rw [primary, primaryF]
    cases t.kind == TKind.op
    · simp only [Bool.false_eq_true, if_false]
      rcases expr O f 0 rest with e | ⟨tv, _ | ⟨c, rest2⟩⟩ <;> rfl
    · simp only [if_true]
      cases O.unPrec t.text with
      | none => rfl
      | some q => simp only; cases expr O f q rest <;> rfl

/-! ### one unfolding per form of input -/

theorem loop_nil (f m : Nat) (v : V) : loop O (f+1) m v [] = .ok (v, []) := by rw [loop]

theorem loop_stop_cons {f m : Nat} {v : V} {t : Tok} {rest : List Tok}
    (h : ∀ p ra, O.binInfo t.text = some (p, ra) → ¬ p ≥ m) : loop O (f+1) m v (t :: rest) = .ok (v, t :: rest) := by
  rw [loop]
  cases hb : O.binInfo t.text with
  | none => rfl
  | some pa => simp only [if_neg (h pa.1 pa.2 hb)]

theorem loop_kind {f m : Nat} {v : V} {t : Tok} {rest : List Tok} {p : Nat} {ra : Bool}
    (hb : O.binInfo t.text = some (p, ra)) (hm : p ≥ m) (hk : t.kind ≠ .op) :
    loop O (f+1) m v (t :: rest) = .error .parse := by
  have hk' : (t.kind != TKind.op) = true := bne_iff_ne.mpr hk
  simp only [loop, hb, hm, hk', if_true]

theorem loop_tern {f m : Nat} {v : V} {t : Tok} {rest : List Tok} {p : Nat} {ra : Bool}
    (hb : O.binInfo t.text = some (p, ra)) (hm : p ≥ m) (hk : t.kind = .op) (hq : t.text = "?") :
    loop O (f+1) m v (t :: rest) =
      andThen (expr O f 0 rest) fun tv => expect .parse (isOp · ":") fun rest2 =>
        andThen (expr O f (if ra then p else p + 1) rest2) fun ev => loop O f m (O.tern v tv ev) := by
  have hk' : (t.kind != TKind.op) = false := by rw [hk]; rfl
  have hq' : (t.text == "?") = true := by rw [hq]; rfl
  simp only [loop_succ, loopF, hb, hm, hk', hq', if_true, Bool.false_eq_true, if_false]

theorem loop_bin {f m : Nat} {v : V} {t : Tok} {rest : List Tok} {p : Nat} {ra : Bool}
    (hb : O.binInfo t.text = some (p, ra)) (hm : p ≥ m) (hk : t.kind = .op) (hq : t.text ≠ "?") :
    loop O (f+1) m v (t :: rest) =
      andThen (expr O f (if ra then p else p + 1) rest) fun r => loop O f m (O.bin t.text v r) := by
  have hk' : (t.kind != TKind.op) = false := by rw [hk]; rfl
  have hq' : (t.text == "?") = false := beq_eq_false_iff_ne.mpr hq
  simp only [loop_succ, loopF, hb, hm, hk', hq', if_true, Bool.false_eq_true, if_false]

theorem primary_nil (f : Nat) : primary O (f+1) [] = .error .parse := by rw [primary]

theorem primary_op {f : Nat} {t : Tok} {rest : List Tok} (hk : t.kind = .op) :
    primary O (f+1) (t :: rest) =
      match O.unPrec t.text with
      | some q => andThen (expr O f q rest) fun v rest2 => .ok (O.un t.text v, rest2)
      | none => .error .parse := by
  have hk' : (t.kind == TKind.op) = true := by rw [hk]; rfl
  simp only [primary_succ, primaryF, hk', if_true]

theorem primary_paren {f : Nat} {t : Tok} {rest : List Tok} (hk : t.kind ≠ .op) (hp : isPunct t "(" = true) :
    primary O (f+1) (t :: rest) =
      andThen (expr O f 0 rest) fun v => expect .parse (isPunct · ")") fun rest2 => .ok (v, rest2) := by
  have hk' : (t.kind == TKind.op) = false := beq_eq_false_iff_ne.mpr hk
  simp only [primary_succ, primaryF, hk', hp, if_true, Bool.false_eq_true, if_false]

theorem primary_leaf {f : Nat} {t : Tok} {rest : List Tok} (hk : t.kind ≠ .op) (hp : isPunct t "(" = false) :
    primary O (f+1) (t :: rest) = O.leaf (t :: rest) := by
  have hk' : (t.kind == TKind.op) = false := beq_eq_false_iff_ne.mpr hk
  simp only [primary, hk', hp, Bool.false_eq_true, if_false]

/-! ### a relation that `andThen` respects holds between two runs of the parser -/

theorem isOp_key {c c' : Tok} (hk : c'.kind = c.kind) (ht : c'.text = c.text) (s : String) : isOp c' s = isOp c s := by
  rw [isOp, isOp, hk, ht]
theorem isPunct_key {c c' : Tok} (hk : c'.kind = c.kind) (ht : c'.text = c.text) (s : String) :
    isPunct c' s = isPunct c s := by rw [isPunct, isPunct, hk, ht]

/-- `R` relates a result on `ts` to a result on `ρ ts`, where `ρ` keeps kind and text of every token: the same value
    with the rest under `ρ`, the two parse errors, and `andThen` carries it on -/
structure Respects (ρ : List Tok → List Tok) (pe : ε) (pe' : ε')
    (R : Except ε (V × List Tok) → Except ε' (V × List Tok) → Prop) : Prop where
  nil : ρ [] = []
  cons : ∀ t r, ∃ t', ρ (t :: r) = t' :: ρ r ∧ t'.kind = t.kind ∧ t'.text = t.text
  ok : ∀ v r, R (.ok (v, r)) (.ok (v, ρ r))
  error : R (.error pe) (.error pe')
  andThen : ∀ {x x' k k'}, R x x' → (∀ v r, R (k v r) (k' v (ρ r))) → R (andThen x k) (andThen x' k')

namespace Respects
variable {O} {ρ : List Tok → List Tok} {pe : ε} {pe' : ε'} {R : Except ε (V × List Tok) → Except ε' (V × List Tok) → Prop}
  (h : Respects ρ pe pe' R)
include h

theorem expect {p : Tok → Bool} {k : List Tok → Except ε (V × List Tok)} {k' : List Tok → Except ε' (V × List Tok)}
    (hp : ∀ c c' : Tok, c'.kind = c.kind → c'.text = c.text → p c' = p c) (hk : ∀ r, R (k r) (k' (ρ r)))
    (ts : List Tok) : R (Climb.expect pe p k ts) (Climb.expect pe' p k' (ρ ts)) := by
  match ts with
  | [] => rw [h.nil]; exact h.error
  | c :: r =>
    obtain ⟨c', e, hc⟩ := h.cons c r
    rw [e]
    simp only [Climb.expect, hp c c' hc.1 hc.2]
    cases p c
    · exact h.error
    · exact hk r

variable {E : Nat → List Tok → Except ε (V × List Tok)} {E' : Nat → List Tok → Except ε' (V × List Tok)}
  (hE : ∀ m ts, R (E m ts) (E' m (ρ ts)))
include hE

theorem loopF {L : Nat → V → List Tok → Except ε (V × List Tok)} {L' : Nat → V → List Tok → Except ε' (V × List Tok)}
    (hL : ∀ m v ts, R (L m v ts) (L' m v (ρ ts))) (m : Nat) (v : V) (ts : List Tok) :
    R (Climb.loopF O pe E L m v ts) (Climb.loopF O pe' E' L' m v (ρ ts)) := by
  match ts with
  | [] => have := h.ok v []; rw [h.nil] at this ⊢; exact this
  | t :: rest =>
    obtain ⟨t', e, hk, ht⟩ := h.cons t rest
    have hstop := e ▸ h.ok v (t :: rest)
    rw [e, Climb.loopF, Climb.loopF, hk, ht]
    cases O.binInfo t.text with
    | none => exact hstop
    | some pa =>
      by_cases hm : pa.1 ≥ m
      · simp only [if_pos hm]
        cases t.kind != TKind.op
        · cases t.text == "?"
          · exact h.andThen (hE _ rest) fun r => hL m _
          · exact h.andThen (hE 0 rest) fun tv => h.expect (fun _ _ hk ht => isOp_key hk ht ":") fun r2 =>
              h.andThen (hE _ r2) fun ev => hL m _
        · exact h.error
      · simp only [if_neg hm]; exact hstop

theorem primaryF {lf : List Tok → Except ε (V × List Tok)} {lf' : List Tok → Except ε' (V × List Tok)}
    (hlf : ∀ ts, R (lf ts) (lf' (ρ ts))) (ts : List Tok) :
    R (Climb.primaryF O pe E lf ts) (Climb.primaryF O pe' E' lf' (ρ ts)) := by
  match ts with
  | [] => rw [h.nil]; exact h.error
  | t :: rest =>
    obtain ⟨t', e, hk, ht⟩ := h.cons t rest
    have hleaf := e ▸ hlf (t :: rest)
    rw [e, Climb.primaryF, Climb.primaryF, hk, ht, isPunct_key hk ht]
    cases t.kind == TKind.op
    · cases isPunct t "("
      · exact hleaf
      · exact h.andThen (hE 0 rest) fun v => h.expect (fun _ _ hk ht => isPunct_key hk ht ")") fun r => h.ok v r
    · cases O.unPrec t.text with
      | none => exact h.error
      | some q => exact h.andThen (hE q rest) fun v r => h.ok _ r

end Respects

/-! ### more fuel does not change a result -/

def Extends {ε α : Type} (x y : Except ε α) : Prop := ∀ r, x = .ok r → y = .ok r

theorem andThen_extends {ε V W : Type} {x y : Except ε (V × List Tok)} {k k' : V → List Tok → Except ε W}
    (h : Extends x y) (hk : ∀ v r, Extends (k v r) (k' v r)) : Extends (andThen x k) (andThen y k') := by
  intro r hr
  cases x with
  | error e => cases hr
  | ok vr => rw [h vr rfl]; exact hk _ _ r hr

theorem respects_extends (pe : ε) : Respects (V := V) id pe pe Extends where
  nil := rfl
  cons t _ := ⟨t, rfl, rfl, rfl⟩
  ok _ _ _ h := h
  error := nofun
  andThen := andThen_extends

theorem mono_all : ∀ f,
    (∀ m ts r, expr O f m ts = .ok r → expr O (f+1) m ts = .ok r) ∧
    (∀ m v ts r, loop O f m v ts = .ok r → loop O (f+1) m v ts = .ok r) ∧
    (∀ ts r, primary O f ts = .ok r → primary O (f+1) ts = .ok r) := by
  intro f
  induction f with
  | zero => exact ⟨nofun, nofun, nofun⟩
  | succ f ih =>
    obtain ⟨ihe, ihl, ihp⟩ := ih
    refine ⟨fun m ts => ?_, fun m v ts => ?_, fun ts => ?_⟩
    · rw [expr_succ, expr_succ]; exact andThen_extends (ihp ts) (ihl m)
    · rw [loop_succ, loop_succ]; exact (respects_extends _).loopF ihe ihl m v ts
    · rw [primary_succ, primary_succ]; exact (respects_extends _).primaryF ihe (fun _ _ h => h) ts

theorem expr_mono {f f' m ts r} (h : expr O f m ts = .ok r) (hf : f ≤ f') : expr O f' m ts = .ok r := by
  induction hf with
  | refl => exact h
  | step _ ih => exact (mono_all O _).1 _ _ _ ih
theorem loop_mono {f f' m v ts r} (h : loop O f m v ts = .ok r) (hf : f ≤ f') : loop O f' m v ts = .ok r := by
  induction hf with
  | refl => exact h
  | step _ ih => exact (mono_all O _).2.1 _ _ _ _ ih

/-! ### where the loop stops -/

theorem leadPrec_op (s : String) (p : Nat) (ra : Bool) (rest : List Tok) (h : O.binInfo s = some (p, ra)) :
    leadPrec O (opTok s :: rest) = p := by rw [leadPrec, show (opTok s).text = s from rfl, h]

theorem loop_stop (g m : Nat) (v : V) (rest : List Tok) (h : leadPrec O rest < m) :
    loop O (g+1) m v rest = .ok (v, rest) := by
  cases rest with
  | nil => exact loop_nil O g m v
  | cons t r =>
    refine loop_stop_cons O fun p ra hb => ?_
    rw [leadPrec, hb] at h
    exact Nat.not_le.mpr h

/-- a token that is no binary operator (`)`, `:`) ends the loop at any level -/
theorem loop_stop_none (g m : Nat) (v : V) (t : Tok) (rest : List Tok) (h : O.binInfo t.text = none) :
    leadPrec O (t :: rest) = 0 ∧ loop O (g+1) m v (t :: rest) = .ok (v, t :: rest) :=
  ⟨by rw [leadPrec, h], loop_stop_cons O fun p ra hb => by rw [h] at hb; cases hb⟩

/-- at the top level the loop stops when nothing binary follows: every precedence of the table is at least 1 -/
theorem loop_stop0 (v : V) (rest : List Tok) (hr : leadPrec O rest = 0)
    (hpos : ∀ s p ra, O.binInfo s = some (p, ra) → 1 ≤ p) : loop O 1 0 v rest = .ok (v, rest) := by
  cases rest with
  | nil => exact loop_nil O 0 0 v
  | cons t r =>
    refine loop_stop_cons O fun p ra hb => ?_
    have hp : p = 0 := by rw [leadPrec, hb] at hr; exact hr
    exact absurd (Nat.le_trans (hpos _ p ra hb) (Nat.le_of_eq hp)) (Nat.not_succ_le_zero 0)

/-! ### the climbing invariant -/

theorem rbound_eq (a : Ast V) (h : 2 ≤ a.level) : a.rbound = a.level := by
  cases a <;> first | rfl | exact absurd h (Nat.not_succ_le_self 1)

/-- `Ast.WF` with the leaf parser accepting every continuation in `C`; `Ast.WF` is the case `C = noLP` -/
def WFc (C : List Tok → Prop) : Ast V → Prop
  | .leaf ts v => (∃ t r, ts = t :: r ∧ t.kind ≠ .op ∧ isPunct t "(" = false) ∧
      ∀ rest, C rest → O.leaf (ts ++ rest) = .ok (v, rest)
  | .paren a => WFc C a
  | .un s a => O.unPrec s = some 12 ∧ WFc C a ∧ 12 ≤ a.level
  | .bin s p l r => O.binInfo s = some (p, false) ∧ s ≠ "?" ∧ WFc C l ∧ WFc C r ∧ p ≤ l.level ∧ p + 1 ≤ r.level ∧ p ≤ l.rbound
  | .tern c t e => WFc C c ∧ WFc C t ∧ WFc C e ∧ 2 ≤ c.level ∧ 1 ≤ c.rbound

theorem wfc_noLP (a : Ast V) : a.WF O → WFc O noLP a := by
  induction a with
  | leaf ts v => exact id
  | paren a ih => exact ih
  | un s a ih => exact fun h => ⟨h.1, ih h.2.1, h.2.2⟩
  | bin s p l r ihl ihr => exact fun h => ⟨h.1, h.2.1, ihl h.2.2.1, ihr h.2.2.2.1, h.2.2.2.2⟩
  | tern c t e ihc iht ihe => exact fun h => ⟨ihc h.1, iht h.2.1, ihe h.2.2.1, h.2.2.2⟩

theorem noLP_op (s : String) (rest : List Tok) : noLP (opTok s :: rest) := rfl
theorem noLP_rp (rest : List Tok) : noLP (rpTok :: rest) := rfl

variable (hT : TableOK O)
include hT

theorem leadPrec_le (ts : List Tok) : leadPrec O ts ≤ 11 := by
  cases ts with
  | nil => exact Nat.zero_le _
  | cons t r =>
    rw [leadPrec]
    cases hb : O.binInfo t.text with
    | none => exact Nat.zero_le _
    | some pa => exact (hT.range _ _ _ hb).2

theorem level_pos {C : List Tok → Prop} (a : Ast V) (h : WFc O C a) : 1 ≤ a.level := by
  cases a with
  | bin s p l r => exact (hT.range _ _ _ h.1).1
  | _ => exact Nat.le_add_left 1 _

/-- the climbing invariant with the fuel made explicit: `3 * a.size` more than the loop that follows needs -/
theorem main_fuel {C : List Tok → Prop} (hop : ∀ s rest, C (opTok s :: rest)) (hrp : ∀ rest, C (rpTok :: rest))
    (a : Ast V) : WFc O C a → ∀ (m : Nat) (rest : List Tok) (g : Nat) (r : V × List Tok),
    m ≤ a.level → leadPrec O rest ≤ a.rbound → C rest → loop O g m (a.eval O) rest = .ok r →
    expr O (g + 3 * a.size) m (a.render ++ rest) = .ok r := by
  induction a with
  | leaf ts v =>
    intro hwf m rest g r _ _ hnl hl
    obtain ⟨⟨t, tr, rfl, hk, hp⟩, hleaf⟩ := hwf
    show expr O (g + 2 + 1) m (t :: (tr ++ rest)) = .ok r
    rw [expr_succ, primary_leaf O hk hp]
    simp only [← List.cons_append, hleaf rest hnl]
    exact loop_mono O hl (Nat.le_add_right g 2)
  | paren a ih =>
    have e (g : Nat) : g + 3 * (Ast.paren a).size = (g + 1 + 3 * a.size) + 1 + 1 := by simp only [Ast.size]; omega
    intro hwf m rest g r _ _ _ hl
    have hrp0 := loop_stop_none O g 0 (a.eval O) rpTok rest hT.rparen
    have he := ih hwf 0 (rpTok :: rest) (g + 1) _ (Nat.zero_le _) (hrp0.1 ▸ Nat.zero_le _) (hrp rest) hrp0.2
    rw [e, expr_succ, show (Ast.paren a).render ++ rest = lpTok :: (a.render ++ rpTok :: rest) by
      simp only [Ast.render, List.cons_append, List.append_assoc, List.nil_append],
      primary_paren O (by decide) rfl, he]
    exact loop_mono O hl (Nat.le_add_right_of_le (Nat.le_add_right_of_le (Nat.le_add_right g 1)))
  | un s a ih =>
    have e (g : Nat) : g + 3 * (Ast.un s a).size = (g + 1 + 3 * a.size) + 1 + 1 := by simp only [Ast.size]; omega
    intro hwf m rest g r _ _ hnl hl
    obtain ⟨hu, hwa, hla⟩ := hwf
    have hlp := leadPrec_le O hT rest
    have he := ih hwa 12 rest (g + 1) (a.eval O, rest) hla (by rw [rbound_eq a (by omega)]; omega) hnl
      (loop_stop O g 12 _ rest (by omega))
    rw [e, expr_succ, show (Ast.un s a).render ++ rest = opTok s :: (a.render ++ rest) from rfl, primary_op O rfl]
    simp only [show (opTok s).text = s from rfl, hu, he]
    exact loop_mono O hl (Nat.le_add_right_of_le (Nat.le_add_right_of_le (Nat.le_add_right g 1)))
  | bin s p l r ihl ihr =>
    have e (g : Nat) : g + 1 + 3 * r.size + 1 + 3 * l.size ≤ g + 3 * (Ast.bin s p l r).size := by
      simp only [Ast.size]; omega
    intro hwf m rest g res hm hlead hnl hl
    obtain ⟨hb, hq, hwl, hwr, hll, hlr, hlb⟩ := hwf
    have hm : m ≤ p := hm
    have hlead : leadPrec O rest ≤ p := hlead
    have hp1 := (hT.range _ _ _ hb).1
    have her := ihr hwr (p+1) rest (g + 1) (r.eval O, rest) hlr (by rw [rbound_eq r (by omega)]; omega)
      hnl (loop_stop O g (p+1) _ rest (Nat.lt_succ_of_le hlead))
    have hloop : loop O (g + 1 + 3 * r.size + 1) m (l.eval O) (opTok s :: (r.render ++ rest)) = .ok res := by
      rw [loop_bin O (t := opTok s) hb hm rfl hq, if_neg Bool.false_ne_true, her]
      exact loop_mono O hl (Nat.le_add_right_of_le (Nat.le_add_right g 1))
    have hel := ihl hwl m (opTok s :: (r.render ++ rest)) _ res (Nat.le_trans hm hll)
      (by rw [leadPrec_op O s p false _ hb]; exact hlb) (hop s _) hloop
    rw [show (Ast.bin s p l r).render ++ rest = l.render ++ opTok s :: (r.render ++ rest) by
      simp only [Ast.render, List.append_assoc, List.cons_append]]
    exact expr_mono O hel (e g)
  | tern c t e ihc iht ihe =>
    have a3 (g : Nat) : g + (1 + 3 * t.size) + (1 + 3 * e.size) + 1 + 3 * c.size ≤ g + 3 * (Ast.tern c t e).size := by
      simp only [Ast.size]; omega
    intro hwf m rest g res hm hlead hnl hl
    obtain ⟨hwc, hwt, hwe, hlc, hcb⟩ := hwf
    have hm : m ≤ 1 := hm
    have hlead : leadPrec O rest ≤ 0 := hlead
    have hee := ihe hwe 1 rest 1 (e.eval O, rest) (level_pos O hT e hwe) (by omega) hnl
      (loop_stop O 0 1 _ rest (Nat.lt_succ_of_le hlead))
    have hc0 := loop_stop_none O 0 0 (t.eval O) (opTok ":") (e.render ++ rest) hT.colon
    have het := iht hwt 0 (opTok ":" :: (e.render ++ rest)) 1 _ (Nat.zero_le _) (hc0.1 ▸ Nat.zero_le _) (hop ":" _) hc0.2
    have hloop : loop O (g + (1 + 3 * t.size) + (1 + 3 * e.size) + 1) m (c.eval O)
        (opTok "?" :: (t.render ++ opTok ":" :: (e.render ++ rest))) = .ok res := by
      rw [loop_tern O (t := opTok "?") hT.quest hm rfl rfl,
        expr_mono O het (Nat.le_add_right_of_le (Nat.le_add_left _ g))]
      show andThen (expr O _ 1 (e.render ++ rest)) _ = _
      rw [expr_mono O hee (Nat.le_add_left _ _)]
      exact loop_mono O hl (Nat.le_add_right_of_le (Nat.le_add_right g _))
    have hec := ihc hwc m _ _ res (Nat.le_trans hm (Nat.le_of_succ_le hlc))
      (by rw [leadPrec_op O "?" 1 true _ hT.quest]; exact hcb) (hop "?" _) hloop
    rw [show (Ast.tern c t e).render ++ rest = c.render ++ opTok "?" :: (t.render ++ opTok ":" :: (e.render ++ rest)) by
      simp only [Ast.render, List.append_assoc, List.cons_append]]
    exact expr_mono O hec (a3 g)

theorem main_lemma (a : Ast V) : a.WF O → ∀ (m : Nat) (rest : List Tok) (g : Nat) (r : V × List Tok),
    m ≤ a.level → leadPrec O rest ≤ a.rbound → noLP rest → loop O g m (a.eval O) rest = .ok r →
    ∃ f, f ≤ g + 3 * a.size ∧ expr O f m (a.render ++ rest) = .ok r :=
  fun hwf m rest g r hm hlead hnl hl =>
    ⟨_, Nat.le_refl _, main_fuel O hT noLP_op noLP_rp a (wfc_noLP O a hwf) m rest g r hm hlead hnl hl⟩

/-- at the top level (`m = 0`, nothing binary follows) the fuel `1 + 3 * a.size` suffices -/
theorem climb_fuel {C : List Tok → Prop} (hop : ∀ s rest, C (opTok s :: rest)) (hrp : ∀ rest, C (rpTok :: rest))
    (a : Ast V) (h : WFc O C a) (rest : List Tok) (hr : leadPrec O rest = 0) (hC : C rest) :
    expr O (1 + 3 * a.size) 0 (a.render ++ rest) = .ok (a.eval O, rest) :=
  main_fuel O hT hop hrp a h 0 rest 1 _ (Nat.zero_le _) (by omega) hC
    (loop_stop0 O _ rest hr fun _ _ _ hb => (hT.range _ _ _ hb).1)

-- Any parse tree of the table-induced grammar, with leaves accepted by the leaf parser, is evaluated by the
-- climbing parser to its value, consuming exactly its tokens, without running out of fuel.
theorem climb_correct (a : Ast V) (h : a.WF O) (rest : List Tok) (hr : leadPrec O rest = 0) (hnl : noLP rest) :
    ∃ f, f ≤ 3 * a.size + 1 ∧ expr O f 0 (a.render ++ rest) = .ok (a.eval O, rest) :=
  ⟨_, Nat.le_of_eq (Nat.add_comm _ _), climb_fuel O hT noLP_op noLP_rp a (wfc_noLP O a h) rest hr hnl⟩

end CbiVerif.Climb
