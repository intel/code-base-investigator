import CbiVerif.Model.EnginesAgreeF
import CbiVerif.Lemmas.EnginesAgreeSim
/-! Helper lemmas for `Props/C04Engines.lean` and `Props/C04EnginesForced.lean`: the `-include` loop of the two engines
(`Exclude.runForcedRef` against the fold of `Inc.forcedWith`), one database entry, all entries of all platforms. -/
namespace CbiVerif.Engines
open CbiVerif.PP CbiVerif.Exclude CbiVerif.Cond CbiVerif.MF

/-- outcome of the two engines inside one entry: one of them failed, or the worlds are related -/
def F3 (E : String → Nat → String → Prop) (name : String) (l : Local) (w : Inc.World) : Prop :=
  l.err ≠ none ∨ w.st.err ≠ none ∨ RelW E name l w

/-- failure is sticky in the `-include` loop of `Model/Exclude.lean` … -/
theorem runForcedRef_err (S : Exclude.Sem) (n : Nat) (dir : String) (incs : List String) (l : Local) (h : l.err ≠ none) :
    runForcedRef S n dir incs l = l := by
  cases incs with
  | nil => rfl
  | cons inc rest =>
    unfold runForcedRef
    cases he : l.err with
    | none => exact absurd he h
    | some e => rfl

/-- … and in the one of `Model/FindInc.lean` -/
theorem forcedFold_errW (fs : Inc.FS) (pfs : Inc.ParsedFS) (fuel : Nat) (src : String) (incs : List String) (w : Inc.World)
    (h : ErrW w) : ErrW (incs.foldl (Inc.forcedWith true (assocFile (Inc.ops fs pfs) fuel) fs pfs src) w) :=
  List.foldlRecOn incs _ h fun _ hw inc _ => ((errW true fs pfs).steps.forced fuel src inc (fun _ _ => trivial) ⟨rfl, hw⟩).2

/-- every existing file is C-family by extension: a file entered without includer is parsed by the C front end -/
theorem allC_ref (fs : Inc.FS) (hall : FindInst.AllC fs.files = true) (g : String) (text : String)
    (hg : fs.files.get g = some text) : (Exclude.sem fs.files).refClass g none = some .c := by
  simp [Exclude.Sem.refClass, Exclude.sem, FindEngines.allC_ext hall (g := g) (by rw [hg]; rfl)]

/-- one `-include` file: the step of `Exclude.runForcedRef` against `Inc.forcedWith`, from related worlds -/
theorem forced_one (fs : Inc.FS) (hl : fs.links = []) (hfam : FindInst.CFam fs.files = true) (hT : TreesOK)
    (hall : FindInst.AllC fs.files = true) (n fuel : Nat) (name src : String) (E : String → Nat → String → Prop)
    (inc : String) (l : Local) (w : Inc.World) (hrel : RelW E name l w) :
    ∃ l', (∀ rest, runForcedRef (Exclude.sem fs.files) n (dirname src) (inc :: rest) l =
              runForcedRef (Exclude.sem fs.files) n (dirname src) rest l') ∧
      F3 E name l' (Inc.forcedWith true (assocFile (Inc.ops fs (Inc.parseAll fs)) fuel) fs (Inc.parseAll fs) src w inc) := by
  have hfinc : (Exclude.sem fs.files).findInc = findForced fs.files := rfl
  have hreq := request_rel fs hl (Inc.parseAll fs) hrel inc src false 0 0 rfl rfl
  rw [Inc.forcedWith_eq]
  simp only [runForcedRef, hrel.lerr, hrel.werr, hfinc, findForced, Option.isSome_none, Bool.false_eq_true, if_false] at hreq ⊢
  generalize l.plat.findInclude fs.files inc (dirname src) false = fi at *
  obtain ⟨r1, p2⟩ := fi
  cases r1 with
  | none =>
    simp only [] at hreq ⊢
    rw [hreq.1]
    exact ⟨_, fun rest => rfl, .inr (.inr hreq.2)⟩
  | some f =>
    simp only [] at hreq ⊢
    by_cases hsk : p2.skip.contains f = true
    · rw [if_pos hsk] at hreq ⊢
      simp only []
      rw [hreq.1]
      exact ⟨_, fun rest => rfl, .inr (.inr hreq.2)⟩
    · rw [if_neg hsk] at hreq ⊢
      simp only []
      rcases enterRef_cases fs { l with err := none, plat := p2 } f none (allC_ref fs hall f)
        with ⟨l1, hen, hl1⟩ | ⟨nodes, ts, dd, hpg, hb, hen⟩
      · refine ⟨l1, fun rest => ?_, .inl hl1⟩
        rw [hen]
        exact (runForcedRef_err _ _ _ _ _ hl1).symm
      · rw [hen]
        obtain ⟨h1, h2⟩ := hreq _ hpg
        rw [h1]
        refine ⟨_, fun rest => rfl, ?_⟩
        exact (file_agree fs hl hfam hT name fuel f n nodes ts dd E _ _ hpg hb h2).imp_right (.imp_right And.left)

/-- **the `-include` loop**: `Exclude.runForcedRef` against the fold of `Inc.forcedWith`, from related worlds -/
theorem forced_agree (fs : Inc.FS) (hl : fs.links = []) (hfam : FindInst.CFam fs.files = true) (hT : TreesOK)
    (n fuel : Nat) (name src : String) (E : String → Nat → String → Prop) :
    ∀ (incs : List String), (incs ≠ [] → FindInst.AllC fs.files = true) → ∀ (l : Local) (w : Inc.World), F3 E name l w →
    F3 E name (runForcedRef (Exclude.sem fs.files) n (dirname src) incs l)
      (incs.foldl (Inc.forcedWith true (assocFile (Inc.ops fs (Inc.parseAll fs)) fuel) fs (Inc.parseAll fs) src) w)
  | [], _, l, w, h => by simpa [runForcedRef] using h
  | inc :: rest, hA, l, w, h => by
    have hall : FindInst.AllC fs.files = true := hA (by simp)
    have hrest : rest ≠ [] → FindInst.AllC fs.files = true := fun _ => hall
    rcases h with h | h | hrel
    · rw [runForcedRef_err _ _ _ _ _ h]; exact .inl h
    · exact .inr (.inl (forcedFold_errW fs _ fuel src _ w h))
    · simp only [List.foldl_cons]
      obtain ⟨l', h1, h2⟩ := forced_one fs hl hfam hT hall n fuel name src E inc l w hrel
      rw [h1 rest]
      exact forced_agree fs hl hfam hT n fuel name src E rest hrest l' _ h2

theorem defineAll_eq (ds : List String) (p : PP.Platform) :
    defineAll ds p = (Inc.buildDefines ds p.tbl).map fun t => { p with tbl := t } := by
  induction ds generalizing p with
  | nil => rfl
  | cons d ds ih =>
    simp only [defineAll, Inc.buildDefines]
    cases macroFromDefinitionString d with
    | error e => rfl
    | ok mc =>
      simp only []
      rw [ih]
      split <;> rfl

/-- outcome of the two engines at the level of whole entries: one of them failed, or both are fine and attribute alike -/
def Top3 (l : Local) (st : Inc.PState) : Prop :=
  l.err ≠ none ∨ st.err ≠ none ∨ (l.err = none ∧ st.err = none ∧ ∀ f i p, Has l.assoc f i p ↔ Has st.assoc f i p)

theorem Top3.agree {l st} (h : Top3 l st) (hl : l.err = none) (hs : st.err = none) :
    ∀ f i p, Has l.assoc f i p ↔ Has st.assoc f i p :=
  h.elim (absurd hl) fun h => h.elim (absurd hs) fun h => h.2.2

theorem entry_top (fs : Inc.FS) (hl : fs.links = []) (hfam : FindInst.CFam fs.files = true) (hT : TreesOK) (n fuel : Nat)
    (pname : String) (e : Entry) (hext : extClass e.file = some .c)
    (hforced : e.includeFiles ≠ [] → FindInst.AllC fs.files = true)
    (l : Local) (st : Inc.PState) (h : Top3 l st) :
    Top3 (runEntryRef (Exclude.sem fs.files) n pname e l)
      (Inc.runEntryWith true (assocFile (Inc.ops fs (Inc.parseAll fs)) fuel) fs (Inc.parseAll fs) pname st e) := by
  -- either engine returns at once when its flag is set, here and after the `-include` loop
  unfold runEntryRef Inc.runEntryWith
  cases hle : l.err with
  | some _ => exact .inl (by simp [hle])
  | none =>
    cases hse : st.err with
    | some _ => exact .inr (.inl (by simp [hse]))
    | none =>
      have hatt := ((h.resolve_left (· hle)).resolve_left (· hse)).2.2
      simp only [Option.isSome_none, Bool.false_eq_true, if_false]
      rw [show (Exclude.sem fs.files).mkPlat pname e = defineAll e.defines { name := pname, incPaths := e.includePaths } from rfl,
        defineAll_eq]
      cases hbd : Inc.buildDefines e.defines ([] : Table) with
      | error er => left; simp [Except.map, Local.fail]
      | ok tbl =>
        simp only [Except.map]
        rw [Inc.realpath_id fs hl]
        have hf := forced_agree fs hl hfam hT n fuel pname e.file (fun _ _ _ => False) e.includeFiles hforced
          { l with err := none, plat := { name := pname, tbl := tbl, incPaths := e.includePaths }, taken := [] }
          { st := st, plat := { name := pname, tbl := tbl, incPaths := e.includePaths } }
          (.inr (.inr ⟨rfl, hse, rfl, rfl, fun f i p => by simp [hatt]⟩))
        generalize runForcedRef _ _ _ _ _ = lf at hf ⊢
        generalize List.foldl _ _ _ = wf at hf ⊢
        cases hlf : lf.err with
        | some _ => exact .inl (by simp [hlf])
        | none =>
          cases hwf : wf.st.err with
          | some _ => exact .inr (.inl (by simp [hwf]))
          | none =>
            have hrel := (hf.resolve_left (· hlf)).resolve_left (· hwf)
            simp only [Option.isSome_none, Bool.false_eq_true, if_false]
            rcases enterRef_cases fs lf e.file none (fun _ _ => by simp [Exclude.Sem.refClass, Exclude.sem, hext])
              with ⟨l1, hen, hl1⟩ | ⟨nodes, ts, dd, hpg, hb, hen⟩
            · rw [hen]; exact .inl hl1
            · rw [hen]
              exact (file_agree fs hl hfam hT pname fuel e.file n nodes ts dd _ _ _ hpg hb hrel).imp_right
                (.imp_right fun ⟨h, _⟩ => ⟨h.lerr, h.werr, fun f i p => (h.att f i p).trans (or_iff_left not_false)⟩)

theorem entries_top (fs : Inc.FS) (hl : fs.links = []) (hfam : FindInst.CFam fs.files = true) (hT : TreesOK) (n fuel : Nat)
    (pname : String) : ∀ (es : List Entry),
    (∀ e ∈ es, extClass e.file = some .c ∧ (e.includeFiles ≠ [] → FindInst.AllC fs.files = true)) →
    ∀ (l : Local) (st : Inc.PState), Top3 l st →
    Top3 (runEntriesRef (Exclude.sem fs.files) n pname es l)
      (es.foldl (Inc.runEntryWith true (assocFile (Inc.ops fs (Inc.parseAll fs)) fuel) fs (Inc.parseAll fs) pname) st)
  | [], _, l, st, h => by simpa [runEntriesRef] using h
  | e :: es, hes, l, st, h => by
    simp only [runEntriesRef, List.foldl_cons]
    exact entries_top fs hl hfam hT n fuel pname es (fun x hx => hes x (by simp [hx])) _ _
      (entry_top fs hl hfam hT n fuel pname e (hes e (by simp)).1 (hes e (by simp)).2 l st h)

theorem config_top (fs : Inc.FS) (hl : fs.links = []) (hfam : FindInst.CFam fs.files = true) (hT : TreesOK) (n fuel : Nat) :
    ∀ (cfg : List (String × List Entry)),
    (∀ pe ∈ cfg, ∀ e ∈ pe.2, extClass e.file = some .c ∧ (e.includeFiles ≠ [] → FindInst.AllC fs.files = true)) →
    ∀ (l : Local) (st : Inc.PState), Top3 l st →
    Top3 (runConfigRef (Exclude.sem fs.files) n cfg l)
      (cfg.foldl (fun st pe => pe.2.foldl
        (Inc.runEntryWith true (assocFile (Inc.ops fs (Inc.parseAll fs)) fuel) fs (Inc.parseAll fs) pe.1) st) st)
  | [], _, l, st, h => by simpa [runConfigRef] using h
  | (p, es) :: cfg, hc, l, st, h => by
    simp only [runConfigRef, List.foldl_cons]
    exact config_top fs hl hfam hT n fuel cfg (fun x hx => hc x (by simp [hx])) _ _
      (entries_top fs hl hfam hT n fuel p es (hc (p, es) (by simp)) l st h)

/-- the state `Inc.find` starts the entries in attributes nothing -/
theorem st0_assoc (pfs : Inc.ParsedFS) (fs : Inc.FS) (files : List String) (s : Inc.PState) :
    (files.foldl (fun s f => s.insertFile pfs (fs.realpath f)) s).assoc = s.assoc := by
  induction files generalizing s with
  | nil => rfl
  | cons f files ih => simp only [List.foldl_cons]; rw [ih, (Inc.insertFile_frame s pfs _).2.2]

theorem engOKF_spec (fs : Inc.FS) (cfg : List (String × List Entry)) (h : EngOKF fs cfg = true) :
    fs.links = [] ∧ FindInst.CFam fs.files = true ∧
    ∀ pe ∈ cfg, ∀ e ∈ pe.2, extClass e.file = some .c ∧ (e.includeFiles ≠ [] → FindInst.AllC fs.files = true) := by
  simp only [EngOKF, Bool.and_eq_true, Bool.or_eq_true, List.all_eq_true, List.isEmpty_iff, beq_iff_eq] at h
  refine ⟨h.1.1, h.1.2, fun pe hpe e he => ⟨(h.2 pe hpe e he).1, fun hne => ?_⟩⟩
  rcases (h.2 pe hpe e he).2 with h2 | h2
  · exact absurd h2 hne
  · exact h2

theorem engOK_spec (fs : Inc.FS) (cfg : List (String × List Entry)) (h : EngOK fs cfg = true) :
    fs.links = [] ∧ FindInst.CFam fs.files = true ∧
    ∀ pe ∈ cfg, ∀ e ∈ pe.2, extClass e.file = some .c ∧ e.includeFiles = [] := by
  simp only [EngOK, Bool.and_eq_true, List.all_eq_true, List.isEmpty_iff, beq_iff_eq] at h
  exact ⟨h.1.1, h.1.2, h.2⟩

/-- `EngOK` is the special case "no `-include` file" of `EngOKF` -/
theorem engOKF_of_engOK (fs : Inc.FS) (cfg : List (String × List Entry)) (h : EngOK fs cfg = true) : EngOKF fs cfg = true := by
  simp only [EngOK, EngOKF, Bool.and_eq_true, Bool.or_eq_true, List.all_eq_true, List.isEmpty_iff, beq_iff_eq] at h ⊢
  exact ⟨h.1, fun pe hpe e he => ⟨(h.2 pe hpe e he).1, .inl (h.2 pe hpe e he).2⟩⟩

theorem find_top (fs : Inc.FS) (cb : List String) (cfg : List (String × List Entry)) (n fuel : Nat) (hT : TreesOK)
    (hok : EngOKF fs cfg = true) : Top3 (runExclude fs cfg n) (Inc.find fs cb cfg fuel) := by
  obtain ⟨hl, hfam, hc⟩ := engOKF_spec fs cfg hok
  unfold runExclude findRef Inc.find Inc.findWith
  simp only []
  apply config_top fs hl hfam hT n fuel cfg hc
  by_cases he : (List.foldl (fun s f => s.insertFile (Inc.parseAll fs) (fs.realpath f)) ({} : Inc.PState)
      (cb ++ List.map (fun x => x.file) (List.flatMap (fun x => x.2) cfg))).err = none
  · refine .inr (.inr ⟨rfl, he, fun f i p => ?_⟩)
    rw [st0_assoc]
  · exact .inr (.inl he)

end CbiVerif.Engines
