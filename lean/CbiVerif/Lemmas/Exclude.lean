import CbiVerif.Lemmas.Engine
/-! Helper lemmas for C10: the tree cache of `find` is transparent as long as no language-mixing event occurs.  What one
`enter` does to any cache (`enter_spec`) makes the engine with the cache an instance of `Lift` (`lift_cached`); the loops
over entries and platforms and the pre-parse (`preparse_spec`) follow, and `find_spec` puts them together. -/
namespace CbiVerif.Exclude
open CbiVerif.PP

/-- every cached tree is what parsing the file under the recorded class yields -/
def Inv (S : Sem) (c : Cache) : Prop := ∀ g cl t, (g, cl, t) ∈ c → S.parseAs cl g = .ok t

/-- entries are never replaced -/
def CacheLe (c c' : Cache) : Prop := ∀ g x, c.look g = some x → c'.look g = some x

theorem CacheLe.refl (c : Cache) : CacheLe c c := fun _ _ h => h
theorem CacheLe.trans {a b c : Cache} (h1 : CacheLe a b) (h2 : CacheLe b c) : CacheLe a c :=
  fun g x h => h2 g x (h1 g x h)

theorem look_mem {c : Cache} {g : String} {cl : LClass} {t : Parsed} (h : c.look g = some (cl, t)) :
    (g, cl, t) ∈ c := by
  obtain ⟨e, hf, he⟩ := Option.map_eq_some_iff.mp h
  have hg : e.1 = g := by simpa using List.find?_some hf
  rw [← hg, ← he]
  exact List.mem_of_find?_eq_some hf

theorem look_append (c l : Cache) (g : String) : Cache.look (c ++ l) g = (c.look g).or (Cache.look l g) := by
  simp only [Cache.look, List.find?_append]
  cases List.find? (fun e => e.1 == g) c <;> rfl

theorem look_append_left {c l : Cache} {g : String} {x : LClass × Parsed} (h : c.look g = some x) :
    Cache.look (c ++ l) g = some x := by
  rw [look_append, h]; rfl

theorem look_append_new {c : Cache} {g : String} {cl : LClass} {t : Parsed} (h : c.look g = none) :
    Cache.look (c ++ [(g, cl, t)]) g = some (cl, t) := by
  rw [look_append, h]; simp [Cache.look]

theorem Inv.nil (S : Sem) : Inv S [] := by
  intro g cl t h; cases h

/-- what holds of every entry still holds after one more entry of which it holds -/
theorem Cache.all_snoc {P : String → LClass → Parsed → Prop} {c : Cache} {g : String} {cl : LClass} {t : Parsed}
    (h : ∀ g cl t, (g, cl, t) ∈ c → P g cl t) (hp : P g cl t) : ∀ g' cl' t', (g', cl', t') ∈ c ++ [(g, cl, t)] → P g' cl' t' := by
  intro g' cl' t' hm
  rcases List.mem_append.mp hm with hm | hm
  · exact h _ _ _ hm
  · simp at hm
    obtain ⟨rfl, rfl, rfl⟩ := hm
    exact hp

theorem Inv.snoc {S : Sem} {c : Cache} {g : String} {cl : LClass} {t : Parsed}
    (h : Inv S c) (hp : S.parseAs cl g = .ok t) : Inv S (c ++ [(g, cl, t)]) :=
  Cache.all_snoc h hp

theorem enter_cached {S : Sem} {w : XW} {g : String} {inh : Option LClass} {cl : LClass} {t : Parsed}
    (hl : w.cache.look g = some (cl, t)) :
    S.enter w g inh = ({ w with mixed := w.mixed ++ S.mixOf g cl inh }, some (cl, t)) := by
  simp only [Sem.enter, hl]

theorem enter_nolang {S : Sem} {w : XW} {g : String} {inh : Option LClass}
    (hl : w.cache.look g = none) (hc : S.inhOrExt g inh = none) :
    S.enter w g inh = (w.fail langErr, none) := by
  simp only [Sem.enter, hl, hc]

theorem enter_err {S : Sem} {w : XW} {g : String} {inh : Option LClass} {cl : LClass} {e : Err}
    (hl : w.cache.look g = none) (hc : S.inhOrExt g inh = some cl) (hp : S.parseAs cl g = .error e) :
    S.enter w g inh = ({ w with mixed := w.mixed ++ S.mixOf g cl inh, loc := w.loc.fail e }, none) := by
  simp only [Sem.enter, hl, hc, hp]

theorem enter_ok {S : Sem} {w : XW} {g : String} {inh : Option LClass} {cl : LClass} {t : Parsed}
    (hl : w.cache.look g = none) (hc : S.inhOrExt g inh = some cl) (hp : S.parseAs cl g = .ok t) :
    S.enter w g inh =
      ({ w with mixed := w.mixed ++ S.mixOf g cl inh, cache := w.cache ++ [(g, cl, t)] }, some (cl, t)) := by
  simp only [Sem.enter, hl, hc, hp]

/-- an `enter` that does not fail leaves the association state alone -/
theorem enter_loc {S : Sem} {w : XW} {g : String} {inh : Option LClass}
    (h : (S.enter w g inh).1.loc.err = none) : (S.enter w g inh).1.loc = w.loc := by
  revert h
  -- the cases of `Sem.enter` in its order: cached; no language; parse error; parsed and cached
  fun_cases Sem.enter S w g inh
  · exact fun _ => rfl
  · exact nofun
  · exact nofun
  · exact fun _ => rfl

theorem mixOf_nil {S : Sem} {g : String} {cl : LClass} {inh : Option LClass} (h : S.mixOf g cl inh = []) :
    S.refClass g inh = some cl := by
  unfold Sem.mixOf at h
  split at h
  · rename_i hrc; exact hrc.symm
  · simp at h

theorem refClass_none {S : Sem} {g : String} {inh : Option LClass} (hc : S.inhOrExt g inh = none) :
    S.refClass g inh = none := by
  unfold Sem.inhOrExt at hc
  cases inh with
  | some l => simp at hc
  | none => simp at hc; simp [Sem.refClass, hc]

theorem mixOf_ext {S : Sem} {g : String} {cl : LClass} (inh : Option LClass) (h : S.extClass g = some cl) :
    S.mixOf g cl inh = [] := by
  simp [Sem.mixOf, Sem.refClass, h]

theorem enter_spec (S : Sem) (w : XW) (g : String) (inh : Option LClass) (hI : Inv S w.cache) :
    Inv S (S.enter w g inh).1.cache ∧ CacheLe w.cache (S.enter w g inh).1.cache ∧
    ((S.enter w g inh).1.mixed = [] →
      w.mixed = [] ∧ ((S.enter w g inh).1.loc, (S.enter w g inh).2) = S.enterRef w.loc g inh) := by
  -- a class used without an event logged is the class the cache-free engine parses under
  have key : ∀ cl, w.mixed ++ S.mixOf g cl inh = [] → w.mixed = [] ∧ S.refClass g inh = some cl := fun cl hm => by
    simp only [List.append_eq_nil_iff] at hm
    exact ⟨hm.1, mixOf_nil hm.2⟩
  fun_cases Sem.enter S w g inh with
  | case1 cl t hl =>
    exact ⟨hI, CacheLe.refl _, fun hm =>
      ⟨(key cl hm).1, by simp only [Sem.enterRef, (key cl hm).2, hI _ _ _ (look_mem hl)]⟩⟩
  | case2 hl hc => exact ⟨hI, CacheLe.refl _, fun hm => ⟨hm, by simp [Sem.enterRef, refClass_none hc, XW.fail]⟩⟩
  | case3 hl cl hc e hp =>
    exact ⟨hI, CacheLe.refl _, fun hm => ⟨(key cl hm).1, by simp only [Sem.enterRef, (key cl hm).2, hp]⟩⟩
  | case4 hl cl hc t hp =>
    exact ⟨hI.snoc hp, fun g' x h => look_append_left h, fun hm =>
      ⟨(key cl hm).1, by simp only [Sem.enterRef, (key cl hm).2, hp]⟩⟩

/-- what a run from cache `c0` keeps of the cache -/
def Kept (S : Sem) (c0 : Cache) (w : XW) : Prop := Inv S w.cache ∧ CacheLe c0 w.cache

/-- the engine with the cache, from a cache that holds `c0`; a state is clean while the mixing log is empty.  So
`Tracks S.cached (cachedView S c0) w w' l` reads: `Kept S c0 w'`, and if `w'.mixed = []` then `w.mixed = []` and `w'.loc = l` -/
def cachedView (S : Sem) (c0 : Cache) : View XW := { J := Kept S c0, clean := fun w => w.mixed = [] }

theorem enterOK_cached (S : Sem) (c0 : Cache) (g : String) (inh : Option LClass) :
    EnterOK S.cached S (cachedView S c0) g inh := by
  intro w hJ
  obtain ⟨h1, h2, h3⟩ := enter_spec S w g inh hJ.1
  exact ⟨⟨h1, hJ.2.trans h2⟩, fun _ => trivial, fun _ _ _ => trivial, h3⟩

/-- the engine with the cache tracks the cache-free engine under the same record -/
theorem lift_cached (S : Sem) (c0 : Cache) : Lift S.cached S (cachedView S c0) :=
  .cached S (fun _ _ h => h) (fun _ _ h => h) fun g cl _ => enterOK_cached S c0 g (some cl)

theorem sim_entry (S : Sem) (n : Nat) (pname : String) (e : Entry) {c0 : Cache} (w : XW) (hw : Kept S c0 w) :
    Tracks S.cached (cachedView S c0) w (runEntry S n pname e w) (runEntryRef S n pname e w.loc) := by
  have h := (lift_cached S c0).entry n pname e w (fun _ _ _ f _ _ _ => enterOK_cached S _ f none)
    (enterOK_cached S _ e.file none) hw
  exact ⟨⟨h.1, trivial⟩, h.2⟩

theorem sim_entries (S : Sem) (n : Nat) (pname : String) {c0 : Cache} : ∀ (es : List Entry) (w : XW), Kept S c0 w →
    Tracks S.cached (cachedView S c0) w (runEntries S n pname es w) (runEntriesRef S n pname es w.loc)
  | [], _, hw => Tracks.same ⟨hw, trivial⟩
  | e :: es, w, hw =>
    have h1 := sim_entry S n pname e w hw
    Tracks.trans (fun l => runEntriesRef S n pname es l) h1 (sim_entries S n pname es _ h1.1.1)

theorem sim_config (S : Sem) (n : Nat) {c0 : Cache} : ∀ (cfg : List (String × List Entry)) (w : XW), Kept S c0 w →
    Tracks S.cached (cachedView S c0) w (runConfig S n cfg w) (runConfigRef S n cfg w.loc)
  | [], _, hw => Tracks.same ⟨hw, trivial⟩
  | (p, es) :: rest, w, hw =>
    have h1 := sim_entries S n p es w hw
    Tracks.trans (fun l => runConfigRef S n rest l) h1 (sim_config S n rest _ h1.1.1)

/-! pre-parsing: by extension only -/

/-- every cached file with an extension class is cached under that class -/
def ByExt (S : Sem) (c : Cache) : Prop := ∀ g cl t, (g, cl, t) ∈ c → S.extClass g = some cl

theorem enter_none_spec {S : Sem} {w : XW} {g : String} (hB : ByExt S w.cache)
    (h : (S.enter w g none).1.loc.err = none) :
    (S.enter w g none).1.mixed = w.mixed ∧ ByExt S (S.enter w g none).1.cache ∧
    ∃ cl t, S.extClass g = some cl ∧ (S.enter w g none).1.cache.look g = some (cl, t) := by
  revert h
  fun_cases Sem.enter S w g none with
  | case1 cl t hl =>
    have hx := hB _ _ _ (look_mem hl)
    exact fun _ => ⟨by simp only [mixOf_ext none hx, List.append_nil], hB, cl, t, hx, hl⟩
  | case2 hl hc => exact nofun
  | case3 hl cl hc e hp => exact nofun
  | case4 hl cl hc t hp =>
    have hx : S.extClass g = some cl := by simpa [Sem.inhOrExt] using hc
    exact fun _ => ⟨by simp only [mixOf_ext none hx, List.append_nil], Cache.all_snoc hB hx, cl, t, hx, look_append_new hl⟩

theorem preparse_of_err (S : Sem) (l : List String) (w : XW) {e : Err} (h : w.loc.err = some e) :
    preparse S l w = w := by
  cases l <;> simp [preparse, h]

/-- the pre-parse stops at the first failure and keeps it -/
theorem preparse_noerr {S : Sem} {fs : List String} {w : XW} (h : (preparse S fs w).loc.err = none) :
    w.loc.err = none := by
  cases h0 : w.loc.err with
  | none => rfl
  | some e => rw [preparse_of_err S fs w h0, h0] at h; cases h

theorem preparse_spec (S : Sem) : ∀ (fs : List String) (w : XW), Inv S w.cache → ByExt S w.cache →
    (preparse S fs w).loc.err = none →
    Inv S (preparse S fs w).cache ∧ ByExt S (preparse S fs w).cache ∧ CacheLe w.cache (preparse S fs w).cache ∧
    (preparse S fs w).loc = w.loc ∧ (preparse S fs w).mixed = w.mixed ∧
    ∀ f ∈ fs, ∃ cl t, S.extClass f = some cl ∧ (preparse S fs w).cache.look f = some (cl, t) := by
  intro fs
  induction fs with
  | nil => exact fun w hI hB _ => ⟨hI, hB, CacheLe.refl _, rfl, rfl, fun f hf => by cases hf⟩
  | cons f fs ih =>
    intro w hI hB herr
    have h0 := preparse_noerr herr
    simp only [preparse, h0] at herr ⊢
    have herr1 := preparse_noerr herr
    obtain ⟨hmix1, hB1, cl, t, hx, hlook⟩ := enter_none_spec hB herr1
    obtain ⟨hI1, hLe1, _⟩ := enter_spec S w f none hI
    obtain ⟨hI2, hB2, hLe2, hloc2, hmix2, hall⟩ := ih _ hI1 hB1 herr
    refine ⟨hI2, hB2, hLe1.trans hLe2, hloc2.trans (enter_loc herr1), hmix2.trans hmix1, fun f' hf' => ?_⟩
    rcases List.mem_cons.mp hf' with rfl | hf'
    · exact ⟨cl, t, hx, hLe2 _ _ hlook⟩
    · exact hall f' hf'

/-! the finished analysis -/

theorem find_spec (S : Sem) (n : Nat) (cb : List String) (cfg : List (String × List Entry))
    (hpre : (preparse S (cb ++ entryFiles cfg) {}).loc.err = none) :
    Inv S (find S n cb cfg).cache ∧
    ((find S n cb cfg).mixed = [] → (find S n cb cfg).loc = findRef S n cfg) ∧
    ∀ f ∈ cb ++ entryFiles cfg, ∃ cl t, S.extClass f = some cl ∧ S.parseAs cl f = .ok t ∧
      (find S n cb cfg).cache.look f = some (cl, t) := by
  obtain ⟨hI0, _, _, hloc0, _, hall⟩ :=
    preparse_spec S (cb ++ entryFiles cfg) {} (Inv.nil S) (fun g cl t h => by cases h) hpre
  obtain ⟨⟨⟨hI, hLe⟩, _⟩, hT⟩ := sim_config S n cfg (preparse S (cb ++ entryFiles cfg) {}) ⟨hI0, CacheLe.refl _⟩
  refine ⟨hI, fun hm => ?_, fun f hf => ?_⟩
  · exact (hT hm).2.trans (by rw [hloc0]; rfl)
  · obtain ⟨cl, t, hx, hlook⟩ := hall f hf
    have h2 := hLe _ _ hlook
    exact ⟨cl, t, hx, hI _ _ _ (look_mem h2), h2⟩

/-! setmap sums -/

theorem setmapOf_split (rows : String → List (List String × Nat)) (X : String → Bool) (key : List String) :
    ∀ members : List String, setmapOf rows members key =
      setmapOf rows (members.filter fun f => !X f) key + setmapOf rows (members.filter X) key := by
  intro members
  induction members with
  | nil => simp [setmapOf]
  | cons f ms ih =>
    unfold setmapOf at ih ⊢
    cases hx : X f <;> simp [hx, ih] <;> omega

theorem setmapOf_congr {rows1 rows2 : String → List (List String × Nat)} {members : List String}
    (h : ∀ f ∈ members, rows1 f = rows2 f) (key : List String) :
    setmapOf rows1 members key = setmapOf rows2 members key := by
  unfold setmapOf
  congr 1
  apply List.map_congr_left
  intro f hf
  rw [h f hf]

end CbiVerif.Exclude
