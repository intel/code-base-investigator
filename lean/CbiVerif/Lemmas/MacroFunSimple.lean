import CbiVerif.Lemmas.MacroFunHead
import CbiVerif.Lemmas.MacroObj
/-! # C03, function-like fragment, the *syntactic* sub-fragment "simple"

`SimpleTbl`: function-like macros without `#` / `##` / variadic parameters, keyed by their own name, and no replacement list
contains `defined` or the name of a function-like macro.  `simpleText`: no `defined`, and every function-like macro name in the text is not
painted and is followed, in the text, either by a complete call with enough arguments whose arguments contain no macro name and no `defined`, or by a
token other than `(` (not a call).

For such inputs the dynamic conditions of the general theorem hold with nesting budget `|tbl| + 1`, and the iteration bound is
the closed form `|ts| * Cb (bodyMax tbl) (|tbl| + 1)` that `fuelFor` grants (`simple_fits`).  Where moreover every call has exactly
as many arguments as parameters (`exactArity`), the condition `confb` of the comparison with the specification holds as well
(`simple_confb`); `simple_scan` is the one induction behind both. -/
namespace CbiVerif.MX
open CbiVerif.PP

/-- a token that macro expansion leaves alone: not `defined`, not the name of a macro -/
def Inert (tbl : Table) (t : Tok) : Prop := t.text ≠ "defined" ∧ (t.kind = .ident → tbl.get t.text = none)

/-- a token that is not `defined` and not the name of a function-like macro -/
def ObjTok (tbl : Table) (t : Tok) : Prop := t.text ≠ "defined" ∧ (t.kind = .ident → ∀ m, tbl.get t.text = some m → m.args = none)

theorem Inert.obj {tbl : Table} {t : Tok} (h : Inert tbl t) : ObjTok tbl t :=
  ⟨h.1, fun hk m hm => by rw [h.2 hk] at hm; cases hm⟩

theorem paint_inert (tbl : Table) (t : Tok) (h : Inert tbl t) : Inert tbl (paint t) := h

structure SimpleTbl (tbl : Table) : Prop where
  funTbl : FunTbl tbl
  named : ∀ n m, tbl.get n = some m → m.name = n
  bodies : ∀ n m, tbl.get n = some m → ∀ t ∈ m.replacement, ObjTok tbl t

def inertb (tbl : Table) (t : Tok) : Bool := t.text != "defined" && (t.kind != .ident || (tbl.get t.text).isNone)

def objTokb (tbl : Table) (t : Tok) : Bool :=
  t.text != "defined" && (t.kind != .ident || match tbl.get t.text with | some m => m.args.isNone | none => true)

theorem inertb_iff (tbl : Table) (t : Tok) : inertb tbl t = true ↔ Inert tbl t := by
  simp only [inertb, Inert, Bool.and_eq_true, Bool.or_eq_true, bne_iff_ne, ne_eq, Option.isNone_iff_eq_none]
  exact and_congr_right fun _ => ⟨fun h hk => h.resolve_left (not_not_intro hk), fun h => (Decidable.em _).elim (fun hk => .inr (h hk)) .inl⟩

theorem objTok_of_check (tbl : Table) (t : Tok) (h : objTokb tbl t = true) : ObjTok tbl t := by
  simp only [objTokb, Bool.and_eq_true, Bool.or_eq_true, bne_iff_ne, ne_eq] at h
  refine ⟨h.1, fun hk m hm => ?_⟩
  rcases h.2 with h2 | h2
  · exact absurd hk h2
  · simpa [hm] using h2

/-- the text side of the simple fragment (inner scan; the `Nat` bounds the length) -/
def simpleScan (tbl : Table) : Nat → List Tok → Bool
  | 0, ts => ts.isEmpty
  | _ + 1, [] => true
  | n + 1, t :: ts =>
    t.text != "defined" &&
    (if t.kind != .ident then simpleScan tbl n ts
     else
       match tbl.get t.text with
       | none => simpleScan tbl n ts
       | some m =>
         match m.args with
         | none => simpleScan tbl n ts
         | some ps =>
           t.expandable &&
           (match callOf ts with
            | none => (match ts with | x :: _ => dtext x != "(" | [] => false) && simpleScan tbl n ts
            | some (args, rest) =>
              decide (ps.length ≤ args.length) && args.all (fun a => a.all (inertb tbl)) && simpleScan tbl n rest))

def simpleText (tbl : Table) (ts : List Tok) : Bool := simpleScan tbl ts.length ts

def simpleTblb (tbl : Table) : Bool :=
  funTblb tbl && tbl.all (fun e => e.2.name == e.1) && tbl.all (fun e => e.2.replacement.all (objTokb tbl))

theorem funTbl_of_check (tbl : Table) (h : funTblb tbl = true) : FunTbl tbl := by
  constructor
  · intro n m ps hm ha
    have := all_get h hm
    simp only [funMacrob, ha, Bool.and_eq_true, Bool.not_eq_true'] at this
    exact ⟨this.1.1, this.1.2⟩
  · intro n m ps hm ha tok ht i hi
    have := all_get h hm
    simp only [funMacrob, ha, Bool.and_eq_true] at this
    simpa [hi] using List.all_eq_true.mp this.2 tok ht

theorem simpleTbl_of_check (tbl : Table) (h : simpleTblb tbl = true) : SimpleTbl tbl := by
  simp only [simpleTblb, Bool.and_eq_true] at h
  exact ⟨funTbl_of_check tbl h.1.1, fun n m hm => by simpa using all_get h.1.2 hm,
    fun n m hm t ht => objTok_of_check tbl t (List.all_eq_true.mp (all_get h.2 hm) t ht)⟩

/-! ## the additional condition of the comparison with the specification, and its syntactic form

Every call has exactly as many arguments as parameters, and the arguments of every call met during the expansion hold no macro
name and at most `L` tokens (why: `Lemmas/MacroFunSpecB.lean`). -/
/-- 6.10.3 p.4: as many arguments as parameters; `F()` calls a macro without parameters -/
def arityOk (ps : List String) (args : List (List Tok)) : Bool :=
  (ps.isEmpty && decide (args.length = 1) && (args.headD []).isEmpty) || decide (args.length = ps.length)

def scanConf (tbl : Table) (L : Nat) (ex : NoExp → List Tok → List Tok) (conf : NoExp → List Tok → Bool) : Nat → NoExp → List Tok → Bool
  | 0, _, _ => true
  | _ + 1, _, [] => true
  | n + 1, D, t :: ts =>
    if t.kind != .ident then scanConf tbl L ex conf n D ts
    else if !t.expandable || D.contains (some t.text) then scanConf tbl L ex conf n D ts
    else
      match tbl.get t.text with
      | none => scanConf tbl L ex conf n D ts
      | some m =>
        match m.args with
        | none => conf (some m.name :: D) (fixpw m.replacement t.pw) && scanConf tbl L ex conf n D ts
        | some ps =>
          match callOf ts with
          | none => scanConf tbl L ex conf n D ts
          | some (args, rest) =>
            arityOk ps args && args.all (fun a => decide (a.length ≤ L) && a.all (inertb tbl)) &&
            conf (some m.name :: D) (fixpw (substRef ps (args.map (ex (none :: D))) m.replacement) t.pw) &&
            scanConf tbl L ex conf n D rest

/-- the two conditions of `Expands.call` (`Lemmas/MacroFunSpecB.lean`), decided along the run of `Ref` -/
def confb (tbl : Table) (L : Nat) : Nat → NoExp → List Tok → Bool
  | 0, _, _ => true
  | d + 1, D, ts => scanConf tbl L (Ref tbl d) (confb tbl L d) ts.length D ts

theorem scanConf_cons (tbl : Table) (L : Nat) (ex : NoExp → List Tok → List Tok) (conf : NoExp → List Tok → Bool) (n : Nat)
    (D : NoExp) (a : Tok) (as : List Tok) :
    scanConf tbl L ex conf (n + 1) D (a :: as) =
      (headOf tbl D a as).elim (fun _ _ => scanConf tbl L ex conf n D as)
        (fun m => conf (some m.name :: D) (fixpw m.replacement a.pw) && scanConf tbl L ex conf n D as)
        (fun m ps args rest =>
          arityOk ps args && args.all (fun x => decide (x.length ≤ L) && x.all (inertb tbl)) &&
          conf (some m.name :: D) (fixpw (substRef ps (args.map (ex (none :: D))) m.replacement) a.pw) &&
          scanConf tbl L ex conf n D rest) :=
  Eq.symm (headOf_elim _ tbl D a as)

def arityScan (tbl : Table) : Nat → List Tok → Bool
  | 0, _ => true
  | _ + 1, [] => true
  | n + 1, t :: ts =>
    if t.kind != .ident then arityScan tbl n ts
    else
      match tbl.get t.text with
      | none => arityScan tbl n ts
      | some m =>
        match m.args with
        | none => arityScan tbl n ts
        | some ps =>
          match callOf ts with
          | none => arityScan tbl n ts
          | some (args, rest) => arityOk ps args && arityScan tbl n rest

/-- every call of a function-like macro in the text has exactly as many arguments as the macro has parameters -/
def exactArity (tbl : Table) (ts : List Tok) : Bool := arityScan tbl ts.length ts

/-! ## inert lists: the scan copies them (painting disabled names), one iteration per token -/

/-- the expansion of a token that is not a macro name: the token itself, painted if its name is disabled -/
def pmark (D : NoExp) (t : Tok) : Tok :=
  if t.kind != .ident then t else if !t.expandable || D.contains (some t.text) then paint t else t

theorem pmark_cases (D : NoExp) (t : Tok) : pmark D t = t ∨ pmark D t = paint t := by
  unfold pmark
  split
  · exact .inl rfl
  split
  · exact .inr rfl
  · exact .inl rfl

theorem pmark_of {P : Tok → Prop} (D : NoExp) {t : Tok} (h : P t) (hp : P (paint t)) : P (pmark D t) := by
  rcases pmark_cases D t with e | e <;> rw [e] <;> assumption

theorem headOf_inert {tbl : Table} {t : Tok} (h : Inert tbl t) (D : NoExp) (as : List Tok) :
    headOf tbl D t as = .stay (pmark D t) true := by
  unfold headOf pmark
  split
  · rfl
  split
  · rfl
  rw [h.2 (by simpa using ‹¬(t.kind != TKind.ident) = true›)]

theorem inert_scan (tbl : Table) (ex : NoExp → List Tok → List Tok) (fit : NoExp → List Tok → Bool) (cost : NoExp → List Tok → Nat)
    (D : NoExp) (ts : List Tok) (h : ∀ t ∈ ts, Inert tbl t) :
    scanFit tbl ex fit ts.length D ts = true ∧ scanCost tbl ex cost ts.length D ts = ts.length ∧
      scanRef tbl ex ts.length D ts = ts.map (pmark D) := by
  induction ts with
  | nil => exact ⟨rfl, rfl, rfl⟩
  | cons a as ih =>
    obtain ⟨ha, has⟩ := List.forall_mem_cons.mp h
    obtain ⟨i1, i2, i3⟩ := ih has
    have hd : (a.text != "defined") = true := by simpa using ha.1
    rw [List.length_cons, scanFit_cons, scanCost_cons, scanRef_cons, headOf_inert ha, hd, i1, i2, i3]
    exact ⟨rfl, Nat.add_comm .., rfl⟩

theorem inert_ref (tbl : Table) (d : Nat) (D : NoExp) (ts : List Tok) (h : ∀ t ∈ ts, Inert tbl t) :
    fitsb tbl (d + 1) D ts = true ∧ cost tbl (d + 1) D ts = ts.length ∧ Ref tbl (d + 1) D ts = ts.map (pmark D) :=
  inert_scan tbl _ _ _ D ts h

/-- inside the fragment, whatever the budget (at budget 0 only the empty list is inside) -/
theorem inert_ref_fit (tbl : Table) (d : Nat) (D : NoExp) (ts : List Tok) (h : ∀ t ∈ ts, Inert tbl t) (hf : fitsb tbl d D ts = true) :
    Ref tbl d D ts = ts.map (pmark D) := by
  cases d with
  | zero => obtain rfl : ts = [] := List.isEmpty_iff.mp hf; rfl
  | succ d => exact (inert_ref tbl d D ts h).2.2

/-! ## substitution keeps token properties that do not depend on `prev_white`, and its length is bounded -/
theorem getD_nil_or_mem (l : List (List Tok)) (i : Nat) : l.getD i [] = [] ∨ l.getD i [] ∈ l := by
  rw [List.getD_eq_getElem?_getD]
  cases h : l[i]? with
  | none => exact .inl rfl
  | some e => exact .inr (List.mem_of_getElem? h)

theorem all_substRef (P : Tok → Prop) (hP : ∀ t pw, P t → P { t with pw := pw }) (ps : List String) (eargs : List (List Tok)) :
    ∀ (repl : List Tok), (∀ t ∈ repl, P t) → (∀ e ∈ eargs, ∀ t ∈ e, P t) → ∀ t ∈ substRef ps eargs repl, P t := by
  intro repl
  induction repl with
  | nil => intro _ _ t ht; cases ht
  | cons tok r ih =>
    intro h1 h2 t ht
    have ihr := ih (fun x hx => h1 x (List.mem_cons_of_mem _ hx)) h2
    rw [substRef] at ht
    split at ht
    · rcases List.mem_append.mp ht with ht | ht
      · refine forall_mem_fixpw P hP _ _ ?_ t ht
        rcases getD_nil_or_mem eargs ‹Nat› with h0 | hmem
        · rw [h0]; intro x hx; cases hx
        · exact h2 _ hmem
      · exact ihr t ht
    · rcases List.mem_cons.mp ht with rfl | ht
      · exact h1 t (List.mem_cons_self ..)
      · exact ihr t ht

theorem all_call_body (P : Tok → Prop) (hP : ∀ t pw, P t → P { t with pw := pw }) (D : NoExp) (ps : List String)
    (args : List (List Tok)) (body : List Tok) (pw : Bool) (hb : ∀ t ∈ body, P t) (hA : ∀ x ∈ args, ∀ t ∈ x, P t ∧ P (paint t)) :
    ∀ t ∈ fixpw (substRef ps (args.map (·.map (pmark D))) body) pw, P t :=
  forall_mem_fixpw P hP _ _ <| all_substRef P hP ps _ _ hb fun e he t ht => by
    obtain ⟨x, hx, rfl⟩ := List.mem_map.mp he
    obtain ⟨y, hy, rfl⟩ := List.mem_map.mp ht
    exact pmark_of D (hA x hx y hy).1 (hA x hx y hy).2

theorem substRef_length (ps : List String) (eargs : List (List Tok)) (c : Nat) (hc : 1 ≤ c) (he : ∀ e ∈ eargs, e.length ≤ c) :
    ∀ (repl : List Tok), (substRef ps eargs repl).length ≤ repl.length * c := by
  intro repl
  induction repl with
  | nil => exact Nat.zero_le _
  | cons tok r ih =>
    rw [substRef, List.length_cons, Nat.succ_mul]
    split
    · rw [List.length_append, fixpw_length]
      have : (eargs.getD ‹Nat› []).length ≤ c := by
        rcases getD_nil_or_mem eargs ‹Nat› with h0 | hmem
        · rw [h0]; exact Nat.zero_le _
        · exact he _ hmem
      omega
    · rw [List.length_cons]; omega

/-! ## the size of a call -/
def sumLen (l : List (List Tok)) : Nat := (l.map (·.length + 1)).sum

theorem sumLen_append (a b : List (List Tok)) : sumLen (a ++ b) = sumLen a + sumLen b := by
  simp [sumLen, List.sum_append]

theorem sumLen_snoc (a : List (List Tok)) (cur : List Tok) : sumLen (a ++ [cur]) = sumLen a + cur.length + 1 := by
  rw [sumLen_append]; simp [sumLen, Nat.add_assoc]

/-- `splitArgs` accounts for every token: each ends up in an argument, as a separating comma or the closing parenthesis, or in
    the rest -/
theorem splitArgs_sum (r : List Tok) (args : List (List Tok)) (cur : List Tok) (depth : Nat) (args' : List (List Tok))
    (rest : List Tok) (h : splitArgs r args cur depth = some (args', rest)) :
    sumLen args' + rest.length = sumLen args + cur.length + r.length :=
  splitArgs_rec (P := fun r args cur => sumLen args' + rest.length = sumLen args + cur.length + r.length)
    (fun _ _ _ _ h => by rw [h, sumLen_snoc, List.length_cons, List.length_nil]; omega)
    (fun _ _ _ _ h => by rw [h, List.length_append, List.length_singleton, List.length_cons]; omega)
    (fun _ _ _ e => by rw [e, sumLen_snoc, List.length_cons]; omega) r args cur depth h

theorem callOf_sum (as : List Tok) (args : List (List Tok)) (rest : List Tok) (h : callOf as = some (args, rest)) :
    sumLen args + rest.length + 1 = as.length := by
  obtain ⟨lp, r, rfl, -, hsp⟩ := callOf_some h
  rw [List.length_cons]
  exact Nat.add_right_cancel_iff.mpr ((splitArgs_sum _ _ _ _ _ _ hsp).trans (Nat.zero_add _))

theorem mem_sumLen (l : List (List Tok)) (a : List Tok) (h : a ∈ l) : a.length + 1 ≤ sumLen l := by
  induction l with
  | nil => cases h
  | cons x xs ih =>
    rw [show sumLen (x :: xs) = (x.length + 1) + sumLen xs from rfl]
    rcases List.mem_cons.mp h with rfl | h
    · exact Nat.le_add_right ..
    · exact Nat.le_trans (ih h) (Nat.le_add_left ..)

theorem sum_le_twice (l : List (List Tok)) (f : List Tok → Nat) (h : ∀ a ∈ l, f a ≤ a.length + 2) :
    (l.map f).sum ≤ 2 * sumLen l := by
  induction l with
  | nil => exact Nat.le_refl _
  | cons x xs ih =>
    have h1 := h x (List.mem_cons_self ..)
    have h2 := ih (fun a ha => h a (List.mem_cons_of_mem _ ha))
    rw [List.map_cons, List.sum_cons, show sumLen (x :: xs) = (x.length + 1) + sumLen xs from rfl]
    omega

/-! ## the iteration bound `|ts| * Cb B (d + 1)`, one head at a time
`Cb B (d + 1)` is `B * Cb B d + B * Lb B d + 3` by definition; `Cd`, `Ld` stand for `Cb B d`, `Lb B d`. -/
theorem le_stay {x n C : Nat} (hx : x ≤ n * C) (hC : 1 ≤ C) : 1 + x ≤ (n + 1) * C := by
  rw [Nat.succ_mul]; omega

theorem le_obj {b l B Cd Ld x n : Nat} (hb : b ≤ l * Cd) (hl : l ≤ B) (hx : x ≤ n * (B * Cd + B * Ld + 3)) :
    b + 2 + x ≤ (n + 1) * (B * Cd + B * Ld + 3) := by
  have := Nat.mul_le_mul_right Cd hl
  rw [Nat.succ_mul]; omega

/-- a call of `c` tokens (arguments, commas, closing parenthesis) followed by `r` tokens -/
theorem le_call {s b l B Cd Ld x c r : Nat} (hs : s ≤ 2 * c) (hb : b ≤ l * Cd) (hl : l ≤ B * c) (hx : x ≤ r * (B * Cd + B * Ld + 3)) :
    s + b + 2 + x ≤ (c + r + 2) * (B * Cd + B * Ld + 3) := by
  have h1 := Nat.mul_le_mul_right Cd hl
  have h2 : B * c * Cd = c * (B * Cd) := by rw [Nat.mul_comm B c, Nat.mul_assoc]
  rw [Nat.add_mul, Nat.add_mul, Nat.mul_add c, Nat.mul_add c]
  omega

/-! ## lists without function-like macro names: the object-like bound carries over -/
/-- expanding a macro name that is not disabled disables one more of the table's names -/
theorem free_name_lt {tbl : Table} {D : NoExp} {a : Tok} {m : Macro} (hn : ∀ n m, tbl.get n = some m → m.name = n)
    (hm : tbl.get a.text = some m) (hq : (!a.expandable || D.contains (some a.text)) = false) :
    free (some m.name :: D) (keys tbl) < free D (keys tbl) := by
  rw [hn _ _ hm]
  exact free_cons_lt a.text D (keys tbl) (get_mem_keys tbl _ _ hm) (Bool.or_eq_false_iff.mp hq).2

theorem headOf_objTok {tbl : Table} {a : Tok} (h : ObjTok tbl a) (D : NoExp) (as : List Tok) :
    (∃ a', headOf tbl D a as = .stay a' true) ∨ ∃ m, headOf tbl D a as = .obj m := by
  fun_cases headOf tbl D a as
  case case4 => exact .inr ⟨_, rfl⟩
  case case5 hk _ m hm ps ha _ | case6 hk _ m hm ps ha _ _ _ => cases (h.2 (by simpa using hk) m hm).symm.trans ha
  all_goals exact .inl ⟨_, rfl⟩

theorem obj_fits (tbl : Table) (hT : SimpleTbl tbl) (B : Nat) (hB : BodiesLe tbl B) : ∀ (d : Nat) (D : NoExp) (ts : List Tok),
    free D (keys tbl) < d → (∀ t ∈ ts, ObjTok tbl t) →
    fitsb tbl d D ts = true ∧ cost tbl d D ts ≤ ts.length * Cb B d ∧ ∀ L, confb tbl L d D ts = true := by
  intro d
  induction d with
  | zero => intro D ts h; cases h
  | succ d ihd =>
    intro D ts hfree hts
    -- no call is met, so the scans go through the list token by token
    induction ts with
    | nil => exact ⟨rfl, Nat.zero_le _, fun _ => rfl⟩
    | cons a as ih =>
      obtain ⟨ha, has⟩ := List.forall_mem_cons.mp hts
      obtain ⟨i1, i2, i3⟩ := ih has
      have hdef : (a.text != "defined") = true := by simpa using ha.1
      simp only [fitsb, cost, confb, List.length_cons] at i1 i2 i3 ⊢
      rcases headOf_objTok ha D as with ⟨a', hh⟩ | ⟨m, hh⟩
      · simp only [scanFit_cons, scanCost_cons, scanConf_cons, hh, Head.elim, hdef, Bool.true_and]
        exact ⟨i1, le_stay i2 (Cb_pos B (d + 1)), i3⟩
      · obtain ⟨_, hq, hm, _⟩ := headOf_obj hh
        simp only [scanFit_cons, scanCost_cons, scanConf_cons, hh, Head.elim, hdef, Bool.true_and]
        obtain ⟨b1, b2, b3⟩ := ihd (some m.name :: D) (fixpw m.replacement a.pw)
          (Nat.lt_of_lt_of_le (free_name_lt hT.named hm hq) (Nat.le_of_lt_succ hfree))
          (forall_mem_fixpw (ObjTok tbl) (fun _ _ h => h) _ _ (hT.bodies _ _ hm))
        rw [fixpw_length] at b2
        exact ⟨by rw [b1, i1]; rfl, le_obj b2 (hB _ _ hm) i2, fun L => by rw [b3 L, i3 L]; rfl⟩

/-- what the two syntactic scans say about the head of a list as the expander meets it when no name is disabled: `simpleScan`
    wants the name of a function-like macro to be expandable, so a painted token is an object-like name or no macro name -/
theorem simpleScan_cons (tbl : Table) (D : NoExp) (hD : ∀ x, D.contains (some x) = false) (n : Nat) (a : Tok) (as : List Tok)
    (h : simpleScan tbl (n + 1) (a :: as) = true) :
    (a.text != "defined") = true ∧
      match headOf tbl D a as with
      | .stay _ ok => ok = true ∧ simpleScan tbl n as = true ∧ arityScan tbl (n + 1) (a :: as) = arityScan tbl n as
      | .obj _ => simpleScan tbl n as = true ∧ arityScan tbl (n + 1) (a :: as) = arityScan tbl n as
      | .call _ ps args rest =>
        ps.length ≤ args.length ∧ (∀ x ∈ args, ∀ t ∈ x, Inert tbl t) ∧ simpleScan tbl n rest = true ∧
        arityScan tbl (n + 1) (a :: as) = (arityOk ps args && arityScan tbl n rest) := by
  simp only [simpleScan, Bool.and_eq_true] at h
  refine ⟨h.1, ?_⟩
  replace h := h.2
  unfold headOf
  simp only [arityScan]
  by_cases hk : (a.kind != TKind.ident) = true
  · simp only [if_pos hk] at h ⊢; exact ⟨trivial, h, trivial⟩
  simp only [if_neg hk, hD, Bool.or_false] at h ⊢
  cases hm : tbl.get a.text with
  | none => simp only [hm] at h ⊢; cases a.expandable <;> exact ⟨rfl, h, trivial⟩
  | some m =>
    simp only [hm] at h ⊢
    cases hargs : m.args with
    | none =>
      simp only [hargs] at h ⊢
      cases a.expandable
      · exact ⟨rfl, h, trivial⟩
      · exact ⟨h, trivial⟩
    | some ps =>
      simp only [hargs, Bool.and_eq_true] at h ⊢
      rw [if_neg (by rw [h.1]; exact Bool.false_ne_true)]
      cases hcall : callOf as with
      | none => simp only [hcall, Bool.and_eq_true] at h ⊢; exact ⟨h.2.1, h.2.2, trivial⟩
      | some ar =>
        simp only [hcall, Bool.and_eq_true, decide_eq_true_eq, List.all_eq_true] at h ⊢
        exact ⟨h.2.1.1, fun x hx t ht => (inertb_iff tbl t).mp (h.2.1.2 x hx t ht), h.2.2, trivial⟩

theorem simple_scan (tbl : Table) (hT : SimpleTbl tbl) (B : Nat) (hB : BodiesLe tbl B) (d : Nat) (D : NoExp)
    (hD : ∀ x, D.contains (some x) = false) (hfree : free D (keys tbl) ≤ d) :
    ∀ (n : Nat) (ts : List Tok), simpleScan tbl n ts = true →
      (scanFit tbl (Ref tbl d) (fitsb tbl d) n D ts = true ∧
        scanCost tbl (Ref tbl d) (cost tbl d) n D ts ≤ ts.length * Cb B (d + 1)) ∧
      ∀ L, ts.length ≤ L → arityScan tbl n ts = true → scanConf tbl L (Ref tbl d) (confb tbl L d) n D ts = true := by
  intro n
  induction n with
  | zero =>
    intro ts hs
    obtain rfl : ts = [] := List.isEmpty_iff.mp hs
    exact ⟨⟨rfl, Nat.zero_le _⟩, fun _ _ _ => rfl⟩
  | succ n ih =>
    intro ts hs
    cases ts with
    | nil => exact ⟨⟨rfl, Nat.zero_le _⟩, fun _ _ _ => rfl⟩
    | cons a as =>
      obtain ⟨hdef, hs⟩ := simpleScan_cons tbl D hD n a as hs
      cases hh : headOf tbl D a as with
      | stay a' ok =>
        simp only [hh] at hs
        obtain ⟨rfl, hs, har⟩ := hs
        obtain ⟨⟨i1, i2⟩, i3⟩ := ih as hs
        simp only [scanFit_cons, scanCost_cons, scanConf_cons, hh, Head.elim, hdef, har, Bool.true_and, List.length_cons]
        exact ⟨⟨i1, le_stay i2 (Cb_pos B (d + 1))⟩, fun L hL => i3 L (Nat.le_of_succ_le hL)⟩
      | obj m =>
        obtain ⟨_, hq, hm, _⟩ := headOf_obj hh
        simp only [hh] at hs
        obtain ⟨hs, har⟩ := hs
        obtain ⟨⟨i1, i2⟩, i3⟩ := ih as hs
        simp only [scanFit_cons, scanCost_cons, scanConf_cons, hh, Head.elim, hdef, har, Bool.true_and, List.length_cons]
        obtain ⟨b1, b2, b3⟩ := obj_fits tbl hT B hB d (some m.name :: D) (fixpw m.replacement a.pw)
          (Nat.lt_of_lt_of_le (free_name_lt hT.named hm hq) hfree) (forall_mem_fixpw (ObjTok tbl) (fun _ _ h => h) _ _ (hT.bodies _ _ hm))
        rw [fixpw_length] at b2
        exact ⟨⟨by rw [b1, i1]; rfl, le_obj b2 (hB _ _ hm) i2⟩, fun L hL ha => by rw [b3 L, i3 L (Nat.le_of_succ_le hL) ha]; rfl⟩
      | call m ps args rest =>
        obtain ⟨_, hq, hm, _, hcall⟩ := headOf_call hh
        simp only [hh] at hs
        obtain ⟨harity, hargI, hs, har⟩ := hs
        obtain ⟨⟨i1, i2⟩, i3⟩ := ih rest hs
        simp only [scanFit_cons, scanCost_cons, scanConf_cons, hh, Head.elim, hdef, har, Bool.true_and, List.length_cons]
        have hlt := Nat.lt_of_lt_of_le (free_name_lt hT.named hm hq) hfree
        obtain ⟨d', rfl⟩ : ∃ d', d = d' + 1 := ⟨d - 1, by omega⟩
        -- the arguments hold no macro name: their expansion paints them
        have hA := fun x hx => inert_ref tbl d' (none :: D) x (hargI x hx)
        rw [show args.map (Ref tbl (d' + 1) (none :: D)) = args.map (·.map (pmark (none :: D))) from
          List.map_congr_left fun x hx => (hA x hx).2.2]
        -- the call takes `sumLen args + 1` tokens of `as`, and there is at least one argument
        have hsum := callOf_sum as args rest hcall
        have hc1 : 1 ≤ sumLen args := by have := callOf_length as args rest hcall; omega
        -- the substituted replacement list holds no function-like macro name and at most `B * sumLen args` tokens
        obtain ⟨b1, b2, b3⟩ := obj_fits tbl hT B hB (d' + 1) (some m.name :: D) _ hlt
          (all_call_body (ObjTok tbl) (fun _ _ h => h) (none :: D) ps args _ a.pw (hT.bodies _ _ hm)
            fun x hx t ht => ⟨(hargI x hx t ht).obj, (hargI x hx t ht).obj⟩)
        have hlen : (fixpw (substRef ps (args.map (·.map (pmark (none :: D)))) m.replacement) a.pw).length ≤ B * sumLen args := by
          rw [fixpw_length]
          refine Nat.le_trans (substRef_length ps _ (sumLen args) hc1 ?_ m.replacement) (Nat.mul_le_mul_right _ (hB _ _ hm))
          exact List.forall_mem_map.mpr fun x hx => by rw [List.length_map]; exact Nat.le_of_succ_le (mem_sumLen args x hx)
        refine ⟨⟨?_, ?_⟩, fun L hL ha => ?_⟩
        · rw [decide_eq_true harity, List.all_eq_true.mpr fun x hx => (hA x hx).1, b1, i1]; rfl
        · rw [← hsum, show sumLen args + rest.length + 1 + 1 = sumLen args + rest.length + 2 from rfl]
          exact le_call (sum_le_twice args _ fun x hx => by rw [(hA x hx).2.1]; omega) b2 hlen i2
        · have hall : (args.all fun x => decide (x.length ≤ L) && x.all (inertb tbl)) = true := by
            simp only [List.all_eq_true, Bool.and_eq_true, decide_eq_true_eq, inertb_iff]
            exact fun x hx => ⟨by have := mem_sumLen args x hx; omega, hargI x hx⟩
          rw [Bool.and_eq_true] at ha
          rw [ha.1, hall, b3 L, i3 L (by omega) ha.2]; rfl

/-- **the simple fragment is inside the general one**, with nesting budget `|tbl| + 1` and the iteration bound of `fuelFor` -/
theorem simple_fits (tbl : Table) (hT : SimpleTbl tbl) (ts : List Tok) (h : simpleText tbl ts = true) :
    fitsb tbl (tbl.length + 1) [] ts = true ∧
    cost tbl (tbl.length + 1) [] ts ≤ ts.length * Cb (bodyMax tbl) (tbl.length + 1) :=
  (simple_scan tbl hT (bodyMax tbl) (bodiesLe_bodyMax tbl) tbl.length [] (fun _ => rfl) (free_le_keys [] tbl) ts.length ts h).1

/-- **the simple fragment with exact arity is inside the conformance fragment** -/
theorem simple_confb (tbl : Table) (hT : SimpleTbl tbl) (ts : List Tok) (h : simpleText tbl ts = true) (ha : exactArity tbl ts = true) :
    confb tbl ts.length (tbl.length + 1) [] ts = true :=
  (simple_scan tbl hT (bodyMax tbl) (bodiesLe_bodyMax tbl) tbl.length [] (fun _ => rfl) (free_le_keys [] tbl) ts.length ts h).2
    ts.length (Nat.le_refl _) ha

end CbiVerif.MX
