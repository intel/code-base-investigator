import CbiVerif.Model.C06Compose
import Batteries.Data.List.Basic
/-! Structural lemmas about the composed C06 pipeline (`Model/C06Compose.lean`): what a successful parse consists of, the
records built from a node list.  (What a successful run consists of: `Lemmas/AnalyseClosed.lean`.) -/
namespace CbiVerif.C06C
open CbiVerif.SM

theorem mapE_cons {α β ε : Type} (f : α → Except ε β) (a : α) (as : List α) :
    mapE f (a :: as) =
      match f a with
      | .error e => .error e
      | .ok b =>
        match mapE f as with
        | .error e => .error e
        | .ok bs => .ok (b :: bs) := rfl

theorem mapE_congr {α β ε : Type} (f g : α → Except ε β) : ∀ (l : List α), (∀ a ∈ l, f a = g a) → mapE f l = mapE g l := by
  intro l
  induction l with
  | nil => intro _; rfl
  | cons a as ih =>
    intro h
    rw [mapE_cons, mapE_cons, h a List.mem_cons_self, ih (fun b hb => h b (List.mem_cons_of_mem _ hb))]

/-- a successful `mapM` in `Except`: member by member -/
theorem mapM_ok_forall₂ {α β ε : Type} (f : α → Except ε β) : ∀ (xs : List α) (ys : List β),
    xs.mapM f = .ok ys → List.Forall₂ (fun x y => f x = .ok y) xs ys := by
  intro xs
  induction xs with
  | nil => intro ys h; cases h; exact .nil
  | cons x xs ih =>
    intro ys h
    rw [List.mapM_cons] at h
    cases hx : f x with
    | error e => rw [hx] at h; cases h
    | ok y =>
      cases hr : xs.mapM f with
      | error e => rw [hx, hr] at h; cases h
      | ok r => rw [hx, hr] at h; cases h; exact .cons hx (ih r hr)

/-! ## the directive parser keeps the `lines` it is given -/

/-- every outcome of the directive parser is an exception or a node with the given `lines` -/
def Keeps (ls : List Nat) (x : Except PP.Err PP.PNode) : Prop := ∀ p, x = .ok p → p.lines = ls
theorem keeps_ok {ls : List Nat} {q : PP.PNode} (hq : q.lines = ls) : Keeps ls (.ok q) := by
  intro p h; cases h; exact hq
theorem keeps_err {ls : List Nat} {e : PP.Err} : Keeps ls (.error e) := by
  intro p h; cases h
theorem keeps_ite {ls : List Nat} {c : Prop} [Decidable c] {a b : Except PP.Err PP.PNode} (ha : Keeps ls a) (hb : Keeps ls b) :
    Keeps ls (if c then a else b) := by
  split <;> assumption

theorem parseDirective_keeps (s : String) (ls : List Nat) : Keeps ls (PP.parseDirective s ls) := by
  unfold PP.parseDirective
  cases PP.tokenize s with
  | nil => exact keeps_err
  | cons t0 rest =>
    refine keeps_ite keeps_err ?_
    cases rest with
    | nil => exact keeps_ok rfl
    | cons d r =>
      dsimp only
      generalize (d.kind == PP.TKind.ident) = ci
      have hu : (if ci = true then ({ kind := PP.NKind.unrecognized, lines := ls, name := d.text } : PP.PNode)
          else { kind := PP.NKind.unrecognized, lines := ls }).lines = ls := by cases ci <;> rfl
      -- one `if` per directive name, in the order of the parser
      refine keeps_ite (keeps_ok hu) <| keeps_ite ?define <| keeps_ite ?undef <| keeps_ite (keeps_ok rfl) <|
        keeps_ite ?ifdef <| keeps_ite ?ifndef <| keeps_ite (keeps_ok rfl) <| keeps_ite (keeps_ok rfl) <|
        keeps_ite (keeps_ok rfl) <| keeps_ite (keeps_ok rfl) <| keeps_ite (keeps_ok rfl) (keeps_ok hu)
      case define =>
        cases PP.macroDefinition r with
        | none => exact keeps_ok hu
        | some x => exact keeps_ok rfl
      all_goals
        cases r with
        | nil => exact keeps_ok hu
        | cons i _ => exact keeps_ite (keeps_ok rfl) (keeps_ok hu)

theorem parseDirective_lines (s : String) (ls : List Nat) (p : PP.PNode) (h : PP.parseDirective s ls = .ok p) :
    p.lines = ls := parseDirective_keeps s ls p h

theorem attach_forall₂ : ∀ (ns : List CClean.Node) (ds : List (List Char)) (pn : List PP.PNode),
    attach ns ds = .ok pn → List.Forall₂ (fun n p => p.lines = n.lines) ns pn := by
  intro ns ds
  -- one case per branch of `attach`: the two that return a list put a node with the lines of `n` in front
  fun_induction attach ns ds with
  | case1 => intro pn h; cases h; exact .nil
  | case3 n ns ds _ r ha ih => intro pn h; cases h; exact .cons rfl (ih r ha)
  | case7 n ns d ds _ p hp r ha ih => intro pn h; cases h; exact .cons (parseDirective_lines _ _ _ hp) (ih r ha)
  | case2 | case4 | case5 | case6 => intro pn h; cases h

/-- a successful `parseSrc`: the C05 node list, the same list with payloads, a tree that builds -/
theorem parseSrc_ok (t : List Char) (p : Parsed) (h : parseSrc t = .ok p) :
    ∃ r, CClean.parseFile t = .ok r ∧ r.nodes = p.nodes ∧
      List.Forall₂ (fun n q => q.lines = n.lines) p.nodes p.pnodes ∧
      ¬ (Cond.build (PP.labels p.pnodes)).isNone = true := by
  -- the one successful branch of `parseSrc`, and in it the one successful branch of `cPNodes`
  revert h
  fun_cases parseSrc t with
  | case1 e hc => nofun
  | case2 q hc hb => nofun
  | case3 q hc hb =>
    intro h; cases h
    revert hc
    fun_cases cPNodes t with
    | case1 e hp => nofun
    | case2 r hp e ha => nofun
    | case3 r hp pn ha => intro hc; cases hc; exact ⟨r, hp, rfl, attach_forall₂ _ _ _ ha, hb⟩

/-! ## the records built from a node list -/

/-! A field of the records is a function of the node alone or of the index alone, mapped over the numbered nodes. -/

theorem nodeRecs_lines (pr : List (String × List Run)) (path : List String) (ns : List CClean.Node) :
    (nodeRecs pr path ns).map (·.lines) = ns.map (·.lines) :=
  List.map_map.trans <|
    (List.map_map (f := Prod.fst) (g := fun n : CClean.Node => n.lines)).symm.trans (congrArg _ (List.zipIdx_map_fst ..))

theorem nodeRecs_numLines (pr : List (String × List Run)) (path : List String) (ns : List CClean.Node) :
    (nodeRecs pr path ns).map (·.numLines) = ns.map (·.numLines) :=
  List.map_map.trans <|
    (List.map_map (f := Prod.fst) (g := fun n : CClean.Node => n.numLines)).symm.trans (congrArg _ (List.zipIdx_map_fst ..))

theorem nodeRecs_plats (pr : List (String × List Run)) (path : List String) (ns : List CClean.Node) :
    (nodeRecs pr path ns).map (·.plats) = (List.range ns.length).map (platsOf pr path) :=
  List.map_map.trans <| (List.map_map (f := Prod.snd) (g := platsOf pr path)).symm.trans <|
    congrArg _ ((List.zipIdx_map_snd ..).trans (List.range_eq_range' (n := ns.length)).symm)

theorem nodeRecs_forall {P : Nat → List Nat → Prop} (pr : List (String × List Run)) (path : List String)
    (ns : List CClean.Node) (h : ∀ nd ∈ ns, P nd.numLines nd.lines) : ∀ n ∈ nodeRecs pr path ns, P n.numLines n.lines := by
  intro n hn
  unfold nodeRecs at hn
  obtain ⟨x, hx, rfl⟩ := List.mem_map.mp hn
  have : x.1 ∈ ns := by
    have := List.mem_map_of_mem (f := Prod.fst) hx
    rwa [List.zipIdx_map_fst] at this
  exact h x.1 this

theorem nodeRecs_wf (pr : List (String × List Run)) (path : List String) (ns : List CClean.Node)
    (h : ∀ nd ∈ ns, nd.numLines = nd.lines.length) : ∀ n ∈ nodeRecs pr path ns, n.numLines = n.lines.length :=
  nodeRecs_forall (P := fun n l => n = l.length) pr path ns h

theorem nodeRecs_pos (pr : List (String × List Run)) (path : List String) (ns : List CClean.Node)
    (h : ∀ nd ∈ ns, 1 ≤ nd.numLines) : ∀ n ∈ nodeRecs pr path ns, 1 ≤ n.numLines :=
  nodeRecs_forall (P := fun n _ => 1 ≤ n) pr path ns h

theorem fileLines_nodeRecs (pr : List (String × List Run)) (path : List String) (ns : List CClean.Node) :
    CbiVerif.Cov.fileLines (nodeRecs pr path ns) = ns.flatMap (·.lines) := by
  unfold CbiVerif.Cov.fileLines
  rw [List.flatMap_def, List.flatMap_def, nodeRecs_lines]

/-! ## helpers for the sums over several files -/

theorem lineAttr_length (r : FileRec) : (lineAttr r).length = (CbiVerif.Cov.fileLines r.nodes).length := by
  unfold lineAttr CbiVerif.Cov.fileLines
  simp [List.length_flatMap]

theorem specSloc_nolink (fs : List FileRec) (hl : ∀ r ∈ fs, r.link = false) :
    specSloc fs = (fs.map fun r => (CbiVerif.Cov.fileLines r.nodes).length).sum := by
  unfold specSloc allLines
  rw [List.filter_eq_self.mpr (by intro r hr; simp [hl r hr])]
  rw [List.length_flatMap]
  congr 1
  apply List.map_congr_left
  intro r _
  exact lineAttr_length r

theorem countP_flatMap_sum {α β : Type} (q : β → Bool) (g : α → List β) (l : List α) :
    (l.flatMap g).countP q = (l.map fun a => (g a).countP q).sum :=
  List.countP_flatMap

end CbiVerif.C06C
