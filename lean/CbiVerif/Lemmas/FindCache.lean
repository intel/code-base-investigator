import CbiVerif.Model.FindCache
import CbiVerif.Lemmas.Exclude
import CbiVerif.Lemmas.FindFold
/-!
Helper lemmas for C08: the shared parse cache of `finder.find` (`FindCache.cstep`) is transparent
except on steps that log a language-mixing event.  Everything about the engine itself comes from
`Lemmas/Exclude.lean` (`sim_entry`, `preparse_spec`).
-/
namespace CbiVerif.FindCache
open CbiVerif.PP CbiVerif.FindFold CbiVerif.Exclude

theorem entryX_sim (S : Sem) (n : Nat) (c : Cache) (e : Entry) (hI : Inv S c) :
    Inv S (entryX S n c e).cache ∧ CacheLe c (entryX S n c e).cache ∧
    ((entryX S n c e).mixed = [] → (entryX S n c e).loc = runEntryRef S n "" e {}) := by
  obtain ⟨⟨h, _⟩, hT⟩ := sim_entry S n "" e { cache := c } ⟨hI, CacheLe.refl c⟩
  exact ⟨h.1, h.2, fun hm => (hT hm).2⟩

theorem cstep_ok {S : Sem} {n : Nat} {c c' : Cache} {e : Entry} {o : Out NodeKey Warn}
    (h : cstep S n c e = .ok (o, c')) : c' = (entryX S n c e).cache ∧ outOf (entryX S n c e).loc = .ok o := by
  unfold cstep at h
  cases ho : outOf (entryX S n c e).loc with
  | error er => rw [ho] at h; cases h
  | ok o2 =>
    rw [ho] at h
    simp only [Except.ok.injEq, Prod.mk.injEq] at h
    exact ⟨h.2.symm, by rw [h.1]⟩

theorem cstep_inv (S : Sem) (n : Nat) (c c' : Cache) (e : Entry) (o : Out NodeKey Warn)
    (hI : Inv S c) (h : cstep S n c e = .ok (o, c')) : Inv S c' ∧ CacheLe c c' := by
  obtain ⟨h1, h2, _⟩ := entryX_sim S n c e hI
  rw [(cstep_ok h).1]
  exact ⟨h1, h2⟩

theorem mixedStep_false {S : Sem} {n : Nat} {c : Cache} {e : Entry} (h : mixedStep S n c e = false) :
    (entryX S n c e).mixed = [] := by
  unfold mixedStep at h
  cases hm : (entryX S n c e).mixed with
  | nil => rfl
  | cons a l => rw [hm] at h; simp at h

/-- **the shared parse cache is transparent except on mixing steps** -/
theorem cstep_transparent_unless (S : Sem) (n : Nat) :
    TransparentUnless (Inv S) (mixedStep S n) (cstep S n) (analyse S n) := by
  intro c e hI
  refine ⟨fun o c' hst => (cstep_inv S n c c' e o hI hst).1, fun hf => ?_⟩
  have hl := (entryX_sim S n c e hI).2.2 (mixedStep_false hf)
  unfold cstep analyse
  rw [← hl]
  cases outOf (entryX S n c e).loc with
  | error er => rfl
  | ok o => rfl

theorem cleanJobs_iff_mixJobs (S : Sem) (n : Nat) : ∀ (es : List Entry) (c : Cache),
    cleanJobs (mixedStep S n) (cstep S n) es c = true ↔ mixJobs S n es c = [] := by
  intro es
  induction es with
  | nil => intro c; exact ⟨fun _ => rfl, fun _ => rfl⟩
  | cons e es ih =>
    intro c
    simp only [cleanJobs, mixJobs, Bool.and_eq_true, Bool.not_eq_true', List.append_eq_nil_iff]
    refine and_congr ⟨mixedStep_false, fun hm => by simp [mixedStep, hm]⟩ ?_
    unfold cstep
    cases outOf (entryX S n c e).loc with
    | error er => exact ⟨fun _ => rfl, fun _ => rfl⟩
    | ok o => exact ih _

theorem mixJobs_of_cleanJobs (S : Sem) (n : Nat) : ∀ (es : List Entry) (c : Cache),
    cleanJobs (mixedStep S n) (cstep S n) es c = true → mixJobs S n es c = [] :=
  fun es c => (cleanJobs_iff_mixJobs S n es c).mp

theorem prep_inv (S : Sem) (cb : List String) (cfg : Config Entry)
    (hpre : (prep S cb cfg).loc.err = none) : Inv S (prep S cb cfg).cache :=
  (preparse_spec S (cb ++ entryFiles cfg) {} (Inv.nil S) (fun g cl t h => by cases h) hpre).1

theorem findC_eq_findRefG_of {S : Sem} {n : Nat} {Inv : Cache → Prop} {flag : Cache → Entry → Bool}
    (ht : TransparentUnless Inv flag (cstep S n) (analyse S n)) (cb : List String) (cfg : Config Entry)
    (h0 : (prep S cb cfg).loc.err = none → Inv (prep S cb cfg).cache)
    (hc : cleanJobs flag (cstep S n) ((jobs cfg).map (·.2)) (prep S cb cfg).cache = true) :
    findC S n cb cfg = findRefG S n cb cfg := by
  unfold findC findRefG
  cases herr : (prep S cb cfg).loc.err with
  | some er => rfl
  | none =>
    simp only []
    refine Eq.trans ?_ (findS_eq_findG_unless Inv flag (cstep S n) (analyse S n) ht _ (h0 herr) cfg hc)
    rcases findS (cstep S n) (prep S cb cfg).cache cfg with _ | ⟨_, _⟩ <;> rfl

theorem findC_eq_findRefG (S : Sem) (n : Nat) (cb : List String) (cfg : Config Entry)
    (hmix : NoMix S n cb cfg) : findC S n cb cfg = findRefG S n cb cfg :=
  findC_eq_findRefG_of (cstep_transparent_unless S n) cb cfg (prep_inv S cb cfg)
    ((cleanJobs_iff_mixJobs S n _ _).mpr hmix)

theorem finalCache_inv (S : Sem) (n : Nat) (cb : List String) (cfg : Config Entry)
    (hpre : (prep S cb cfg).loc.err = none) : Inv S (finalCache S n cb cfg) := by
  have hI := prep_inv S cb cfg hpre
  unfold finalCache findS
  cases hS : List.foldlM (fun acc pe => List.foldlM (stepEntryS (cstep S n) pe.1) acc pe.2)
      ({}, (prep S cb cfg).cache) cfg with
  | error er => exact hI
  | ok as =>
    obtain ⟨a, s'⟩ := as
    exact findS_inv (Inv S) (cstep S n)
      (fun s e o s' hs hst => (cstep_inv S n s s' e o hs hst).1) cfg {} _ hI a s' hS

/-! ### the pre-parse succeeds iff every listed file parses under its extension class -/

def ParsesByExt (S : Sem) (f : String) : Prop := ∃ cl t, S.extClass f = some cl ∧ S.parseAs cl f = .ok t

theorem preparse_ok_of (S : Sem) : ∀ (fs : List String) (w : XW), w.loc.err = none →
    (∀ f ∈ fs, ParsesByExt S f) → (preparse S fs w).loc.err = none := by
  intro fs
  induction fs with
  | nil => intro w h0 _; simpa only [preparse] using h0
  | cons f fs ih =>
    intro w h0 hall
    simp only [preparse, h0]
    obtain ⟨cl, t, hx, hp⟩ := hall f (List.mem_cons_self ..)
    refine ih _ ?_ (fun g hg => hall g (List.mem_cons_of_mem _ hg))
    cases hl : w.cache.look f with
    | some x => obtain ⟨cl', t'⟩ := x; rw [enter_cached hl]; exact h0
    | none =>
      have hc : S.inhOrExt f none = some cl := by simp [Sem.inhOrExt, hx]
      rw [enter_ok hl hc hp]; exact h0

theorem prep_ok_iff (S : Sem) (cb : List String) (cfg : Config Entry) :
    (prep S cb cfg).loc.err = none ↔ ∀ f ∈ cb ++ entryFiles cfg, ParsesByExt S f := by
  constructor
  · intro h f hf
    obtain ⟨hI, _, _, _, _, hall⟩ :=
      preparse_spec S (cb ++ entryFiles cfg) {} (Inv.nil S) (fun g cl t h => by cases h) h
    obtain ⟨cl, t, hx, hl⟩ := hall f hf
    exact ⟨cl, t, hx, hI _ _ _ (look_mem hl)⟩
  · intro h
    exact preparse_ok_of S _ {} rfl h

theorem mem_entryFiles (cfg : Config Entry) (f : String) :
    f ∈ entryFiles cfg ↔ ∃ j ∈ jobs cfg, j.2.file = f := by
  simp only [entryFiles, jobs, List.mem_flatMap, List.mem_map]
  constructor
  · rintro ⟨pe, hpe, e, he, rfl⟩
    exact ⟨(pe.1, e), ⟨pe, hpe, e, he, rfl⟩, rfl⟩
  · rintro ⟨j, ⟨pe, hpe, e, he, rfl⟩, rfl⟩
    exact ⟨pe, hpe, e, he, rfl⟩

theorem prep_mono (S : Sem) (cb : List String) (cfg cfg' : Config Entry)
    (hsub : ∀ j ∈ jobs cfg', j ∈ jobs cfg) (h : (prep S cb cfg).loc.err = none) :
    (prep S cb cfg').loc.err = none := by
  rw [prep_ok_iff] at h ⊢
  intro f hf
  apply h f
  rw [List.mem_append] at hf ⊢
  cases hf with
  | inl h1 => exact Or.inl h1
  | inr h2 =>
    right
    rw [mem_entryFiles] at h2 ⊢
    obtain ⟨j, hj, hjf⟩ := h2
    exact ⟨j, hsub j hj, hjf⟩

theorem findC_ok_prep {S : Sem} {n : Nat} {cb : List String} {cfg : Config Entry} {r : Acc NodeKey Warn}
    (h : findC S n cb cfg = .ok r) : (prep S cb cfg).loc.err = none := by
  unfold findC at h
  cases herr : (prep S cb cfg).loc.err with
  | none => rfl
  | some er => rw [herr] at h; cases h

theorem findRefG_of_prep {S : Sem} {n : Nat} {cb : List String} {cfg : Config Entry}
    (h : (prep S cb cfg).loc.err = none) : findRefG S n cb cfg = findG (analyse S n) cfg := by
  unfold findRefG; rw [h]

end CbiVerif.FindCache
