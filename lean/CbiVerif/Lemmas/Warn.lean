import CbiVerif.Model.Warn
/-! Lemmas for C18 about the aggregator (`counts_of_categories`: the three counters, for any rendering whose messages
each pattern matches as the kind of the event says) and about the messages of `renderL`.

Where a fact about the text of a message is evaluated, the characters of a string literal are read off with
`rw [String.toList_ofList]`: `isDefEq` and the kernel read `"abc"` as `String.ofList ['a', 'b', 'c']`, so the
rewrite finds `"abc".toList` and the kernel accepts it at once, whereas evaluating `"abc".toList` decodes the UTF-8
bytes of the literal one index at a time, which is quadratic in its length.  For the same reason a test vector
`String.ofList l = "abc"` is first reduced to `l = ['a', 'b', 'c']` by `apply congrArg String.ofList`. -/
namespace CbiVerif.Warn

theorem containsSub_iff {m p : List Char} : containsSub m p = true ↔ p <:+: m := by
  induction m with
  | nil => simp [containsSub]
  | cons c cs ih => simp [containsSub, List.infix_cons_iff, ih]

theorem user_phrase_ne_dot : (Gen.includeKindUser == ".") = false := by decide
theorem system_phrase_ne_dot : (Gen.includeKindSystem == ".") = false := by decide

theorem matchesRegex_dot (msg : List Char) : matchesRegex "." msg = msg.any (· != '\n') := by
  simp [matchesRegex]

theorem matchesRegex_phrase {p : String} (h : (p == ".") = false) (msg : List Char) :
    matchesRegex p msg = containsSub msg p.toList := by
  simp [matchesRegex, h]

theorem level_is_warning : Gen.aggregatorLevel = "WARNING" := rfl

theorem countFor_eq_filter (regex : String) (rs : List Record) :
    countFor regex rs = (rs.filter (inspect regex)).length := by
  unfold countFor
  suffices h : ∀ c, rs.foldl (fun c r => if inspect regex r then c + 1 else c) c = c + (rs.filter (inspect regex)).length by
    simpa using h 0
  induction rs with
  | nil => intro c; simp
  | cons r rs ih =>
    intro c
    simp only [List.foldl_cons, List.filter_cons]
    by_cases hr : inspect regex r = true
    · simp only [hr, if_true, List.length_cons]; rw [ih]; omega
    · simp only [hr, Bool.false_eq_true, if_false]; rw [ih]

theorem counts_of_categories (render : Event → List Char) (es : List Event)
    (h0 : ∀ e ∈ es, matchesRegex "." (render e) = true)
    (hU : ∀ e ∈ es, matchesRegex Gen.includeKindUser (render e) = (e.kind == .userInclude))
    (hS : ∀ e ∈ es, matchesRegex Gen.includeKindSystem (render e) = (e.kind == .systemInclude)) :
    counts (es.map fun e => ⟨"WARNING", render e⟩) =
      [es.length, (es.filter fun e => e.kind == .userInclude).length, (es.filter fun e => e.kind == .systemInclude).length] := by
  have hc : ∀ (regex : String) (q : Event → Bool), (∀ e ∈ es, matchesRegex regex (render e) = q e) →
      countFor regex (es.map fun e => ⟨"WARNING", render e⟩) = (es.filter q).length := by
    intro regex q hq
    rw [countFor_eq_filter, List.filter_map, List.length_map]
    congr 1
    apply List.filter_congr
    intro e he
    simp [inspect, level_is_warning, hq e he]
  show [countFor "." _, countFor Gen.includeKindUser _, countFor Gen.includeKindSystem _] = _
  rw [hc _ (fun _ => true) h0, hc _ _ hU, hc _ _ hS, List.filter_eq_self.mpr fun _ _ => rfl]

theorem visible_append_left (a b : List Char) (h : a.any (· != '\n') = true) : (a ++ b).any (· != '\n') = true := by
  simp [List.any_append, h]

theorem visible_append_right (a b : List Char) (h : b.any (· != '\n') = true) : (a ++ b).any (· != '\n') = true := by
  simp [List.any_append, h]

/-- so the `"."` meta-warning counts every message; one of the literal pieces of each message has such a character -/
theorem renderL_visible (e : Event) : (renderL e).any (· != '\n') = true := by
  have lit : ∀ l : List Char, l.any (· != '\n') = true → (String.ofList l).toList.any (· != '\n') = true :=
    fun l h => by rwa [String.toList_ofList]
  have inc : ∀ sys, (includeMsg sys e).any (· != '\n') = true := fun sys =>
    visible_append_right _ _ (visible_append_left _ _ (visible_append_right _ _ (lit _ (by decide))))
  unfold renderL
  cases e.kind with
  | userInclude => exact inc false
  | systemInclude => exact inc true
  | missingFile => exact visible_append_left _ _ (lit _ (by decide))
  | _ => exact visible_append_right _ _ (lit _ (by decide))

theorem inspect_dot (e : Event) : inspect "." ⟨"WARNING", renderL e⟩ = true := by
  simp [inspect, level_is_warning, matchesRegex_dot, renderL_visible]

theorem include_contains_phrase (sys : Bool) (e : Event) :
    containsSub (includeMsg sys e) (includePhrase sys).toList = true :=
  containsSub_iff.mpr (List.infix_append _ _ _)

end CbiVerif.Warn
