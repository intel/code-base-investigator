import CbiVerif.Model.Tree
/-! Lemmas for `C01.structured_of_wellNested`: every line list that the reference machine accepts
structurally (no stray `#elif/#else/#endif`, nothing after `#else`, every `#if` closed) is the
line list of a structured program `b : Block`. -/
namespace CbiVerif.Cond

/-! ## the structural part of the reference machine, independent of the semantics

Of the stack only the `seenElse` flags matter (innermost chain first); `none`: the machine sets `bad`. -/
def nestStep (st : List Bool) (l : Lbl) : Option (List Bool) :=
  match l.kind with
  | .code => some st
  | .other => some st
  | .ifk => some (false :: st)
  | .elifk => match st with
    | [] => none
    | e :: r => if e then none else some (false :: r)
  | .elsek => match st with
    | [] => none
    | e :: r => if e then none else some (true :: r)
  | .endk => match st with
    | [] => none
    | _ :: r => some r

def nestRun : List Bool → List Lbl → Option (List Bool)
  | st, [] => some st
  | st, l :: ls => match nestStep st l with
    | none => none
    | some st' => nestRun st' ls

variable {Env : Type}

theorem refStep_nest (M : Sem Env) (r : RState Env) (l : Lbl) (h : (refStep M r l).bad = false) :
    r.bad = false ∧ nestStep (r.stack.map (·.seenElse)) l = some ((refStep M r l).stack.map (·.seenElse)) := by
  -- branch by branch of `refStep`: it sets `bad` exactly where `nestStep` is `none`, and moves the flags alike elsewhere
  revert h
  fun_cases refStep M r l <;> simp_all [nestStep]

theorem refRun_nest (M : Sem Env) (ls : List Lbl) (r : RState Env) (h : (refRun M r ls).bad = false) :
    r.bad = false ∧ nestRun (r.stack.map (·.seenElse)) ls = some ((refRun M r ls).stack.map (·.seenElse)) := by
  induction ls generalizing r with
  | nil => exact ⟨h, rfl⟩
  | cons l ls ih =>
    obtain ⟨hb, hn⟩ := ih _ h
    obtain ⟨hr, hs⟩ := refStep_nest M r l hb
    exact ⟨hr, by simp only [nestRun, hs]; exact hn⟩

/-! ## every accepted line list is a structured program

Read from the right: the lines after a point in a well-nested unit are the rest of the innermost open group (a block),
then what continues that chain, and so on outwards.  Consing a line in front matches the constructors of
`Item/Block/Conts` (`Closes.step`). -/

/-- payloads of code / `#else` / `#endif` lines carry no information: normalised to 0 -/
def Lbl.normal (l : Lbl) : Prop := (l.kind = .code ∨ l.kind = .elsek ∨ l.kind = .endk) → l.pay = 0

/-- `ls` closes the open chains `st` (innermost first; `true`: its open group is the `#else` group) -/
def Closes : List Bool → List Lbl → Prop
  | [], ls => ∃ b : Block, ls = b.lines
  | false :: st, ls => ∃ (b : Block) (r : Conts) (rest : List Lbl), ls = b.lines ++ r.lines ++ rest ∧ Closes st rest
  | true :: st, ls => ∃ (b : Block) (e : Nat) (rest : List Lbl), ls = b.lines ++ ⟨e, .endk, 0⟩ :: rest ∧ Closes st rest

theorem Closes.item (i : Item) : ∀ {st : List Bool} {ls : List Lbl}, Closes st ls → Closes st (i.lines ++ ls)
  | [], _, ⟨b, h⟩ => ⟨.cons i b, by rw [h]; rfl⟩
  | false :: _, _, ⟨b, r, rest, h, hc⟩ => ⟨.cons i b, r, rest, by simp [h, Block.lines], hc⟩
  | true :: _, _, ⟨b, e, rest, h, hc⟩ => ⟨.cons i b, e, rest, by simp [h, Block.lines], hc⟩

theorem Closes.step {l : Lbl} (hl : l.normal) {st st' : List Bool} (hs : nestStep st l = some st') {ls : List Lbl}
    (h : Closes st' ls) : Closes st (l :: ls) := by
  obtain ⟨id, k, p⟩ := l
  cases k with
  | code =>
    obtain rfl : p = 0 := hl (.inl rfl)
    cases hs; exact h.item (.code id)
  | other => cases hs; exact h.item (.dir id p)
  | ifk =>
    cases hs
    obtain ⟨b, r, rest, rfl, hc⟩ := h
    exact hc.item (.cond id p b r)
  | elifk =>
    obtain _ | ⟨_ | _, s⟩ := st <;> cases hs
    obtain ⟨b, r, rest, rfl, hc⟩ := h
    exact ⟨.nil, .elif id p b r, rest, rfl, hc⟩
  | elsek =>
    obtain rfl : p = 0 := hl (.inr (.inl rfl))
    obtain _ | ⟨_ | _, s⟩ := st <;> cases hs
    obtain ⟨b, e, rest, rfl, hc⟩ := h
    exact ⟨.nil, .els id b e, rest, by simp [Block.lines, Conts.lines], hc⟩
  | endk =>
    obtain rfl : p = 0 := hl (.inr (.inr rfl))
    obtain _ | ⟨_ | _, s⟩ := st <;> cases hs
    · exact ⟨.nil, .endif id, ls, rfl, h⟩
    · exact ⟨.nil, id, ls, rfl, h⟩

theorem closes_of_nest (ls : List Lbl) (hl : ∀ l ∈ ls, l.normal) (st : List Bool) (hn : nestRun st ls = some []) :
    Closes st ls := by
  fun_induction nestRun st ls with
  | case1 st => cases hn; exact ⟨.nil, rfl⟩
  | case2 st l ls hs => cases hn
  | case3 st l ls st' hs ih =>
    exact (ih (fun x hx => hl x (List.mem_cons_of_mem _ hx)) hn).step (hl l List.mem_cons_self) hs

theorem structured_of_nest (ls : List Lbl) (hl : ∀ l ∈ ls, l.normal) (hn : nestRun [] ls = some []) :
    ∃ b : Block, b.lines = ls := by
  obtain ⟨b, hb⟩ := closes_of_nest ls hl [] hn
  exact ⟨b, hb.symm⟩

end CbiVerif.Cond
