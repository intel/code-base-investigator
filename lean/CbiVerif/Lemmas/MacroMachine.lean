import CbiVerif.Model.MacroExpand
/-! # C03: the stream-stack machine `MX.step`, one iteration at a time

What one loop iteration does on a stream `P ++ some t :: R` read at `P.length` (`step_tok` and its cases), on an exhausted
stream (`step_end`) and on a returned value (`step_ret`); runs of iterations (`runK`, `run`; `Reach`: a run of bounded length
between two states, the form in which the simulations are stated and composed); the tokens an iteration passes over unchanged
(`Stable`), which is why the machine before the repair of D11, which scanned spliced tokens again, was right where expansions
hold only such tokens (`rescan_stream`, `run_pop`).  The part of a stream already scanned may hold holes (`None`, left where a
macro name, `defined` and its operand, or the tokens of a call were consumed); splicing a child stream removes them, so it
is described up to holes (`filterSome`). -/
namespace CbiVerif.MX
open CbiVerif.PP

/-- `k` loop iterations that all continue -/
def runK (c : Cfg) (tbl : Table) : Nat → MS → Option MS
  | 0, s => some s
  | k + 1, s => match step c tbl s with | .cont s' => runK c tbl k s' | _ => none

theorem runK_step (c : Cfg) (tbl : Table) (k : Nat) (s s' : MS) (h : step c tbl s = .cont s') :
    runK c tbl (k + 1) s = runK c tbl k s' := by
  simp only [runK, h]

/-- whatever spends one unit of fuel on an iteration that continues (`runK`, `run`) may as well start where `k` such
    iterations lead, with `k` units less -/
theorem runK_spend {β : Sort u} (c : Cfg) (tbl : Table) (g : Nat → MS → β)
    (hg : ∀ n s s1, step c tbl s = .cont s1 → g (n + 1) s = g n s1) (k n : Nat) (s s' : MS) (h : runK c tbl k s = some s') :
    g (k + n) s = g n s' := by
  fun_induction runK c tbl k s with
  | case1 => cases h; rw [Nat.zero_add]
  | case2 k s s1 hs ih => rw [Nat.succ_add, hg _ s s1 hs]; exact ih h
  | case3 => cases h

theorem runK_trans (c : Cfg) (tbl : Table) : ∀ (k j : Nat) (s s' : MS), runK c tbl k s = some s' →
    runK c tbl (k + j) s = runK c tbl j s' :=
  runK_spend c tbl _ (runK_step c tbl)

def Reach (c : Cfg) (tbl : Table) (n : Nat) (s s' : MS) : Prop := ∃ k, k ≤ n ∧ runK c tbl k s = some s'

/-- `Reach` from the state an iteration with outcome `o` continues with: what `Reach.step` asks for, so that `step c tbl s` can
    be rewritten by a lemma about the iteration before it is known to continue -/
def ReachO (c : Cfg) (tbl : Table) (n : Nat) (o : Out) (s' : MS) : Prop := ∃ s, o = .cont s ∧ Reach c tbl n s s'

section
variable {c : Cfg} {tbl : Table} {n m : Nat} {s s1 s2 : MS}

theorem Reach.refl (c : Cfg) (tbl : Table) (n : Nat) (s : MS) : Reach c tbl n s s := ⟨0, Nat.zero_le _, rfl⟩

theorem Reach.of_runK {k : Nat} (h : runK c tbl k s = some s1) : Reach c tbl k s s1 := ⟨k, Nat.le_refl _, h⟩

theorem Reach.trans (h1 : Reach c tbl n s s1) (h2 : Reach c tbl m s1 s2) : Reach c tbl (n + m) s s2 :=
  let ⟨k1, hk1, r1⟩ := h1
  let ⟨k2, hk2, r2⟩ := h2
  ⟨k1 + k2, Nat.add_le_add hk1 hk2, (runK_trans c tbl k1 k2 s s1 r1).trans r2⟩

theorem Reach.mono (h : Reach c tbl n s s1) (hnm : n ≤ m) : Reach c tbl m s s1 :=
  let ⟨k, hk, r⟩ := h
  ⟨k, Nat.le_trans hk hnm, r⟩

theorem ReachO.cont (h : Reach c tbl n s s1) : ReachO c tbl n (.cont s) s1 := ⟨s, rfl, h⟩

theorem ReachO.mono {o : Out} (h : ReachO c tbl n o s1) (hnm : n ≤ m) : ReachO c tbl m o s1 :=
  let ⟨s, hs, r⟩ := h
  ⟨s, hs, r.mono hnm⟩

theorem ReachO.trans {o : Out} (h1 : ReachO c tbl n o s1) (h2 : Reach c tbl m s1 s2) : ReachO c tbl (n + m) o s2 :=
  let ⟨s, hs, r⟩ := h1
  ⟨s, hs, r.trans h2⟩

/-- one iteration, then the run from its outcome.  Under `.mono` the bound `n` can only be read off `h`: give `h` as a term
    (`(Reach.step (by rw [step_object …]; exact .cont hrun)).mono (by omega)`), not as a goal `?_` -/
theorem Reach.step (h : ReachO c tbl n (step c tbl s) s1) : Reach c tbl (1 + n) s s1 :=
  let ⟨s', hs, h'⟩ := h
  (Reach.of_runK (k := 1) (by rw [runK_step c tbl 0 s s' hs]; rfl)).trans h'
end

theorem run_succ_cont (c : Cfg) (tbl : Table) (f : Nat) (s s' : MS) (h : step c tbl s = .cont s') :
    run c tbl (f + 1) s = run c tbl f s' := by
  rw [run, h]

theorem run_of_runK (c : Cfg) (tbl : Table) : ∀ (k n : Nat) (s s' : MS), runK c tbl k s = some s' →
    run c tbl (k + n) s = run c tbl n s' :=
  runK_spend c tbl _ (run_succ_cont c tbl)

theorem run_mono_fuel (c : Cfg) (tbl : Table) : ∀ (f : Nat) (s : MS) (r : List Tok), run c tbl f s = .ok r → ∀ g, f ≤ g → run c tbl g s = .ok r := by
  intro f s r h g hg
  fun_induction run c tbl f s generalizing g with
  | case1 => cases h
  | case2 f s s1 hs ih =>
    obtain ⟨g, rfl⟩ := Nat.exists_eq_add_one_of_ne_zero (Nat.ne_zero_of_lt hg)
    rw [run_succ_cont c tbl g s s1 hs]; exact ih h g (Nat.le_of_succ_le_succ hg)
  | case3 f s x hs =>
    obtain ⟨g, rfl⟩ := Nat.exists_eq_add_one_of_ne_zero (Nat.ne_zero_of_lt hg)
    rw [run, hs]; exact h
  | case4 => cases h

theorem filterSome_map (l : List Tok) : filterSome (l.map some) = l := by
  induction l with
  | nil => rfl
  | cons a l ih => simp [filterSome] at ih ⊢

theorem map_filterSome {P : List (Option Tok)} (h : none ∉ P) : (filterSome P).map some = P := by
  induction P with
  | nil => rfl
  | cons a P ih =>
    cases a with
    | none => exact absurd (List.mem_cons_self ..) h
    | some t => simpa [filterSome] using ih fun hP => h (List.mem_cons_of_mem _ hP)

theorem filterSome_append (a b : List (Option Tok)) : filterSome (a ++ b) = filterSome a ++ filterSome b := by
  simp [filterSome, List.filterMap_append]

theorem filterSome_snoc_some (P : List (Option Tok)) (t : Tok) : filterSome (P ++ [some t]) = filterSome P ++ [t] := by
  simp [filterSome, List.filterMap_append]

theorem filterSome_snoc_none (Q : List (Option Tok)) : filterSome (Q ++ [none]) = filterSome Q := by
  simp [filterSome]

theorem getElem?_mid {α} (P R : List α) (a : α) : (P ++ a :: R)[P.length]? = some a := by simp
theorem set_mid' {α} (P R : List α) (a x : α) : (P ++ a :: R).set P.length x = P ++ x :: R := by simp

/-- a stream read one position further, in the form the step lemmas take: read at the length of its scanned part -/
theorem shift (P R : List (Option Tok)) (a : Option Tok) (pr : Bool) :
    (⟨P ++ a :: R, P.length + 1, pr⟩ : Helper) = ⟨(P ++ [a]) ++ R, (P ++ [a]).length, pr⟩ := by
  simp

section
variable (c : Cfg) (tbl : Table) (P R : List (Option Tok)) (pr : Bool) (S : List Helper) (D : NoExp) (F : List Frame) (t : Tok)

theorem step_tok : step c tbl ⟨⟨P ++ some t :: R, P.length, pr⟩ :: S, D, F, none⟩ =
    if t.kind != .ident then .cont ⟨⟨P ++ some t :: R, P.length + 1, pr⟩ :: S, D, F, none⟩
    else if t.text == "defined" then
      stepDefined c.adv tbl ⟨⟨P ++ some t :: R, P.length, pr⟩ :: S, D, F, none⟩ ⟨P ++ none :: R, P.length + 1, pr⟩ S
    else if !t.expandable || D.contains (some t.text) then .cont ⟨⟨P ++ some (paint t) :: R, P.length + 1, pr⟩ :: S, D, F, none⟩
    else match tbl.get t.text with
      | none => .cont ⟨⟨P ++ some t :: R, P.length + 1, pr⟩ :: S, D, F, none⟩
      | some m =>
        match m.args with
        | some _ => stepCall c ⟨⟨P ++ some t :: R, P.length, pr⟩ :: S, D, F, none⟩ ⟨P ++ some t :: R, P.length, pr⟩ S t m
        | none =>
          if S.length + 2 ≥ c.lim then .cont (overflowState F)
          else .cont ⟨⟨(fixpw m.replacement t.pw).map some, 0, false⟩ :: ⟨P ++ none :: R, P.length + 1, pr⟩ :: S,
                  some m.name :: D, F, none⟩ := by
  have hnl : ¬ (P.length ≥ (P ++ some t :: R).length) := by simp
  simp only [step, hnl, if_false, getElem?_mid, set_mid']
  rfl

theorem step_nonident (hk : t.kind ≠ .ident) : step c tbl ⟨⟨P ++ some t :: R, P.length, pr⟩ :: S, D, F, none⟩
    = .cont ⟨⟨P ++ some t :: R, P.length + 1, pr⟩ :: S, D, F, none⟩ := by
  rw [step_tok, if_pos (by simpa using hk)]

theorem step_painted (hk : t.kind = .ident) (hd : t.text ≠ "defined") (hq : (!t.expandable || D.contains (some t.text)) = true) :
    step c tbl ⟨⟨P ++ some t :: R, P.length, pr⟩ :: S, D, F, none⟩
      = .cont ⟨⟨P ++ some (paint t) :: R, P.length + 1, pr⟩ :: S, D, F, none⟩ := by
  rw [step_tok, if_neg (by simp [hk]), if_neg (by simpa using hd), if_pos hq]

theorem step_noMacro (hk : t.kind = .ident) (hd : t.text ≠ "defined") (hq : (!t.expandable || D.contains (some t.text)) = false)
    (hm : tbl.get t.text = none) : step c tbl ⟨⟨P ++ some t :: R, P.length, pr⟩ :: S, D, F, none⟩
      = .cont ⟨⟨P ++ some t :: R, P.length + 1, pr⟩ :: S, D, F, none⟩ := by
  rw [step_tok, if_neg (by simp [hk]), if_neg (by simpa using hd), if_neg (Bool.eq_false_iff.mp hq), hm]

theorem step_object (hk : t.kind = .ident) (hd : t.text ≠ "defined") (hq : (!t.expandable || D.contains (some t.text)) = false)
    (m : Macro) (hm : tbl.get t.text = some m) (ho : m.args = none) :
    step c tbl ⟨⟨P ++ some t :: R, P.length, pr⟩ :: S, D, F, none⟩
      = if S.length + 2 ≥ c.lim then .cont (overflowState F)
        else .cont ⟨⟨(fixpw m.replacement t.pw).map some, 0, false⟩ :: ⟨P ++ none :: R, P.length + 1, pr⟩ :: S,
                some m.name :: D, F, none⟩ := by
  rw [step_tok, if_neg (by simp [hk]), if_neg (by simpa using hd), if_neg (Bool.eq_false_iff.mp hq), hm]
  simp only [ho]
end

/-- the top stream is exhausted: the outermost stream and an argument being pre-expanded (`pr`) end the innermost `expand`
    (`EndofParse`), which returns the stream without its holes; a replacement list is spliced into the stream below -/
theorem step_end (c : Cfg) (tbl : Table) (L : List (Option Tok)) (n : Nat) (hn : n ≥ L.length) (pr : Bool) (S : List Helper) (D : NoExp)
    (F : List Frame) : step c tbl ⟨⟨L, n, pr⟩ :: S, D, F, none⟩ =
      match S with
      | [] => .cont ⟨[], D.tail, F, some (filterSome L)⟩
      | below :: S' =>
        if pr then .cont ⟨below :: S', D.tail, F, some (filterSome L)⟩
        else .cont ⟨splice c.adv below ⟨L, n, pr⟩ :: S', D.tail, F, none⟩ := by
  simp only [step, hn, if_true, eopState]
  cases S <;> rfl

/-- a nested `expand` has returned: the outermost one ends the run, otherwise the suspended loop takes the value as the
    expansion of the argument it was waiting for -/
theorem step_ret (c : Cfg) (tbl : Table) (S : List Helper) (D : NoExp) (F : List Frame) (r : List Tok) :
    step c tbl ⟨S, D, F, some r⟩ =
      match F with
      | [] => .done r
      | f :: fs => processArgs c f.pw f.m f.todo (f.done ++ [⟨f.cur, some r⟩]) ⟨S, D, fs, none⟩ := rfl

/-- the last two iterations of a top-level run: the only stream is exhausted (`EndofParse`), `expand` returns it without its holes -/
theorem run_exhausted (c : Cfg) (tbl : Table) (L : List (Option Tok)) (n : Nat) (hn : n ≥ L.length) :
    run c tbl 2 ⟨[⟨L, n, false⟩], [none], [], none⟩ = .ok (filterSome L) := by
  simp only [run, step_end c tbl L n hn, step_ret, List.tail_cons]

theorem expandWith_of_reach (c : Cfg) (tbl : Table) (ts : List Tok) (hts : ts ≠ []) (h0 : c.lim ≠ 0) (n : Nat) (P' : List (Option Tok))
    (h : Reach c tbl n (initState ts) ⟨[⟨P', P'.length, false⟩], [none], [], none⟩) (fuel : Nat) (hfuel : n + 2 ≤ fuel) :
    expandWith c tbl fuel ts = .ok (filterSome P') := by
  obtain ⟨k, hkn, hk⟩ := h
  have hrun := run_of_runK c tbl k 2 _ _ hk
  rw [run_exhausted c tbl P' P'.length (Nat.le_refl _)] at hrun
  rw [expandWith, if_neg h0, if_neg (by simpa using hts)]
  exact run_mono_fuel c tbl (k + 2) _ _ hrun fuel (by omega)

/-- tokens an iteration passes over unchanged (`step_stable`); on a table of object-like macros every token of a finished
    expansion is one (`RefS_stable`, `Lemmas/MacroObjTop.lean`) -/
def Stable (tbl : Table) (D : NoExp) (t : Tok) : Prop :=
  t.kind ≠ .ident ∨ (t.text ≠ "defined" ∧ (t.expandable = false ∨ (tbl.get t.text = none ∧ D.contains (some t.text) = false)))

theorem step_stable (c : Cfg) (tbl : Table) (P R : List (Option Tok)) (pr : Bool) (S : List Helper) (D : NoExp) (F : List Frame)
    (t : Tok) (ht : Stable tbl D t) : step c tbl ⟨⟨P ++ some t :: R, P.length, pr⟩ :: S, D, F, none⟩
      = .cont ⟨⟨P ++ some t :: R, P.length + 1, pr⟩ :: S, D, F, none⟩ := by
  by_cases hk : t.kind = .ident
  · obtain hk' | ⟨hd, hs⟩ := ht
    · exact absurd hk hk'
    · by_cases hq : (!t.expandable || D.contains (some t.text)) = true
      · have he : t.expandable = false := by
          obtain he | ⟨_, hD⟩ := hs
          · exact he
          · rw [hD, Bool.or_false] at hq; simpa using hq
        have hp : paint t = t := by cases t; simp_all [paint]
        rw [step_painted c tbl P R pr S D F t hk hd hq, hp]
      · obtain he | ⟨hm, _⟩ := hs
        · simp [he] at hq
        · exact step_noMacro c tbl P R pr S D F t hk hd (by simpa using hq) hm
  · exact step_nonident c tbl P R pr S D F t hk

theorem stable_weaken (tbl : Table) (n : Option String) (D : NoExp) (t : Tok) (h : Stable tbl (n :: D) t) : Stable tbl D t := by
  rcases h with h | ⟨hd, h | ⟨hn, hc⟩⟩
  · exact .inl h
  · exact .inr ⟨hd, .inl h⟩
  · refine .inr ⟨hd, .inr ⟨hn, ?_⟩⟩
    simp only [List.contains_cons, Bool.or_eq_false_iff] at hc
    exact hc.2

/-- re-scanning already expanded tokens is the identity (any `Cfg`; the machine before the repair of D11 relied on it, the
    repaired `splice` moves past the spliced tokens and no longer needs it) -/
theorem rescan_stream (c : Cfg) (tbl : Table) (F : List Frame) (S : List Helper) (pr : Bool) (D : NoExp) (Q : List (Option Tok)) :
    ∀ (R : List Tok) (P : List (Option Tok)), (∀ t ∈ R, Stable tbl D t) →
    runK c tbl R.length ⟨⟨P ++ (R.map some ++ Q), P.length, pr⟩ :: S, D, F, none⟩
      = some ⟨⟨P ++ (R.map some ++ Q), P.length + R.length, pr⟩ :: S, D, F, none⟩ := by
  intro R
  induction R with
  | nil => intro P _; rfl
  | cons t R ih =>
    intro P hst
    have h := ih (P ++ [some t]) (fun x hx => hst x (List.mem_cons_of_mem _ hx))
    rw [List.map_cons, List.cons_append, List.length_cons, runK_step c tbl _ _ _ (step_stable c tbl P _ pr S D F t (hst t (List.mem_cons_self ..))),
      shift, h]
    simp [Nat.add_assoc, Nat.add_comm 1]

theorem rescan (c : Cfg) (tbl : Table) (F : List Frame) : ∀ (R pre ts' : List Tok) (S : List Helper) (pr : Bool) (D : NoExp),
    (∀ t ∈ R, Stable tbl D t) →
    runK c tbl R.length ⟨⟨(pre ++ (R ++ ts')).map some, pre.length, pr⟩ :: S, D, F, none⟩
      = some ⟨⟨(pre ++ (R ++ ts')).map some, pre.length + R.length, pr⟩ :: S, D, F, none⟩ := by
  intro R pre ts' S pr D hst
  have h := rescan_stream c tbl F S pr D (ts'.map some) R (pre.map some) hst
  simpa using h

/-- an exhausted replacement-list stream is spliced into the stream below it and the read position ends up behind the spliced
    tokens: at once with the repaired `splice`; the machine before the repair scans them again, which changes nothing when they
    are `Stable` -/
theorem run_pop (c : Cfg) (tbl : Table) (P1 Pb : List (Option Tok)) (T : List Tok) (S : List Helper) (x : Option String) (D : NoExp)
    (F : List Frame) (pr : Bool) (hst : c.adv = false → ∀ t ∈ filterSome P1, Stable tbl D t) :
    Reach c tbl (1 + if c.adv then 0 else (filterSome P1).length)
      ⟨⟨P1, P1.length, false⟩ :: ⟨Pb ++ T.map some, Pb.length, pr⟩ :: S, x :: D, F, none⟩
      ⟨⟨(filterSome Pb ++ filterSome P1).map some ++ T.map some, ((filterSome Pb ++ filterSome P1).map some).length, pr⟩ :: S,
        D, F, none⟩ := by
  refine .of_runK ?_
  rw [Nat.add_comm, runK_step c tbl _ _ _ (step_end c tbl P1 P1.length (Nat.le_refl _) false _ (x :: D) F)]
  have hsp : splice c.adv ⟨Pb ++ T.map some, Pb.length, pr⟩ ⟨P1, P1.length, false⟩
      = ⟨(filterSome Pb).map some ++ ((filterSome P1).map some ++ T.map some),
          if c.adv then ((filterSome Pb ++ filterSome P1).map some).length else ((filterSome Pb).map some).length, pr⟩ := by
    simp only [splice, List.take_left', List.drop_left', filterSome_map, List.map_append, List.length_append, List.length_map,
      List.append_assoc]
  rw [hsp]
  cases hadv : c.adv with
  | true => simp [runK]
  | false =>
    have := rescan_stream c tbl F S pr D (T.map some) (filterSome P1) ((filterSome Pb).map some) (hst hadv)
    simpa using this

end CbiVerif.MX
