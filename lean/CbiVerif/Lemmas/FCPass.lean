import CbiVerif.Spec.FortranNodes
import CbiVerif.Lemmas.FSourceLemmas
/-!
The C pass in `directives_only` mode (`dProcess`, `dNewline`, `dLoop`) in front of the Fortran cleaner, on texts the
reference accepts — no backslash, no `/*` on a directive line.  Every physical line is its own logical line, and what the pass
appends to its buffer for it is a function of the characters of the line: `lineOut` (`dLine_ok`), inside a directive `dirOut`
(`dRest_dir`); the buffer then holds `render` of it (`parts_addAll`).  Read off these: a blank line is dropped, any other line
that is not a directive comes out blank-merged (`collapse`), a `#` line stays a directive line whose cleaned text starts with
`##` exactly when the text of the line does (what `FileParser.is_directive` looks at).  So the pass yields `cpass` (`dLoop_ok`).
-/
namespace CbiVerif.Fortran

/-- text-level side condition of one line (from `textOK`) -/
def LineOK (l : List Char) : Prop :=
  (∀ c ∈ l, c ≠ '\\') ∧ (isDirectiveLine l = true → hasSlashStar l = false)

/-- the C pass on one physical line that starts at TOPLEVEL and is not spliced -/
def dLine (l : List Char) : Except FErr (List DMode × OSL) :=
  match dProcess [.top] {} l with
  | .error e => .error e
  | .ok (st1, ob1) => if st1.head? != some .blockC then dNewline st1 ob1 else .ok (st1, ob1)

/-- what the C pass yields for the lines `n+1, n+2, …` -/
def cpass (n : Nat) : List (List Char) → List CL
  | [] => []
  | l :: ls =>
    (match dLine l with
     | .ok (_, ob) => if ob.blank then [] else [⟨[n + 1], ob.parts⟩]
     | .error _ => []) ++ cpass (n + 1) ls

/-! ## equations of the recursive definitions (unfolding by these, see `Lemmas/FSourceLemmas.lean`) -/

theorem cpass_nil (n : Nat) : cpass n [] = [] := rfl
theorem cpass_cons (n : Nat) (l : List Char) (ls : List (List Char)) :
    cpass n (l :: ls) =
      (match dLine l with
       | .ok (_, ob) => if ob.blank then [] else [⟨[n + 1], ob.parts⟩]
       | .error _ => []) ++ cpass (n + 1) ls := rfl

theorem isPasteLine_cons (c : Char) (cs : List Char) :
    isPasteLine (c :: cs) = if pyIsSpace c then isPasteLine cs else c == '#' && cs.head? == some '#' := rfl

theorem isDirectiveLine_cons (c : Char) (cs : List Char) :
    isDirectiveLine (c :: cs) = if pyIsSpace c then isDirectiveLine cs else c == '#' := rfl

theorem hasSlashStar_cons (c : Char) (cs : List Char) :
    hasSlashStar (c :: cs) = ((c == '/' && cs.head? == some '*') || hasSlashStar cs) := rfl

theorem dProcess_cons (st : List DMode) (ob : OSL) (c : Char) (cs : List Char) :
    dProcess st ob (c :: cs) =
      match dStep1 st ob c with
      | .error e => .error e
      | .ok (st1, ob1, pb, ret) =>
        if ret then .ok (st1, ob1)
        else if pb then
          match dStep1 st1 ob1 c with
          | .error e => .error e
          | .ok (st2, ob2, _, ret2) => if ret2 then .ok (st2, ob2) else dProcess st2 ob2 cs
        else dProcess st1 ob1 cs := rfl

/-! `dStep1` in the states the C pass takes on a text without backslash and without `/*` on a directive line -/

theorem dStep1_top (r : List DMode) (ob : OSL) (c : Char) :
    dStep1 (.top :: r) ob c =
      if c == '\\' then .ok (.esc :: .top :: r, ob.add (.ns c), false, false)
      else if c == '#' && ob.blank then .ok (.dir :: .top :: r, ob.add (.ns c), false, false)
      else .ok (.top :: r, ob.add (emitChar c), false, false) := rfl
theorem dStep1_dir (r : List DMode) (ob : OSL) (c : Char) :
    dStep1 (.dir :: r) ob c =
      if c == '\\' then .ok (.esc :: .dir :: r, ob.add (.ns c), false, false)
      else if c == '/' then .ok (.slash :: .dir :: r, ob, false, false)
      else if c == '"' then .ok (.dq :: .dir :: r, ob.add (.ns c), false, false)
      else if c == '\'' then .ok (.sq :: .dir :: r, ob.add (.ns c), false, false)
      else .ok (.dir :: r, ob.add (emitChar c), false, false) := rfl
theorem dStep1_dq (r : List DMode) (ob : OSL) (c : Char) :
    dStep1 (.dq :: r) ob c =
      if c == '\\' then .ok (.esc :: .dq :: r, ob.add (.ns c), false, false)
      else if c == '"' then .ok (r, ob.add (.ns c), false, false)
      else .ok (.dq :: r, ob.add (.ns c), false, false) := rfl
theorem dStep1_sq (r : List DMode) (ob : OSL) (c : Char) :
    dStep1 (.sq :: r) ob c =
      if c == '\\' then .ok (.esc :: .sq :: r, ob.add (.ns c), false, false)
      else if c == '/' then .ok (.slash :: .sq :: r, ob, false, false)
      else if c == '\'' then .ok (r, ob.add (.ns c), false, false)
      else .ok (.sq :: r, ob.add (.ns c), false, false) := rfl
theorem dStep1_slash (r : List DMode) (ob : OSL) (c : Char) :
    dStep1 (.slash :: r) ob c =
      if c == '/' then .ok (.lineC :: r, ob, false, false)
      else if c == '*' then .ok (.blockC :: r, ob, false, false)
      else .ok (r, ob.add (emitChar '/'), true, false) := rfl
theorem dStep1_lineC (r : List DMode) (ob : OSL) (c : Char) :
    dStep1 (.lineC :: r) ob c = .ok (.lineC :: r, ob, false, true) := rfl

theorem isWs_eq_pyIsSpace (c : Char) : isWs c = pyIsSpace c := by
  unfold isWs cls
  by_cases h1 : c = '!' ; · subst h1; decide
  by_cases h2 : c = '&' ; · subst h2; decide
  by_cases h3 : c = '"' ; · subst h3; decide
  by_cases h4 : c = '\'' ; · subst h4; decide
  by_cases h5 : c = '$' ; · subst h5; decide
  by_cases h6 : c = '\\' ; · subst h6; decide
  simp only [h1, h2, h3, h4, h5, h6, beq_iff_eq, if_false]
  by_cases hs : pyIsSpace c = true
  · simp [hs]
  · simp only [hs, Bool.false_eq_true, if_false]
    split <;> simp_all

theorem cls_ws_iff (c : Char) : cls c = .ws ↔ pyIsSpace c = true := by
  rw [← isWs_eq_pyIsSpace]; simp [isWs]

theorem hash_not_space : pyIsSpace '#' = false := by decide

theorem emitChar_vis (c : Char) : (emitChar c).visible = !pyIsSpace c := by
  unfold emitChar
  split
  · rename_i h; simp [h]
  · rename_i h; rw [vis_ns, isWs_eq_pyIsSpace]

theorem emitChar_lit (c : Char) : (emitChar c).litWs = false := by
  unfold emitChar
  split
  · rfl
  · rename_i h; rw [lit_ns, isWs_eq_pyIsSpace]; simpa using h

/-! ## what a buffer holds after a list of emissions; blank merging -/

/-- the characters a buffer gains by the emissions `es` (`tr`: it ends in a merged blank) -/
def render : Bool → List Emit → List Char
  | _, [] => []
  | tr, .sp :: es => if tr then render true es else ' ' :: render true es
  | _, .ns c :: es => c :: render false es

theorem parts_addAll (es : List Emit) : ∀ ob : OSL, (ob.addAll es).parts = ob.parts ++ render ob.trailing es := by
  induction es with
  | nil => intro ob; exact (List.append_nil _).symm
  | cons e es ih =>
    intro ob
    rw [show ob.addAll (e :: es) = (ob.add e).addAll es from rfl, ih]
    cases e with
    | sp => by_cases ht : ob.trailing = true <;> simp [OSL.add, render, ht]
    | ns c => simp [OSL.add, render]

theorem render_emitChar (tr : Bool) (c : Char) (es : List Emit) :
    render tr (emitChar c :: es) =
      if pyIsSpace c then (if tr then render true es else ' ' :: render true es) else c :: render false es := by
  unfold emitChar; split <;> rfl

/-- blank merging as a function of the line -/
def collapse (l : List Char) : List Char := render false (l.map emitChar)

theorem collapse_eq (l : List Char) : (({} : OSL).addAll (l.map emitChar)).parts = collapse l := parts_addAll _ _

theorem render_true_head (l : List Char) (h : isDirectiveLine l = false) :
    (render true (l.map emitChar)).head? ≠ some '#' := by
  induction l with
  | nil => exact fun h => nomatch h
  | cons c cs ih =>
    simp only [isDirectiveLine_cons] at h
    simp only [List.map_cons, render_emitChar]
    by_cases hs : pyIsSpace c = true
    · simp only [hs, if_true] at h ⊢; exact ih h
    · simp only [hs, Bool.false_eq_true, if_false, beq_eq_false_iff_ne, ne_eq] at h ⊢
      simpa using h

theorem collapse_notdir (l : List Char) (h : isDirectiveLine l = false) : isDirText (collapse l) = false := by
  cases l with
  | nil => rfl
  | cons c cs =>
    simp only [isDirectiveLine_cons] at h
    rw [Bool.eq_false_iff, ne_eq, collapse, List.map_cons, render_emitChar]
    by_cases hs : pyIsSpace c = true
    · simp only [hs, if_true, Bool.false_eq_true, if_false] at h ⊢
      rw [isDirText_cons]
      rintro (e | ⟨_, e⟩)
      · cases e
      · exact render_true_head cs h e
    · simp only [hs, Bool.false_eq_true, if_false, beq_eq_false_iff_ne, ne_eq] at h ⊢
      rw [isDirText_cons]
      rintro (e | ⟨e, _⟩)
      · exact h e
      · rw [e] at hs; exact hs (by decide)

theorem anyVis_emitChar (l : List Char) : anyVis (l.map emitChar) = !isBlankLine l := by
  induction l with
  | nil => rfl
  | cons c cs ih =>
    rw [List.map_cons, anyVis_cons, emitChar_vis, ih, isBlankLine, isBlankLine, dropWs_cons]
    by_cases hs : pyIsSpace c = true
    · simp [hs, (cls_ws_iff c).mpr hs]
    · simp [hs, mt (cls_ws_iff c).mp hs]

theorem anyLit_emitChar (l : List Char) : anyLit (l.map emitChar) = false := by
  simp [anyLit, emitChar_lit]

/-- no emission of `emitChar` is a blank of a literal, so the cleaner's buffer invariant decides (`BInv.counted`) -/
theorem code_blank_iff (l : List Char) : ∀ ob : OSL, ob.OnlySp →
    (ob.addAll (l.map emitChar)).blank = isBlankLine l := by
  intro ob ho
  have h := ((binv_of_onlySp ho).addAll (l.map emitChar)).counted (by simp [anyLit_emitChar])
  rw [Bool.false_or, anyVis_emitChar] at h
  simpa using h

/-! ## one line, read on from any state

`dLine` reads a line at TOPLEVEL on an empty buffer, then the logical newline unless it ends inside a block comment; inside a
directive the same is needed from the state and the buffer reached so far. -/

def dRest (st : List DMode) (ob : OSL) (l : List Char) : Except FErr (List DMode × OSL) :=
  match dProcess st ob l with
  | .error e => .error e
  | .ok (st1, ob1) => if st1.head? != some .blockC then dNewline st1 ob1 else .ok (st1, ob1)

theorem dLine_eq (l : List Char) : dLine l = dRest [.top] {} l := rfl

/-- a character that is consumed: not put back, no early return -/
theorem dRest_cons {st st1 : List DMode} {ob ob1 : OSL} {c : Char} (cs : List Char)
    (h : dStep1 st ob c = .ok (st1, ob1, false, false)) : dRest st ob (c :: cs) = dRest st1 ob1 cs := by
  simp only [dRest, dProcess_cons, h, Bool.false_eq_true, if_false]

/-- on a non-blank buffer a `#` opens nothing: without backslash the pass stays at TOPLEVEL and merges blanks -/
theorem dProcess_code (l : List Char) : ∀ (ob : OSL), (∀ c ∈ l, c ≠ '\\') → ob.blank = false →
    dProcess [.top] ob l = .ok ([.top], ob.addAll (l.map emitChar)) := by
  induction l with
  | nil => intro ob _ _; rfl
  | cons c cs ih =>
    intro ob hb ho
    have h1 : dStep1 [.top] ob c = .ok ([.top], ob.add (emitChar c), false, false) := by
      simp [dStep1_top, hb c (by simp), ho]
    simp only [dProcess_cons, h1, Bool.false_eq_true, if_false]
    exact ih _ (fun x hx => hb x (by simp [hx])) (nonblank_of_ext (ext_add _ _) ho)

/-! ## the rest of a directive line, as a function of its characters -/

/-- the stack of the C pass between two characters of a directive without `/*`: `q` is `.dir` at the top level of the
    directive, `.dq` / `.sq` inside a string / character literal (right after a `/` the pass is in none of these:
    `dRest_dir` looks at the character after a `/` itself) -/
def dstk : DMode → List DMode
  | .dir => [.dir, .top]
  | q => [q, .dir, .top]

def InDir (q : DMode) : Prop := q = .dir ∨ q = .dq ∨ q = .sq

/-- where the pass stands after a character that is appended: quotes open and close literals -/
def dirNext (q : DMode) (c : Char) : DMode :=
  if q = .dir then (if c = '"' then .dq else if c = '\'' then .sq else .dir)
  else if (q = .dq ∧ c = '"') ∨ (q = .sq ∧ c = '\'') then .dir else q

/-- what the C pass appends for the rest `l` of a directive read on at `q`, the logical newline included: blanks are
    merged outside literals; outside a string a `//` ends the line as one blank and any other `/` is text (`/*` does not
    occur) -/
def dirOut (q : DMode) : List Char → List Emit
  | [] => []
  | c :: cs =>
    if c = '/' ∧ q ≠ .dq then
      match cs with
      | [] => [.ns '/']
      | d :: _ => if d = '/' then [.sp] else .ns '/' :: dirOut q cs
    else (if q = .dir then emitChar c else .ns c) :: dirOut (dirNext q c) cs

/-- one character inside a directive, other than a `/` outside a string -/
theorem dStep1_inDir (q : DMode) (ob : OSL) (c : Char) (hq : InDir q) (hc : c ≠ '\\') (hs : ¬(c = '/' ∧ q ≠ .dq)) :
    InDir (dirNext q c) ∧
    dStep1 (dstk q) ob c = .ok (dstk (dirNext q c), ob.add (if q = .dir then emitChar c else .ns c), false, false) := by
  have hdq : pyIsSpace '"' = false := by decide
  have hsq : pyIsSpace '\'' = false := by decide
  rcases hq with rfl | rfl | rfl
  · have h1 : c ≠ '/' := fun h => hs ⟨h, by simp⟩
    by_cases h2 : c = '"'
    · subst h2; exact ⟨.inr (.inl rfl), by simp [dstk, dirNext, dStep1_dir, emitChar, hdq]⟩
    · by_cases h3 : c = '\''
      · subst h3; exact ⟨.inr (.inr rfl), by simp [dstk, dirNext, dStep1_dir, emitChar, hsq]⟩
      · exact ⟨.inl (by simp [dirNext, h2, h3]), by simp [dstk, dirNext, dStep1_dir, hc, h1, h2, h3]⟩
  · by_cases h2 : c = '"'
    · subst h2; exact ⟨.inl rfl, by simp [dstk, dirNext, dStep1_dq]⟩
    · exact ⟨.inr (.inl (by simp [dirNext, h2])), by simp [dstk, dirNext, dStep1_dq, hc, h2]⟩
  · have h1 : c ≠ '/' := fun h => hs ⟨h, by simp⟩
    by_cases h3 : c = '\''
    · subst h3; exact ⟨.inl rfl, by simp [dstk, dirNext, dStep1_sq]⟩
    · exact ⟨.inr (.inr (by simp [dirNext, h3])), by simp [dstk, dirNext, dStep1_sq, hc, h1, h3]⟩

theorem dProcess_lineC (cs : List Char) (r : List DMode) (ob : OSL) :
    dProcess (.lineC :: r) ob cs = .ok (.lineC :: r, ob) := by
  cases cs with
  | nil => rfl
  | cons c cs => simp [dProcess_cons, dStep1_lineC]

/-- only after a `/` that opens no comment is a character put back -/
theorem dStep1_putback {st st' : List DMode} {ob ob' : OSL} {c : Char} {ret : Bool} :
    dStep1 st ob c = .ok (st', ob', true, ret) → st.head? = some .slash := by
  fun_cases dStep1 st ob c <;> first | exact fun _ => rfl | exact nofun

/-- a character that is put back is read again: `dProcess` dispatches it a second time and ignores the putback flag of that
    dispatch, which is not set, since the first one has left `.slash` -/
theorem dProcess_putback {st st1 : List DMode} {ob ob1 : OSL} {c : Char} (cs : List Char)
    (h : dStep1 st ob c = .ok (st1, ob1, true, false)) (hs : st1.head? ≠ some .slash) :
    dProcess st ob (c :: cs) = dProcess st1 ob1 (c :: cs) := by
  simp only [dProcess_cons, h, Bool.false_eq_true, if_false, if_true]
  cases h2 : dStep1 st1 ob1 c with
  | error e => rfl
  | ok r =>
    obtain ⟨st2, ob2, pb, ret⟩ := r
    cases pb with
    | false => rfl
    | true => exact absurd (dStep1_putback h2) hs

/-- a `/` that opens no comment is appended, and the character after it is read again -/
theorem dProcess_slash (st : List DMode) (ob : OSL) (d : Char) (ds : List Char)
    (hs : st.head? ≠ some .slash) (h1 : d ≠ '/') (h2 : d ≠ '*') :
    dProcess (.slash :: st) ob (d :: ds) = dProcess st (ob.add (.ns '/')) (d :: ds) :=
  dProcess_putback ds (by rw [dStep1_slash, if_neg (by simpa using h1), if_neg (by simpa using h2)]; rfl) hs

/-- a `/` inside a directive, outside a string: nothing is appended yet -/
theorem dStep1_inDir_slash (q : DMode) (ob : OSL) (hq : InDir q) (h : q ≠ .dq) :
    dStep1 (dstk q) ob '/' = .ok (.slash :: dstk q, ob, false, false) := by
  rcases hq with rfl | rfl | rfl
  · rfl
  · exact absurd rfl h
  · rfl

theorem hasSlashStar_tail (c : Char) (cs : List Char) (h : hasSlashStar (c :: cs) = false) :
    hasSlashStar cs = false := by
  simp only [hasSlashStar_cons, Bool.or_eq_false_iff] at h; exact h.2

theorem dRest_dir (l : List Char) : ∀ (q : DMode) (ob : OSL), InDir q →
    (∀ c ∈ l, c ≠ '\\') → hasSlashStar l = false → dRest (dstk q) ob l = .ok ([.top], ob.addAll (dirOut q l)) := by
  intro q
  -- the branches of `dirOut`: end of the line; a `/` outside a string at the end of the line, before a second `/`, before
  -- any other character (the pass waits in `.slash` and looks at the next character in the same way); any other character
  fun_induction dirOut q l with
  | case1 q => intro ob hq _ _; rcases hq with rfl | rfl | rfl <;> rfl
  | case2 q c h =>
    intro ob hq _ _
    obtain ⟨rfl, hq2⟩ := h
    rw [dRest_cons [] (dStep1_inDir_slash q ob hq hq2)]; rfl
  | case3 q c h ds =>
    -- `//`: the rest of the line is a comment; the logical newline leaves one blank for it
    intro ob hq _ _
    obtain ⟨rfl, hq2⟩ := h
    rw [dRest_cons _ (dStep1_inDir_slash q ob hq hq2), dRest_cons (st1 := .lineC :: dstk q) (ob1 := ob) ds rfl, dRest,
      dProcess_lineC]
    rfl
  | case4 q c h d ds h2 ih =>
    intro ob hq hb hss
    obtain ⟨rfl, hq2⟩ := h
    have hd : d ≠ '*' := by
      simp only [hasSlashStar_cons, Bool.or_eq_false_iff, Bool.and_eq_false_iff] at hss
      simpa using hss.1
    rw [dRest_cons _ (dStep1_inDir_slash q ob hq hq2), dRest,
      dProcess_slash _ ob d ds (by rcases hq with rfl | rfl | rfl <;> decide) h2 hd, ← dRest,
      ih _ hq (fun x hx => hb x (by simp [hx])) (hasSlashStar_tail _ _ hss)]
    rfl
  | case5 q c cs h ih =>
    intro ob hq hb hss
    obtain ⟨hq', e⟩ := dStep1_inDir q ob c hq (hb c (by simp)) h
    rw [dRest_cons cs e, ih _ hq' (fun x hx => hb x (by simp [hx])) (hasSlashStar_tail c cs hss)]; rfl

/-! ## a whole line, as a function of its characters -/

/-- what the C pass appends for a line read at TOPLEVEL on a buffer that holds blanks only: leading blanks are merged;
    then a `#` opens a directive, and after any other character the line is copied with blanks merged -/
def lineOut : List Char → List Emit
  | [] => []
  | c :: cs =>
    if pyIsSpace c then .sp :: lineOut cs
    else if c = '#' then .ns '#' :: dirOut .dir cs
    else (c :: cs).map emitChar

theorem dRest_top (l : List Char) : ∀ (ob : OSL), ob.OnlySp → (∀ c ∈ l, c ≠ '\\') →
    (isDirectiveLine l = true → hasSlashStar l = false) → dRest [.top] ob l = .ok ([.top], ob.addAll (lineOut l)) := by
  -- the branches of `lineOut`: end of the line, a blank, `#`, any other character
  fun_induction lineOut l with
  | case1 => intro ob _ _ _; rfl
  | case2 c cs hs ih =>
    intro ob ho hb hss
    have hne : c ≠ '#' := fun hh => by rw [hh, hash_not_space] at hs; cases hs
    rw [isDirectiveLine_cons, if_pos hs] at hss
    rw [dRest_cons (st1 := [.top]) (ob1 := ob.add .sp) cs (by simp [dStep1_top, hb c (by simp), hne, emitChar, hs])]
    exact ih _ (onlySp_add ob .sp ho rfl rfl) (fun x hx => hb x (by simp [hx])) fun hd => hasSlashStar_tail c cs (hss hd)
  | case3 cs hs =>
    intro ob ho hb hss
    rw [dRest_cons (st1 := [.dir, .top]) (ob1 := ob.add (.ns '#')) cs (by simp [dStep1_top, blank_of_onlySp ob ho])]
    exact dRest_dir cs .dir _ (.inl rfl) (fun x hx => hb x (by simp [hx])) (hasSlashStar_tail _ cs (hss rfl))
  | case4 c cs hs hh =>
    intro ob ho hb hss
    have hv : (ob.add (emitChar c)).blank = false :=
      blank_of_hasVis _ (by rw [hasVis_add, emitChar_vis]; simp [hs])
    rw [dRest_cons (st1 := [.top]) (ob1 := ob.add (emitChar c)) cs (by simp [dStep1_top, hb c (by simp), hh]),
      dRest, dProcess_code cs _ (fun x hx => hb x (by simp [hx])) hv]
    rfl

theorem dLine_ok (l : List Char) (h : LineOK l) : dLine l = .ok ([.top], ({} : OSL).addAll (lineOut l)) :=
  dLine_eq l ▸ dRest_top l {} onlySp_empty h.1 h.2

theorem lineOut_code (l : List Char) (hd : isDirectiveLine l = false) : lineOut l = l.map emitChar := by
  fun_induction lineOut l with
  | case1 => rfl
  | case2 c cs hs ih => rw [isDirectiveLine_cons, if_pos hs] at hd; rw [ih hd, List.map_cons, emitChar, if_pos hs]
  | case3 cs hs => rw [isDirectiveLine_cons, if_neg hs] at hd; cases hd
  | case4 c cs hs hh => rfl

theorem dirOut_head (l : List Char) : ((render false (dirOut .dir l)).head? == some '#') = (l.head? == some '#') := by
  fun_cases dirOut .dir l with
  | case1 => rfl
  | case2 c h | case3 c h ds | case4 c h d ds h2 => simp [render, h.1]
  | case5 c cs h =>
    rw [if_pos rfl, render_emitChar]
    by_cases hs : pyIsSpace c = true
    · have : c ≠ '#' := fun e => by rw [e, hash_not_space] at hs; cases hs
      simp [hs, this]
    · simp [hs]

/-- `FileParser.is_directive` on the cleaned text of a `#` line: does it start with `##` -/
def startsPaste (t : List Char) : Bool := (t.dropWhile (· == ' ')).take 2 == ['#', '#']

theorem startsPaste_hash (q : List Char) : startsPaste ('#' :: q) = (q.head? == some '#') := by
  cases q with
  | nil => simp [startsPaste]
  | cons a r => by_cases ha : a = '#' <;> simp [startsPaste, ha]

theorem lineOut_dir (l : List Char) : ∀ (ob : OSL), ob.OnlySp → isDirectiveLine l = true →
    isDirText (ob.addAll (lineOut l)).parts = true ∧ startsPaste (ob.addAll (lineOut l)).parts = isPasteLine l := by
  fun_induction lineOut l with
  | case1 => intro ob _ h; cases h
  | case2 c cs hs ih =>
    intro ob ho hd
    rw [isDirectiveLine_cons, if_pos hs] at hd
    rw [isPasteLine_cons, if_pos hs]
    exact ih _ (onlySp_add ob .sp ho rfl rfl) hd
  | case3 cs hs =>
    intro ob ho _
    rw [isPasteLine_cons, if_neg hs, show ob.addAll (.ns '#' :: dirOut .dir cs) = (ob.add (.ns '#')).addAll (dirOut .dir cs) from rfl,
      parts_addAll, show (ob.add (.ns '#')).trailing = false from rfl]
    have hh := dirOut_head cs
    generalize render false (dirOut .dir cs) = t at hh ⊢
    have hp : startsPaste ((ob.add (.ns '#')).parts ++ t) = startsPaste ('#' :: t) := by
      rcases ho with ⟨hp0, _⟩ | ⟨hp0, _⟩ <;> simp [OSL.add, hp0, startsPaste]
    refine ⟨?_, by rw [hp, startsPaste_hash, hh]; simp⟩
    rcases ho with ⟨hp0, _⟩ | ⟨hp0, _⟩ <;> simp [OSL.add, hp0, isDirText_cons]
  | case4 c cs hs hh =>
    intro ob _ hd
    rw [isDirectiveLine_cons, if_neg hs] at hd
    exact absurd (by simpa using hd) hh

theorem dLine_dir (l : List Char) (hd : isDirectiveLine l = true) (h : LineOK l) :
    ∃ ob, dLine l = .ok ([.top], ob) ∧ isDirText ob.parts = true ∧ startsPaste ob.parts = isPasteLine l :=
  ⟨_, dLine_ok l h, lineOut_dir l {} onlySp_empty hd⟩

theorem dLine_code (l : List Char) (hd : isDirectiveLine l = false) (h : LineOK l) :
    dLine l = .ok ([.top], ({} : OSL).addAll (l.map emitChar)) := by
  rw [dLine_ok l h, lineOut_code l hd]

theorem cpass_dir (n : Nat) (l : List Char) (ls : List (List Char)) (hd : isDirectiveLine l = true) (h : LineOK l) :
    ∃ t, cpass n (l :: ls) = ⟨[n + 1], t⟩ :: cpass (n + 1) ls ∧ isDirText t = true ∧
      startsPaste t = isPasteLine l := by
  obtain ⟨ob, e1, e2, e3⟩ := dLine_dir l hd h
  exact ⟨ob.parts, by simp only [cpass_cons, e1, nonblank_of_isDirText ob e2]; rfl, e2, e3⟩

theorem cpass_blank (n : Nat) (l : List Char) (ls : List (List Char)) (hd : isDirectiveLine l = false)
    (hb : isBlankLine l = true) (h : LineOK l) : cpass n (l :: ls) = cpass (n + 1) ls := by
  simp only [cpass_cons, dLine_code l hd h, code_blank_iff l {} onlySp_empty, hb, if_true, List.nil_append]

theorem cpass_code (n : Nat) (l : List Char) (ls : List (List Char)) (hd : isDirectiveLine l = false)
    (hb : isBlankLine l = false) (h : LineOK l) :
    cpass n (l :: ls) = ⟨[n + 1], collapse l⟩ :: cpass (n + 1) ls := by
  simp only [cpass_cons, dLine_code l hd h, code_blank_iff l {} onlySp_empty, hb, collapse_eq]
  rfl

theorem getLast_ne (l : List Char) (h : ∀ c ∈ l, c ≠ '\\') : (l.getLast? == some '\\') = false := by
  cases hl : l.getLast? with
  | none => rfl
  | some x => simp [h x (List.mem_of_getLast? hl)]

theorem join_empty_parts (ob : OSL) : (({} : OSL).join ob).parts = ob.parts := by
  unfold OSL.join
  rcases hp : ob.parts with _ | ⟨p, ps⟩ <;> simp

theorem emitCL_join_empty (ob : OSL) (lines : List Nat) : emitCL (({} : OSL).join ob) lines = emitCL ob lines := by
  unfold emitCL; rw [join_empty_parts]

/-- a physical line that is not spliced: the loop runs `dRest` on it, and the logical line ends unless a block comment is open -/
theorem dLoop_unspliced (st : List DMode) (cur : OSL) (lines : List Nat) (n : Nat) {content : List Char} (hasNl : Bool)
    (rest : List (List Char × Bool)) (hc : (content.getLast? == some '\\') = false) :
    dLoop st cur lines n ((content, hasNl) :: rest) =
      match dRest st {} content with
      | .error e => .error e
      | .ok (st2, ob2) =>
        if st2.head? != some .blockC then
          (dLoop st2 {} [] (n + 1) rest).map (emitCL (cur.join ob2) (if ob2.blank then lines else lines ++ [n + 1]) ++ ·)
        else dLoop st2 (cur.join ob2) (if ob2.blank then lines else lines ++ [n + 1]) (n + 1) rest := by
  simp only [dLoop_cons, hc, Bool.and_false, Bool.false_eq_true, if_false, Bool.not_false, Bool.true_and, dRest]
  cases dProcess st {} content with
  | error e => rfl
  | ok r =>
    by_cases h : (r.1.head? != some .blockC) = true
    · simp only [h, if_true]; rfl
    · simp only [h, Bool.false_eq_true, if_false]

theorem dLoop_ok (phys : List (List Char × Bool)) : ∀ (n : Nat), (∀ p ∈ phys, LineOK p.1) →
    dLoop [.top] {} [] n phys = .ok (cpass n (phys.map (·.1))) := by
  induction phys with
  | nil => intro n _; rfl
  | cons p rest ih =>
    intro n hok
    obtain ⟨content, hasNl⟩ := p
    have hl : LineOK content := hok (content, hasNl) (by simp)
    rw [dLoop_unspliced _ _ _ _ _ _ (getLast_ne content hl.1), ← dLine_eq, List.map_cons, cpass_cons, dLine_ok content hl]
    generalize ({} : OSL).addAll (lineOut content) = ob
    dsimp only
    rw [if_pos (by decide), ih (n + 1) fun p hp => hok p (by simp [hp]), emitCL_join_empty, emitCL_eq]
    cases ob.blank <;> rfl

end CbiVerif.Fortran
