import CbiVerif.Model.Tree
/-! Lemmas for `C01.build_eq`: the zipper model of `SourceTree.insert` builds the intended tree
for every structured program (mutual induction over `Item/Block/Conts`) and never raises.

Builder states are compared after `settle`, which closes a leaf at the head of the spine, so that the head is the
parent of the next line: inserting the lines of an item adds its trees there (`addKids`). -/
namespace CbiVerif.Cond

def Zip.addKids (z : Zip) (ts : List Tree) : Zip :=
  match z.spine with
  | [] => { z with rootKids := z.rootKids ++ ts }
  | f :: rest => { z with spine := { f with kids := f.kids ++ ts } :: rest }

def Zip.settle (z : Zip) : Zip :=
  match z.spine with
  | [] => z
  | f :: _ => if f.lbl.opens then z else z.up

def Zip.Good (z : Zip) : Prop :=
  z.crashed = false ∧
  match z.spine with
  | [] => True
  | f :: _ => f.lbl.opens = true ∨ f.kids = []

theorem insertAll_append (z : Zip) (xs ys : List Lbl) :
    insertAll z (xs ++ ys) = insertAll (insertAll z xs) ys := by
  simp [insertAll, List.foldl_append]

theorem insertAll_cons (z : Zip) (l : Lbl) (ls : List Lbl) : insertAll z (l :: ls) = insertAll (z.insert l) ls := rfl

theorem addKids_nil (z : Zip) : z.addKids [] = z := by
  obtain ⟨rk, sp, cr⟩ := z
  cases sp <;> simp [Zip.addKids]

theorem addKids_append (z : Zip) (xs ys : List Tree) :
    (z.addKids xs).addKids ys = z.addKids (xs ++ ys) := by
  obtain ⟨rk, sp, cr⟩ := z
  cases sp <;> simp [Zip.addKids]

theorem insert_child (z : Zip) (l : Lbl) (hz : z.crashed = false) (hl : (l.isCont || l.isEnd) = false) :
    z.insert l = z.settle.push l := by
  unfold Zip.insert Zip.settle
  rw [hz]
  cases z.spine with
  | nil => rfl
  | cons f rest => by_cases ho : f.lbl.opens = true <;> cases l.isStart <;> simp [hl, ho]

/-- the climb of `walk_to_tree_insertion_point` stops at an opening frame, whatever the fuel -/
theorem walk_stop (n : Nat) (z : Zip) (f : Frame) (rest : List Frame) (hs : z.spine = f :: rest) (hf : f.lbl.opens = true) :
    z.walk n = z := by
  cases n with
  | zero => rfl
  | succ n => simp [Zip.walk, hs, hf]

/-- the first step of the climb is `settle` -/
theorem walk_succ (n : Nat) (z : Zip) : z.walk (n + 1) = z.settle.walk n := by
  rw [Zip.walk, Zip.settle]
  cases hsp : z.spine with
  | nil => cases n <;> simp [Zip.walk, hsp]
  | cons f rest =>
    by_cases ho : f.lbl.opens = true
    · simp only [ho, if_true]; exact (walk_stop n z f rest hsp ho).symm
    · simp only [ho, Bool.false_eq_true, if_false]

/-- inserting a continuation / end line when the current parent is the opening frame `f`: the climb ends there,
`f` is closed into its own parent and the new line becomes its sibling. -/
theorem insert_contEnd (z : Zip) (l : Lbl) (hcr : z.crashed = false) (hl : (l.isCont || l.isEnd) = true)
    (f : Frame) (rest : List Frame) (hs : z.settle.spine = f :: rest) (hf : f.lbl.opens = true) :
    z.insert l = z.settle.up.push l := by
  have hs0 : l.isStart = false := by
    unfold Lbl.isCont Lbl.isEnd at hl; unfold Lbl.isStart; cases hk : l.kind <;> simp_all
  unfold Zip.insert
  cases hsp : z.spine with
  | nil => simp [Zip.settle, hsp] at hs
  | cons g rest' =>
    simp only [hcr, hs0, hl, if_true, Bool.false_eq_true, if_false, List.length_cons]
    rw [walk_succ, walk_stop _ _ f rest hs hf, hs]

theorem push_addKids_up (z : Zip) (l : Lbl) (ts : List Tree) :
    ((z.push l).addKids ts).up = z.addKids [.node l ts] := by
  obtain ⟨rk, sp, cr⟩ := z
  cases sp <;> simp [Zip.push, Zip.addKids, Zip.up, Frame.close]

theorem push_settle_open (z : Zip) (l : Lbl) (h : l.opens = true) : (z.push l).settle = z.push l := by
  simp [Zip.push, Zip.settle, h]

theorem push_settle_leaf (z : Zip) (l : Lbl) (h : l.opens = false) :
    (z.push l).settle = z.addKids [.node l []] := by
  have := push_addKids_up z l []
  rw [addKids_nil] at this
  simp [Zip.settle, Zip.push, h] at this ⊢
  exact this

theorem up_crashed (z : Zip) : z.up.crashed = z.crashed := by
  obtain ⟨rk, sp, cr⟩ := z
  cases sp with
  | nil => rfl
  | cons f rest => cases rest <;> rfl

theorem settle_crashed (z : Zip) : z.settle.crashed = z.crashed := by
  unfold Zip.settle
  split
  · rfl
  · split
    · rfl
    · exact up_crashed z

theorem good_push (z : Zip) (l : Lbl) (h : z.crashed = false) : (z.push l).Good := by
  simp [Zip.Good, Zip.push, h]

theorem insert_leaf (z : Zip) (l : Lbl) (hz : z.crashed = false) (hl : l.opens = false) (hce : (l.isCont || l.isEnd) = false) :
    (z.insert l).settle = z.settle.addKids [.node l []] ∧ (z.insert l).Good := by
  rw [insert_child z l hz hce]
  exact ⟨push_settle_leaf _ _ hl, good_push _ _ ((settle_crashed z).trans hz)⟩

/-- a continuation / end line that opens nothing, with the opening frame `f` as current parent: a leaf after `f` -/
theorem insert_end (z : Zip) (l : Lbl) (hz : z.crashed = false) (hl : l.opens = false) (hce : (l.isCont || l.isEnd) = true)
    (f : Frame) (rest : List Frame) (hs : z.settle.spine = f :: rest) (hf : f.lbl.opens = true) :
    (z.insert l).settle = z.settle.up.addKids [.node l []] ∧ (z.insert l).Good := by
  rw [insert_contEnd z l hz hce f rest hs hf]
  exact ⟨push_settle_leaf _ _ hl, good_push _ _ (by rw [up_crashed, settle_crashed]; exact hz)⟩

/-- a group with what continues its chain (`#if`, `#elif` and `#else` alike): once the opening line `l` is pushed on `Z`,
lines that add `bt` (`hb`), then lines that close the opening frame and add `ct` after it (`hc`), add to `Z` the node `l`
with children `bt`, then `ct` -/
theorem group_build {Z : Zip} {l : Lbl} (hl : l.opens = true) (hZ : Z.crashed = false) {bl cl : List Lbl} {bt ct : List Tree}
    (hb : ∀ z : Zip, z.Good → (insertAll z bl).settle = z.settle.addKids bt ∧ (insertAll z bl).Good)
    (hc : ∀ z : Zip, z.Good → ∀ (f : Frame) (rest : List Frame), z.settle.spine = f :: rest → f.lbl.opens = true →
      (insertAll z cl).settle = z.settle.up.addKids ct ∧ (insertAll z cl).Good) :
    (insertAll (Z.push l) (bl ++ cl)).settle = Z.addKids (.node l bt :: ct) ∧ (insertAll (Z.push l) (bl ++ cl)).Good := by
  rw [insertAll_append]
  obtain ⟨hb, hbg⟩ := hb _ (good_push Z l hZ)
  rw [push_settle_open _ _ hl] at hb
  obtain ⟨hc, hcg⟩ := hc _ hbg ⟨l, bt⟩ Z.spine (by rw [hb]; rfl) hl
  exact ⟨by rw [hc, hb, push_addKids_up, addKids_append]; rfl, hcg⟩

mutual
theorem Item.build (i : Item) (z : Zip) (hz : z.Good) :
    (insertAll z i.lines).settle = z.settle.addKids i.trees ∧ (insertAll z i.lines).Good := by
  cases i with
  | code id => exact insert_leaf z _ hz.1 rfl rfl
  | dir id p => exact insert_leaf z _ hz.1 rfl rfl
  | cond id p b rest =>
    rw [Item.lines, Item.trees, insertAll_cons, insert_child z _ hz.1 rfl]
    exact group_build rfl ((settle_crashed z).trans hz.1) (Block.build b) (Conts.build rest)
theorem Block.build (b : Block) (z : Zip) (hz : z.Good) :
    (insertAll z b.lines).settle = z.settle.addKids b.trees ∧ (insertAll z b.lines).Good := by
  cases b with
  | nil => exact ⟨(addKids_nil _).symm, hz⟩
  | cons i b =>
    rw [Block.lines, Block.trees, insertAll_append]
    obtain ⟨hi, hig⟩ := Item.build i z hz
    obtain ⟨hb, hbg⟩ := Block.build b _ hig
    exact ⟨by rw [hb, hi, addKids_append], hbg⟩
theorem Conts.build (c : Conts) (z : Zip) (hz : z.Good) (f : Frame) (rest : List Frame)
    (hs : z.settle.spine = f :: rest) (hf : f.lbl.opens = true) :
    (insertAll z c.lines).settle = z.settle.up.addKids c.trees ∧ (insertAll z c.lines).Good := by
  have hc0 : z.settle.up.crashed = false := by rw [up_crashed, settle_crashed]; exact hz.1
  cases c with
  | endif id => exact insert_end z _ hz.1 rfl rfl f rest hs hf
  | elif id p b r =>
    rw [Conts.lines, Conts.trees, insertAll_cons, insert_contEnd z _ hz.1 rfl f rest hs hf]
    exact group_build rfl hc0 (Block.build b) (Conts.build r)
  | els id b e =>
    -- `#else … #endif` is the chain `#elif … ` continued by the bare `#endif e`
    rw [Conts.lines, Conts.trees, insertAll_cons, insert_contEnd z _ hz.1 rfl f rest hs hf]
    exact group_build rfl hc0 (Block.build b) fun z hz => insert_end z ⟨e, .endk, 0⟩ hz.1 rfl rfl
end

/-- what is left open in a builder that settles at the root is at most one leaf under the root -/
theorem finish_settled (zf : Zip) (ts : List Tree) (h : zf.settle = { rootKids := ts, spine := [], crashed := false }) :
    (if zf.crashed then none else some (zf.closeAll zf.spine.length)) = some ts := by
  have hcr : zf.crashed = false := by rw [← settle_crashed, h]
  rw [hcr, if_neg Bool.false_ne_true]
  congr 1
  obtain ⟨rk, sp, cr⟩ := zf
  cases sp with
  | nil => exact congrArg Zip.rootKids h
  | cons f rest =>
    change (if f.lbl.opens = true then _ else _) = _ at h
    by_cases ho : f.lbl.opens = true
    · rw [if_pos ho] at h; cases h
    · rw [if_neg ho] at h
      cases rest with
      | nil => exact congrArg Zip.rootKids h
      | cons g rest' => cases h

end CbiVerif.Cond
