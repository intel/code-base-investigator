import CbiVerif.Lemmas.FS
import CbiVerif.Lemmas.WalkRoots
import Mathlib.Data.List.Nodup
/-! Lemmas about the code-base model for C09 / C15.  `__contains__` is a function of the physical path a spelling names
(`contains_of_namei`) and raises exactly on a link loop that is not caught; what `rglob` yields and the candidates of
`__iter__` (no entry twice; the same entries, up to order, for every order of the list and without the repair of
F-C09-NEST); on the enumeration `skipped` is `is_symlink`; the keys of the parse cache are exactly the `realpath`s of
the spellings inserted.  How the tests of `__contains__` read as the property's `C09.memberSpec` is said beside it, in
`Props/C09.lean`. -/
namespace CbiVerif.CB
open CbiVerif.Path CbiVerif.FS

variable {cfg : Cfg} {fs : FS} {n : Nat} {roots : List Comps}

/-- the fuel exceeds the length of every physical path (so fuel only runs out on a link loop) -/
def bigFuel (fs : FS) (n : Nat) : Prop := ∀ e ∈ keys fs, e.length + 2 ≤ n

theorem contains_of_namei (cfg : Cfg) (roots : List Comps) {cwd : Comps} {p : P} {c : Comps}
    (hcwd : dirPath fs cwd = true) (h : namei fs n (start cwd p) p.comps = .ok c) (hn : c.length + 2 ≤ n) :
    contains cfg fs n roots cwd p = .ok (isFileE (lstat fs c) && accepted cfg roots c) := by
  have hr := namei_realpath_ok h
  have hcan := namei_canon (start_dirPath p hcwd) h
  have hst : stat fs n c = lstat fs c := by
    unfold stat; rw [namei_of_canon hcan hn]
  unfold contains
  rw [hr]
  simp only [hst]
  rcases canon_cases hcan with hk | hk <;> rw [hk] <;> simp [isFileE]

theorem isErr_contains_iff (cfg : Cfg) (roots : List Comps) (cwd : Comps) (p : P) :
    isErr (contains cfg fs n roots cwd p) = true ↔
      cfg.catchLoop = false ∧ realpath fs n (start cwd p) p.comps = .loop := by
  unfold contains
  rcases realpath_ok_or_loop fs n (start cwd p) p.comps with ⟨r, hr⟩ | hl
  · rw [hr]
    have : ∀ b, isErr (.ok b) = false := fun _ => rfl
    cases hs : stat fs n r with
    | none => simp [hs, this]
    | some e => cases e <;> simp [hs, this]
  · rw [hl]
    cases cfg.catchLoop <;> simp [isErr]

theorem contains_canon (cfg : Cfg) (roots : List Comps) {c : Comps} (hc : canon fs c = true)
    (hn : c.length + 2 ≤ n) :
    contains cfg fs n roots [] ⟨true, c⟩ = .ok (isFileE (lstat fs c) && accepted cfg roots c) :=
  contains_of_namei cfg roots (dirPath_nil fs) (namei_of_canon hc hn) hn

theorem contains_true_iff {cwd : Comps} {p : P} :
    contains cfg fs n roots cwd p = .ok true ↔
      ∃ r e, realpath fs n (start cwd p) p.comps = .ok r ∧ stat fs n r = some e ∧ e ≠ .dir ∧
        accepted cfg roots r = true := by
  unfold contains
  rcases realpath_ok_or_loop fs n (start cwd p) p.comps with ⟨r, hr⟩ | hl
  · rw [hr]
    cases hs : stat fs n r with
    | none => simp [hs]
    | some e => cases e <;> simp [hs]
  · rw [hl]
    cases cfg.catchLoop <;> simp

theorem contains_true_inv {cwd : Comps} {p : P} (h : contains cfg fs n roots cwd p = .ok true) :
    ∃ r e, realpath fs n (start cwd p) p.comps = .ok r ∧ stat fs n r = some e ∧ e ≠ .dir ∧
      accepted cfg roots r = true :=
  contains_true_iff.mp h

/-- the `realpath` of a member spelling is itself a member spelling: `path.resolve() in codebase` -/
theorem contains_resolve {x : Comps} (h : contains cfg fs n roots [] ⟨true, x⟩ = .ok true) :
    ∃ r, resolve fs n [] ⟨true, x⟩ = .ok r ∧ contains cfg fs n roots [] ⟨true, r⟩ = .ok true := by
  obtain ⟨r, e, hr, hs, hed, hacc⟩ := contains_true_iff.mp h
  -- `r` is a fixed point of `realpath` (with the same fuel: it is no longer than the walk that produced it), so
  -- `__contains__` applies the same tests to the same path
  have hrr : realpath fs n (start [] ⟨true, r⟩) r = .ok r :=
    realpath_of_linkFree (realpath_linkFree rfl hr) (by simpa [start] using realpath_length hr)
  exact ⟨r, by rw [resolve, hr], contains_true_iff.mpr ⟨r, e, hrr, hs, hed, hacc⟩⟩

/-! ## enumeration -/

theorem mem_rglob (fs : FS) (root x : Comps) :
    x ∈ rglob fs root ↔
      isDirE (lstat fs root) = true ∧ x ∈ keys fs ∧ root <+: x ∧ root.length < x.length ∧
      allFrom fs isDirE root (x.drop root.length).dropLast = true := by
  unfold rglob
  split
  · rename_i hd
    simp only [List.mem_filter, Bool.and_eq_true, decide_eq_true_eq, List.isPrefixOf_iff_prefix, hd, true_and,
      and_assoc]
  · rename_i hd
    simp [hd]

theorem iter_ok {l : List Comps} (h : iter cfg fs n roots = .ok l) :
    l = (candidates fs roots).filter (fun x => isTrue (contains cfg fs n roots [] ⟨true, x⟩)) := by
  unfold iter at h
  simp only at h
  split at h
  · cases h
  · injection h with h; exact h.symm

theorem isTrue_iff (r : Except Err Bool) : isTrue r = true ↔ r = .ok true := by
  cases r with
  | error e => simp [isTrue]
  | ok b => cases b <;> simp [isTrue]

theorem mem_iter {l : List Comps} (h : iter cfg fs n roots = .ok l) (x : Comps) :
    x ∈ l ↔ (∃ root ∈ walkRoots roots, x ∈ rglob fs root) ∧ contains cfg fs n roots [] ⟨true, x⟩ = .ok true := by
  rw [iter_ok h, List.mem_filter, isTrue_iff]
  unfold candidates
  rw [List.mem_flatMap]

/-- in a well-formed file system the parents of an entry are real directories, so `rglob` yields the entries strictly
below the root -/
theorem mem_rglob_wf (hwf : wf fs = true) {root x : Comps} :
    x ∈ rglob fs root ↔ x ∈ keys fs ∧ root <+: x ∧ root.length < x.length := by
  refine ⟨fun h => let ⟨_, a, b, c, _⟩ := (mem_rglob fs root x).mp h; ⟨a, b, c⟩, ?_⟩
  rintro ⟨hkey, ⟨t, rfl⟩, hlen⟩
  have ht : t ≠ [] := by rintro rfl; simp at hlen
  have hpar := (wf_parent_dirPath hwf hkey).1
  rw [List.dropLast_append_of_ne_nil ht, dirPath, allFrom_append, Bool.and_eq_true, List.nil_append] at hpar
  exact (mem_rglob fs root _).mpr
    ⟨dirPath_isDir hpar.1, hkey, List.prefix_append _ _, hlen, by rw [List.drop_left]; exact hpar.2⟩

theorem namei_file (hwf : wf fs = true) (hfuel : bigFuel fs n) {x : Comps} (hf : lstat fs x = some .file) :
    namei fs n [] x = .ok x :=
  namei_of_canon (wf_canon hwf (Or.inr hf)) (hfuel x (file_mem_keys hf))

theorem rglob_nodup (hwf : wf fs = true) (root : Comps) : (rglob fs root).Nodup := by
  unfold rglob
  split
  · exact List.Nodup.filter _ (wf_keys_nodup hwf)
  · exact List.nodup_nil

theorem flatMap_rglob_nodup (hwf : wf fs = true) {ds : List Comps}
    (h : ds.Pairwise (fun a b => ¬ a <+: b ∧ ¬ b <+: a)) :
    (ds.flatMap (rglob fs)).Nodup := by
  rw [List.nodup_flatMap]
  refine ⟨fun r _ => rglob_nodup hwf r, h.imp ?_⟩
  intro a b hab x hxa hxb
  rcases List.prefix_or_prefix_of_prefix ((mem_rglob_wf hwf).mp hxa).2.1 ((mem_rglob_wf hwf).mp hxb).2.1 with hp | hp
  · exact hab.1 hp
  · exact hab.2 hp

theorem candidates_nodup (hwf : wf fs = true) (roots : List Comps) : (candidates fs roots).Nodup :=
  flatMap_rglob_nodup hwf (walkRoots_pairwise roots)

/-- the candidates of the unrepaired enumeration are free of repetitions only when the listed directories do not overlap -/
theorem candidatesUnrepaired_nodup (fs : FS) (hwf : wf fs = true) (roots : List Comps)
    (hroots : roots.Pairwise (fun a b => ¬ a <+: b ∧ ¬ b <+: a)) : (candidatesUnrepaired fs roots).Nodup :=
  flatMap_rglob_nodup hwf hroots

theorem rglob_outer (hwf : wf fs = true) {w r x : Comps} (hwr : w <+: r) (hx : x ∈ rglob fs r) :
    x ∈ rglob fs w := by
  obtain ⟨hkey, hrx, hlen⟩ := (mem_rglob_wf hwf).mp hx
  exact (mem_rglob_wf hwf).mpr ⟨hkey, hwr.trans hrx, Nat.lt_of_le_of_lt hwr.length_le hlen⟩

/-- the repair removes repetitions and nothing else: the same entries are candidates -/
theorem mem_candidates_iff (hwf : wf fs = true) (roots : List Comps) (x : Comps) :
    x ∈ candidates fs roots ↔ x ∈ candidatesUnrepaired fs roots := by
  unfold candidates candidatesUnrepaired
  rw [List.mem_flatMap, List.mem_flatMap]
  constructor
  · rintro ⟨w, hw, hx⟩; exact ⟨w, walkRoots_subset hw, hx⟩
  · rintro ⟨r, hr, hx⟩
    obtain ⟨w, hw, hwr⟩ := exists_walkRoot hr
    exact ⟨w, hw, rglob_outer hwf hwr hx⟩

theorem candidates_perm (fs : FS) {r₁ r₂ : List Comps} (h : r₁.Perm r₂) :
    (candidates fs r₁).Perm (candidates fs r₂) := by
  unfold candidates
  exact (walkRoots_perm h).flatMap_right _

/-- an enumerated symbolic link is skipped by `get_setmap`; so `skipped` and `is_symlink` agree on the enumeration -/
theorem skipped_eq_isSymlink {l : List Comps} {x : Comps} (h : iter cfg fs n roots = .ok l) (hx : x ∈ l) :
    skipped cfg fs n roots x = isSymlink fs x := by
  have hct := ((mem_iter h x).mp hx).2
  obtain ⟨r, hr, hcr⟩ := contains_resolve hct
  unfold skipped
  rw [hr]
  simp only [hcr, isTrue, Bool.and_true]

/-! ## the parse cache -/

theorem mem_insertFile {cwd k : Comps} {cache : List Comps} {p : P} :
    k ∈ insertFile fs n cwd cache p ↔ k ∈ cache ∨ realpath fs n (start cwd p) p.comps = .ok k := by
  unfold insertFile
  split
  next r hr =>
    rw [hr, Res.ok.injEq]
    split
    next hc => exact ⟨.inl, fun h => h.elim id fun e => e ▸ by simpa using hc⟩
    · rw [List.mem_append, List.mem_singleton, eq_comm]
  next hr => exact ⟨.inl, fun h => h.elim id fun e => absurd e (hr k)⟩

theorem insertFile_nodup {cwd : Comps} {cache : List Comps} (p : P) (h : cache.Nodup) :
    (insertFile fs n cwd cache p).Nodup := by
  unfold insertFile
  split
  · split
    · exact h
    next hc => exact List.nodup_append.mpr ⟨h, List.nodup_singleton _, fun a ha b hb hab =>
        hc (by simpa using (List.mem_singleton.mp hb ▸ hab) ▸ ha)⟩
  · exact h

theorem mem_insertFiles {cwd k : Comps} : ∀ {ps : List P} {cache : List Comps},
    k ∈ insertFiles fs n cwd cache ps ↔ k ∈ cache ∨ ∃ p ∈ ps, realpath fs n (start cwd p) p.comps = .ok k
  | [], _ => by simp [insertFiles]
  | p :: ps, cache => by
    rw [insertFiles, List.foldl_cons, ← insertFiles, mem_insertFiles, mem_insertFile]
    simp [or_assoc]

theorem insertFiles_nodup {cwd : Comps} : ∀ (ps : List P) {cache : List Comps}, cache.Nodup →
    (insertFiles fs n cwd cache ps).Nodup
  | [], _, h => h
  | p :: ps, _, h => insertFiles_nodup ps (insertFile_nodup p h)

/-- the fuel that covers every entry covers every canonical path, the root included -/
theorem canon_fuel {fs : FS} {n : Nat} (hfuel : bigFuel fs n) (h2 : 2 ≤ n) {c : Comps} (hc : canon fs c = true) :
    c.length + 2 ≤ n := by
  by_cases hc0 : c = []
  · subst hc0; exact h2
  · rcases canon_cases hc with hk | hk <;> exact hfuel c (lstat_mem_keys hc0 hk)

theorem notLinks_ok {cfg : Cfg} {fs : FS} {n : Nat} {roots l : List Comps} (h : notLinks cfg fs n roots = .ok l) :
    ∃ l₀, iter cfg fs n roots = .ok l₀ ∧ l = l₀.filter fun x => !isSymlink fs x := by
  unfold notLinks at h
  split at h
  · next l₀ hi => exact ⟨l₀, hi, by injection h with h; exact h.symm⟩
  · cases h

end CbiVerif.CB
