import CbiVerif.Lemmas.ArgvSweep
/-! C11 helper: positional arguments inserted outside a flag/value pair do not change what the left-to-right
consume loop does to the four value lists (any table). -/
namespace CbiVerif.ArgvPositional
open CbiVerif.Argparse CbiVerif.ArgparseFull

theorem run_append (t : List Opt) : ∀ (xs ys : List Arg) (p : Pend) (c : Cfg),
    run t p c (xs ++ ys) =
      match stateAfter t p c xs with
      | .ok r => run t r.1 r.2 ys
      | .error e => .error e
  | [], ys, p, c => rfl
  | a :: xs, ys, p, c => by
    simp only [List.cons_append, run, stateAfter]
    cases hs : step t p c a with
    | error e => rfl
    | ok r => obtain ⟨p', c'⟩ := r; exact run_append t xs ys p' c'

theorem plain_view (t : List Opt) (a : Arg) (h : plainPositional a = true) : viewOf t a = .positional := by
  cases a with
  | nil => simp [viewOf, classify, viewOfCls]
  | cons c tl =>
    have hc : c ≠ '-' := by simpa [plainPositional] using h
    have hne : ¬ (c :: tl = ['-', '-']) := by
      intro e; injection e with e1 _; exact hc e1
    unfold viewOf classify
    simp [hne, hc, viewOfCls]

theorem run_optIgn (t : List Opt) (c : Cfg) (l : List Arg) : run t .optIgn c l = run t .idle c l := by
  cases l with
  | nil => rfl
  | cons a r => simp only [run, ArgvLemmas.step_optIgn]

theorem run_plain (t : List Opt) : ∀ (ps ys : List Arg) (c : Cfg),
    (∀ x ∈ ps, plainPositional x = true) → run t .idle c (ps ++ ys) = run t .idle c ys
  | [], _, _, _ => rfl
  | a :: ps, ys, c, h => by
    simp only [List.cons_append, run, step, plain_view t a (h a List.mem_cons_self), idleStep]
    exact run_plain t ps ys c fun x hx => h x (List.mem_cons_of_mem _ hx)

theorem ambiguous_plain (t : List Opt) : ∀ (ps ys : List Arg), (∀ x ∈ ps, plainPositional x = true) →
    ambiguousUpfront t (ps ++ ys) = ambiguousUpfront t ys
  | [], _, _ => rfl
  | a :: ps, ys, h => by
    have hv := plain_view t a (h a List.mem_cons_self)
    have hne : ¬ (a = ['-', '-']) := by
      intro e; subst e; simp [plainPositional] at h
    simp only [List.cons_append, ambiguousUpfront, if_neg hne, hv]
    have : (View.positional == View.ambiguous) = false := rfl
    rw [this, Bool.false_or]
    exact ambiguous_plain t ps ys (fun x hx => h x (List.mem_cons_of_mem _ hx))

theorem ambiguous_insert (t : List Opt) (ps ys : List Arg) (h : ∀ x ∈ ps, plainPositional x = true) :
    ∀ xs : List Arg, ambiguousUpfront t (xs ++ (ps ++ ys)) = ambiguousUpfront t (xs ++ ys)
  | [] => ambiguous_plain t ps ys h
  | a :: xs => by
    simp only [List.cons_append, ambiguousUpfront]
    rw [ambiguous_insert t ps ys h xs]

theorem parseKnown_insert (t : List Opt) (xs ps ys : List Arg) (h : ∀ x ∈ ps, plainPositional x = true)
    (hw : ∀ d c, stateAfter t .idle {} xs ≠ .ok (.need d, c) ∧ stateAfter t .idle {} xs ≠ .ok (.needIgn, c)) :
    parseKnown t (xs ++ ps ++ ys) = parseKnown t (xs ++ ys) := by
  unfold parseKnown
  rw [List.append_assoc, ambiguous_insert t ps ys h xs, run_append t xs (ps ++ ys), run_append t xs ys]
  cases hs : stateAfter t .idle {} xs with
  | error e => rfl
  | ok r =>
    obtain ⟨p, c⟩ := r
    have : run t p c (ps ++ ys) = run t p c ys := by
      cases p with
      | idle => exact run_plain t ps ys c h
      | optIgn => rw [run_optIgn, run_optIgn, run_plain t ps ys c h]
      | afterDD => rw [ArgvSweep.run_afterDD, ArgvSweep.run_afterDD]
      | need d => exact absurd hs (hw d c).1
      | needIgn => exact absurd hs (hw (.append .defines) c).2
    simp only [this]

end CbiVerif.ArgvPositional
