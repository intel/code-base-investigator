import CbiVerif.Lemmas.MacroObjTop
import CbiVerif.Lemmas.MacroDefined
/-! # `defined` in ANY position of a whole token list (object-like tables)

`Lemmas/MacroDefined.lean` proves what ONE loop iteration does with `defined X` / `defined ( X )`; the simulation
(`Lemmas/MacroStrSim.lean`, `sim_obj` of `Lemmas/MacroObjTop.lean`) runs the stream-stack machine over token lists that contain no
`defined`.  This file closes the gap: for every table of object-like macros and every token list in which each `defined` is
followed by an identifier or by `( identifier )` (`defOK`), the machine `MX.step`, started on the outermost stream, reaches the
exhausted stream whose tokens (holes removed) are `ED tbl d ts`:

* `defined X` / `defined ( X )` ↦ the ONE number token `1` / `0` read from the table (`X` is consumed, never expanded),
* every other token ↦ its recursive object-like expansion `E` (`Lemmas/MacroObj.lean`): the simulation on that one token,
  with the rest of the list behind it.

The outermost stream keeps holes (`None`) where `defined`, `(` and `X` were consumed, so the invariant speaks about a
prefix `P : List (Option Tok)`; a macro expansion in between splices its child stream and thereby removes the holes
collected so far, which is why the simulation describes the prefix up to holes. -/
namespace CbiVerif.MX
open CbiVerif.PP

/-- the token the expander treats as the `defined` operator -/
def isDef (t : Tok) : Bool := t.kind == .ident && t.text == "defined"

theorem isDef_iff (t : Tok) : isDef t = true ↔ t.kind = .ident ∧ t.text = "defined" := by
  simp only [isDef, Bool.and_eq_true, beq_iff_eq]

/-- what `defined X` / `defined ( X )` is replaced by: `1` / `0` from the table, with `prev_white` of `X` -/
def defTok (tbl : Table) (x : Tok) : Tok := numTok (isDefined tbl x.text) x.pw

/-- reference: `defined` decided from the table, everything else expanded by `E` (nothing disabled at top level) -/
def ED (tbl : Table) (d : Nat) : List Tok → List Tok
  | [] => []
  | t :: ts =>
    if isDef t then
      match ts with
      | [] => []
      | x :: rest =>
        if x.text == "(" then
          match rest with
          | [] => []
          | [_] => []
          | i :: _ :: rest' => defTok tbl i :: ED tbl d rest'
        else defTok tbl x :: ED tbl d rest
    else E tbl d [] [t] ++ ED tbl d ts
termination_by structural ts => ts

/-- every `defined` is followed by an identifier or by `(`, an identifier and `)` -/
def defOK : List Tok → Bool
  | [] => true
  | t :: ts =>
    if isDef t then
      match ts with
      | [] => false
      | x :: rest =>
        if x.text == "(" then
          match rest with
          | [] => false
          | [_] => false
          | i :: p :: rest' => i.kind == .ident && p.text == ")" && defOK rest'
        else x.kind == .ident && defOK rest
    else defOK ts
termination_by structural ts => ts

theorem ED_nil (tbl : Table) (d : Nat) : ED tbl d [] = [] := by simp [ED]

theorem ED_other (tbl : Table) (d : Nat) (t : Tok) (ts : List Tok) (h : isDef t = false) :
    ED tbl d (t :: ts) = E tbl d [] [t] ++ ED tbl d ts := by
  rw [ED.eq_def]; simp [h]

theorem ED_plain (tbl : Table) (d : Nat) (t x : Tok) (rest : List Tok) (h : isDef t = true) (hx : x.text ≠ "(") :
    ED tbl d (t :: x :: rest) = defTok tbl x :: ED tbl d rest := by
  rw [ED.eq_def]; simp [h, hx]

theorem ED_paren (tbl : Table) (d : Nat) (t lp i rp : Tok) (rest : List Tok) (h : isDef t = true) (hlp : lp.text = "(") :
    ED tbl d (t :: lp :: i :: rp :: rest) = defTok tbl i :: ED tbl d rest := by
  rw [ED]; simp [h, hlp]

theorem defOK_other (t : Tok) (ts : List Tok) (h : isDef t = false) : defOK (t :: ts) = defOK ts := by
  rw [defOK.eq_def]; simp [h]

theorem defOK_plain (t x : Tok) (rest : List Tok) (h : isDef t = true) (hx : x.text ≠ "(") :
    defOK (t :: x :: rest) = (x.kind == .ident && defOK rest) := by
  rw [defOK.eq_def]; simp [h, hx]

theorem defOK_paren (t lp i rp : Tok) (rest : List Tok) (h : isDef t = true) (hlp : lp.text = "(") :
    defOK (t :: lp :: i :: rp :: rest) = (i.kind == .ident && rp.text == ")" && defOK rest) := by
  rw [defOK]; simp [h, hlp]

/-- the three shapes of a well-formed list -/
theorem defOK_cases (t : Tok) (ts : List Tok) (h : defOK (t :: ts) = true) :
    (isDef t = false ∧ defOK ts = true) ∨
    (isDef t = true ∧ ∃ x rest, ts = x :: rest ∧ x.text ≠ "(" ∧ x.kind = .ident ∧ defOK rest = true) ∨
    (isDef t = true ∧ ∃ lp i rp rest, ts = lp :: i :: rp :: rest ∧ lp.text = "(" ∧ i.kind = .ident ∧ rp.text = ")" ∧
      defOK rest = true) := by
  generalize hl : t :: ts = l at h
  revert h
  fun_cases defOK l <;> cases hl <;> simp_all
  · exact fun h1 h2 h3 => .inr ⟨_, _, _, _, ⟨rfl, rfl, rfl, rfl⟩, ‹_›, h1, h2, h3⟩
  · exact fun h1 h2 => .inl ⟨_, _, ⟨rfl, rfl⟩, ‹_›, h1, h2⟩

/-- outside the operands of `defined`, no expandable identifier names a macro of the table (then the table is never
    consulted except by `defined`, whatever kind of macros it holds) -/
def noMacro (tbl : Table) : List Tok → Bool
  | [] => true
  | t :: ts =>
    if isDef t then
      match ts with
      | [] => true
      | x :: rest =>
        if x.text == "(" then
          match rest with
          | [] => true
          | [_] => true
          | _ :: _ :: rest' => noMacro tbl rest'
        else noMacro tbl rest
    else !(t.kind == .ident && t.expandable && (tbl.get t.text).isSome) && noMacro tbl ts
termination_by structural ts => ts

theorem noMacro_other (tbl : Table) (t : Tok) (ts : List Tok) (h : isDef t = false) :
    noMacro tbl (t :: ts) = (!(t.kind == .ident && t.expandable && (tbl.get t.text).isSome) && noMacro tbl ts) := by
  rw [noMacro.eq_def]; simp [h]

theorem noMacro_plain (tbl : Table) (t x : Tok) (rest : List Tok) (h : isDef t = true) (hx : x.text ≠ "(") :
    noMacro tbl (t :: x :: rest) = noMacro tbl rest := by
  rw [noMacro.eq_def]; simp [h, hx]

theorem noMacro_paren (tbl : Table) (t lp i rp : Tok) (rest : List Tok) (h : isDef t = true) (hlp : lp.text = "(") :
    noMacro tbl (t :: lp :: i :: rp :: rest) = noMacro tbl rest := by
  rw [noMacro]; simp [h, hlp]

/-- what the simulation needs to know about the table when a macro IS expanded: object-like, bodies bounded, nesting
    budget `d + 1` never exhausted (`fitsbS_obj`) and below the limit -/
def ObjCtx (c : Cfg) (tbl : Table) (B d : Nat) : Prop :=
  TblOK tbl ∧ BodiesLe tbl B ∧ d + 2 < c.lim ∧ tbl.length ≤ d

/-- one token that is not the `defined` operator: the object-like simulation `sim_obj` on this token alone (`Q` = the tokens
    behind it) when it names a macro; otherwise it is copied or painted -/
theorem simD_token (c : Cfg) (tbl : Table) (B : Nat) (F : List Frame) (d : Nat) (t : Tok) (ts : List Tok) (P : List (Option Tok))
    (hd : isDef t = false) (hobj : noMacro tbl (t :: ts) = true ∨ ObjCtx c tbl B d) :
    Scans c tbl (Cb B (d + 1)) [] [none] F false P [t] ts (E tbl (d + 1) [] [t]) := by
  -- an iteration that leaves a (possibly painted) token `t'` in place and advances
  have advance (t' : Tok) (hE : E tbl (d + 1) [] [t] = [t'])
      (hit : step c tbl ⟨[⟨P ++ some t :: ts.map some, P.length, false⟩], [none], F, none⟩
        = .cont ⟨[⟨P ++ some t' :: ts.map some, P.length + 1, false⟩], [none], F, none⟩) :
      Scans c tbl (Cb B (d + 1)) [] [none] F false P [t] ts (E tbl (d + 1) [] [t]) :=
    hE ▸ (Scans.cons (as := []) (Q := ts) hit (.nil (n := 0))).mono (Cb_pos B (d + 1))
  by_cases hk : t.kind = .ident
  · have hdt : t.text ≠ "defined" := by simpa [isDef, hk] using hd
    by_cases he : t.expandable = true
    · have hq (D : NoExp) (hD : D.contains (some t.text) = false) : (!t.expandable || D.contains (some t.text)) = false := by
        rw [he, hD]; rfl
      cases hm : tbl.get t.text with
      | none =>
        exact advance t (by rw [E_noMacro tbl d [] t [] hk (hq _ rfl) hm, E_nil])
          (step_noMacro c tbl P _ false [] [none] F t hk hdt (hq _ rfl) hm)
      | some m =>
        obtain ⟨hT, hB, hlim, hsz⟩ : ObjCtx c tbl B d := by
          rcases hobj with hnm | h
          · rw [noMacro_other tbl t ts hd] at hnm; simp [hk, he, hm] at hnm
          · exact h
        obtain ⟨P1, hfs1, hnh, hr⟩ := sim_obj hT.objLike c B hB (d + 1) [none] [t] ts P [] false F
          (fitsbS_obj hT _ _ [t] (Nat.lt_succ_of_le (Nat.le_trans (free_le_keys [none] tbl) hsz))
            fun x hx => by rw [List.mem_singleton.mp hx]; exact hdt) (by simp; omega)
        exact ⟨P1, by rw [hfs1, E_eq_RefS hT.objLike, (ref_congrS tbl _ [none] [] (eqv_none [])).1], hnh, by simpa using hr⟩
    · have he' : t.expandable = false := by simpa using he
      exact advance (paint t) (by rw [E_painted tbl d [] t [] hk (by simp [he']), E_nil])
        (step_painted c tbl P _ false [] [none] F t hk hdt (by simp [he']))
  · exact advance t (by rw [E_nonident tbl d [] t [] hk, E_nil]) (step_nonident c tbl P _ false [] [none] F t hk)

/-- **`defined` anywhere in the outermost stream.**  From the outermost stream positioned before `ts` (holes allowed in the
    part already scanned) the machine reaches the exhausted stream whose tokens are those already scanned followed by
    `ED tbl (d+1) ts`, within `|ts| · Cb B (d+1)` iterations, without error and without overflow. -/
theorem simD (c : Cfg) (tbl : Table) (B : Nat) (F : List Frame) (d : Nat) (ts : List Tok) (P : List (Option Tok))
    (hok : defOK ts = true) (hobj : noMacro tbl ts = true ∨ ObjCtx c tbl B d) :
    ∃ P', filterSome P' = filterSome P ++ ED tbl (d + 1) ts ∧
      Reach c tbl (ts.length * Cb B (d + 1)) ⟨[⟨P ++ ts.map some, P.length, false⟩], [none], F, none⟩
        ⟨[⟨P', P'.length, false⟩], [none], F, none⟩ := by
  have hC := Cb_pos B (d + 1)
  fun_induction defOK ts generalizing P
  case case1 => exact ⟨P, by rw [ED_nil, List.append_nil], by rw [List.map_nil, List.append_nil]; exact .refl ..⟩
  -- `defined` as the last token, `defined (` without `X )`: not `defOK`
  case case2 | case3 | case4 => exact absurd hok Bool.false_ne_true
  case case5 t hd lp hlp i rp rest ih =>
    -- `defined ( X )`
    have hlp : lp.text = "(" := beq_iff_eq.mp hlp
    simp only [Bool.and_eq_true, beq_iff_eq] at hok
    have hst := step_defined_paren c tbl P (rest.map some) [] [none] F false t lp i rp ((isDef_iff t).mp hd).1 ((isDef_iff t).mp hd).2
      hlp hok.1.1 hok.1.2
    obtain ⟨P', hf, hr⟩ := ih (P ++ [none, none, none, some (defTok tbl i)]) hok.2
      (hobj.imp_left (fun h => by rw [noMacro_paren tbl t lp i rp rest hd hlp] at h; exact h))
    refine ⟨P', by rw [hf, ED_paren tbl _ t lp i rp rest hd hlp]; simp [filterSome, List.filterMap_append],
      (Reach.step (by rw [List.map_cons, List.map_cons, List.map_cons, List.map_cons, hst]; exact .cont (by simpa [defTok] using hr))).mono ?_⟩
    simp only [List.length_cons, Nat.add_mul]; omega
  case case6 t hd x rest hxp ih =>
    -- `defined X`
    have hxp : x.text ≠ "(" := by simpa using hxp
    simp only [Bool.and_eq_true, beq_iff_eq] at hok
    have hst := step_defined_plain c tbl P (rest.map some) [] [none] F false t x ((isDef_iff t).mp hd).1 ((isDef_iff t).mp hd).2 hok.1 hxp
    obtain ⟨P', hf, hr⟩ := ih (P ++ [none, some (defTok tbl x)]) hok.2
      (hobj.imp_left (fun h => by rw [noMacro_plain tbl t x rest hd hxp] at h; exact h))
    refine ⟨P', by rw [hf, ED_plain tbl _ t x rest hd hxp]; simp [filterSome, List.filterMap_append],
      (Reach.step (by rw [List.map_cons, List.map_cons, hst]; exact .cont (by simpa [defTok] using hr))).mono ?_⟩
    simp only [List.length_cons, Nat.add_mul]; omega
  case case7 t ts hd ih =>
    -- an ordinary token: the object-like simulation on this one token, then the rest
    have hd : isDef t = false := by simpa using hd
    obtain ⟨P1, hfs1, -, hr1⟩ := simD_token c tbl B F d t ts P hd hobj
    obtain ⟨P', hf, hr⟩ := ih P1 hok (hobj.imp_left (fun h => by
      rw [noMacro_other tbl t ts hd] at h; simp only [Bool.and_eq_true] at h; exact h.2))
    refine ⟨P', by rw [hf, hfs1, ED_other tbl _ t ts hd, List.append_assoc], (hr1.trans hr).mono ?_⟩
    rw [List.length_cons, Nat.succ_mul]; omega

/-- **`defined` anywhere**: `expandWith` returns `ED` whenever limit and fuel are large enough — for every table of
    object-like macros, and for EVERY table when no expandable identifier outside the operands of `defined` names a macro -/
theorem expandWith_objD (c : Cfg) (tbl : Table) (ts : List Tok) (hok : defOK ts = true)
    (hobj : (noMacro tbl ts = true ∧ c.lim ≠ 0) ∨ (TblOK tbl ∧ tbl.length + 2 < c.lim))
    (fuel : Nat) (hfuel : ts.length * Cb (bodyMax tbl) (tbl.length + 1) + 2 ≤ fuel) :
    expandWith c tbl fuel ts = .ok (ED tbl (tbl.length + 1) ts) := by
  have h0 : c.lim ≠ 0 := by
    rcases hobj with h | h
    · exact h.2
    · omega
  cases ts with
  | nil => rw [expandWith, if_neg h0, ED_nil]; rfl
  | cons a as =>
    have hobj' : noMacro tbl (a :: as) = true ∨ ObjCtx c tbl (bodyMax tbl) tbl.length :=
      hobj.imp (fun h => h.1) (fun h => ⟨h.1, bodiesLe_bodyMax tbl, h.2, Nat.le_refl _⟩)
    obtain ⟨P', hf, hr⟩ := simD c tbl (bodyMax tbl) [] tbl.length (a :: as) [] hok hobj'
    rw [expandWith_of_reach c tbl _ (List.cons_ne_nil _ _) h0 _ P' hr fuel hfuel, hf]
    rfl

theorem realCfg_lim_ne_zero : realCfg.lim ≠ 0 := by decide

/-- the model of `MacroExpander(platform).expand` on a whole token list with `defined` operators, object-like tables -/
theorem cbiExpand_objD (tbl : Table) (hT : TblOK tbl) (ts : List Tok) (hok : defOK ts = true)
    (hsz : tbl.length + 2 < CbiVerif.Gen.maxLevel) : cbiExpand tbl ts = .ok (ED tbl (tbl.length + 1) ts) := by
  unfold cbiExpand
  exact expandWith_objD realCfg tbl ts hok (.inr ⟨hT, hsz⟩) (fuelFor tbl ts) (by unfold fuelFor; omega)

/-- … and for EVERY table (function-like macros, `defined` in replacement lists, any size) when no expandable identifier
    outside the operands of `defined` names a macro -/
theorem cbiExpand_noMacro (tbl : Table) (ts : List Tok) (hok : defOK ts = true) (hnm : noMacro tbl ts = true) :
    cbiExpand tbl ts = .ok (ED tbl (tbl.length + 1) ts) := by
  unfold cbiExpand
  exact expandWith_objD realCfg tbl ts hok (.inl ⟨hnm, realCfg_lim_ne_zero⟩) (fuelFor tbl ts) (by unfold fuelFor; omega)

/-! whole expressions: the token lists `#ifdef X` / `#ifndef X` are parsed to, and `defined X` -/

/-- `defined ( X )` as a whole expression (what `#ifdef X` is parsed to): the single number token read from the table;
    `X` is consumed, never looked up for expansion — whatever `X` is defined as -/
theorem cbiExpand_defined_paren (tbl : Table) (dt lp x rp : Tok) (hd : dt.kind = .ident) (hdt : dt.text = "defined")
    (hlp : lp.text = "(") (hx : x.kind = .ident) (hrp : rp.text = ")") :
    cbiExpand tbl [dt, lp, x, rp] = .ok [numTok (isDefined tbl x.text) x.pw] := by
  have hdef : isDef dt = true := (isDef_iff dt).mpr ⟨hd, hdt⟩
  rw [cbiExpand_noMacro tbl _ (by rw [defOK_paren dt lp x rp [] hdef hlp]; simp [hx, hrp, defOK])
    (by rw [noMacro_paren tbl dt lp x rp [] hdef hlp]; rfl), ED_paren tbl _ dt lp x rp [] hdef hlp, ED_nil]
  rfl

/-- `! defined ( X )` as a whole expression (what `#ifndef X` is parsed to) -/
theorem cbiExpand_not_defined_paren (tbl : Table) (bang dt lp x rp : Tok) (hb : bang.kind ≠ .ident) (hd : dt.kind = .ident)
    (hdt : dt.text = "defined") (hlp : lp.text = "(") (hx : x.kind = .ident) (hrp : rp.text = ")") :
    cbiExpand tbl [bang, dt, lp, x, rp] = .ok [bang, numTok (isDefined tbl x.text) x.pw] := by
  have hdef : isDef dt = true := (isDef_iff dt).mpr ⟨hd, hdt⟩
  have hbang : isDef bang = false := by simp [isDef, hb]
  rw [cbiExpand_noMacro tbl _
      (by rw [defOK_other bang _ hbang, defOK_paren dt lp x rp [] hdef hlp]; simp [hx, hrp, defOK])
      (by rw [noMacro_other tbl bang _ hbang, noMacro_paren tbl dt lp x rp [] hdef hlp]; simp [hb, noMacro]),
    ED_other tbl _ bang _ hbang, E_nonident tbl _ [] bang [] hb, E_nil, ED_paren tbl _ dt lp x rp [] hdef hlp, ED_nil]
  rfl

/-- `defined X` as a whole expression -/
theorem cbiExpand_defined_plain (tbl : Table) (dt x : Tok) (hd : dt.kind = .ident) (hdt : dt.text = "defined") (hx : x.kind = .ident)
    (hxp : x.text ≠ "(") : cbiExpand tbl [dt, x] = .ok [numTok (isDefined tbl x.text) x.pw] := by
  have hdef : isDef dt = true := (isDef_iff dt).mpr ⟨hd, hdt⟩
  rw [cbiExpand_noMacro tbl _ (by rw [defOK_plain dt x [] hdef hxp]; simp [hx, defOK])
    (by rw [noMacro_plain tbl dt x [] hdef hxp]; rfl), ED_plain tbl _ dt x [] hdef hxp, ED_nil]
  rfl

end CbiVerif.MX
