import CbiVerif.Model.C06Fortran
/-!
The closed form of a run of the composed pipeline, for any parser (`C06L.analyseG parse`; `C06C.analyse` is the case of the
C parser): the analysis succeeds iff every file parses and every entry can be associated (`GoodG`), and then the record of a
file is a function of the file, of the tree lookup `lkOfG parse files` and of the platforms (`recClosedG`).  The proof never
looks at the parser.  Core Lean only.
-/
namespace CbiVerif.C14C
open CbiVerif.SM CbiVerif.C06C

/-! ## `mapE`: success is a property of the members, the value is a `map` -/

def val {ε β : Type} (d : β) : Except ε β → β
  | .ok b => b
  | .error _ => d

theorem mapE_cases {α β ε : Type} (d : β) (f : α → Except ε β) (l : List α) :
    (∀ a ∈ l, ∃ b, f a = .ok b) ∧ mapE f l = .ok (l.map fun a => val d (f a)) ∨
    (¬ ∀ a ∈ l, ∃ b, f a = .ok b) ∧ ∃ e, mapE f l = .error e := by
  induction l with
  | nil => exact .inl ⟨nofun, rfl⟩
  | cons a as ih =>
    rw [List.forall_mem_cons, List.map_cons]
    unfold mapE
    cases hfa : f a with
    | error e => exact .inr ⟨fun h => (nomatch h.1), e, rfl⟩
    | ok b =>
      rcases ih with ⟨h, hm⟩ | ⟨h, e, hm⟩ <;> rw [hm]
      · exact .inl ⟨⟨⟨b, rfl⟩, h⟩, rfl⟩
      · exact .inr ⟨fun g => h g.2, e, rfl⟩

/-! ## the runs of a platform, with the tree lookup as a parameter (`dParsed`, `dRun`, `dRuns`: the defaults handed to `val`) -/

def dParsed : Parsed := ⟨[], []⟩
def dRun : Run := ([], [])
def dRuns : String × List Run := ("", [])

/-- `runEntry` with the tree lookup as a parameter -/
def runEntryL (lk : List String → Option Parsed) (e : Entry) : Except PP.Err Run :=
  match lk e.file with
  | none => .error .index
  | some p =>
    match PP.analyseNodes p.pnodes e.defs with
    | .error er => .error er
    | .ok rows => .ok (e.file, flagsOf rows)

theorem runEntryL_ok {lk : List String → Option Parsed} {e : Entry} {run : Run} (h : runEntryL lk e = .ok run) :
    ∃ p rows, lk e.file = some p ∧ PP.analyseNodes p.pnodes e.defs = .ok rows ∧ run = (e.file, flagsOf rows) := by
  unfold runEntryL at h
  split at h
  · cases h
  · next p hp =>
    split at h
    · cases h
    · next rows hrows => exact ⟨p, rows, hp, hrows, (Except.ok.inj h).symm⟩

theorem runEntry_eq (files : List SrcFile) (ps : List Parsed) : runEntry files ps = runEntryL (lookup files ps) := rfl

/-- the runs of a platform all of whose entries succeed -/
def runsOf (lk : List String → Option Parsed) (pl : Plat) : String × List Run :=
  (pl.name, pl.entries.map fun e => val dRun (runEntryL lk e))

def prOf (lk : List String → Option Parsed) (plats : List Plat) : List (String × List Run) := plats.map (runsOf lk)

theorem attributed_runsOf (lk : List String → Option Parsed) (pl : Plat) (path : List String) (j : Nat) :
    attributed (runsOf lk pl).2 path j =
      pl.entries.any fun e => (val dRun (runEntryL lk e)).1 == path && (val dRun (runEntryL lk e)).2.getD j false := by
  unfold attributed runsOf
  rw [List.any_map]
  rfl

theorem runPlat_iff (lk : List String → Option Parsed) (files : List SrcFile) (ps : List Parsed)
    (hlk : lookup files ps = lk) (pl : Plat) (r : String × List Run) :
    runPlat files ps pl = .ok r ↔ (∀ e ∈ pl.entries, ∃ x, runEntryL lk e = .ok x) ∧ r = runsOf lk pl := by
  unfold runPlat runsOf
  rw [runEntry_eq, hlk]
  rcases mapE_cases dRun (runEntryL lk) pl.entries with ⟨h, hm⟩ | ⟨h, e, hm⟩ <;> rw [hm]
  · exact ⟨fun g => ⟨h, (Except.ok.inj g).symm⟩, fun g => g.2 ▸ rfl⟩
  · exact ⟨nofun, fun g => absurd g.1 h⟩

/-! ## the closed form, for any parser -/

section parser
variable (parse : SrcFile → Except PP.Err Parsed)

/-- the parse of a file that parses -/
def pfG (f : SrcFile) : Parsed := val dParsed (parse f)

/-- `state.get_tree(path)` as a function of the SET of files (file names are distinct) -/
def lkOfG (files : List SrcFile) (p : List String) : Option Parsed := (files.find? fun f => f.path == p).map (pfG parse)

theorem lookup_map_pfG (files : List SrcFile) (p : List String) :
    lookup files (files.map (pfG parse)) p = lkOfG parse files p := by
  unfold lookup lkOfG
  rw [← List.map_prod_left_eq_zip, List.find?_map, Option.map_map]
  rfl

/-- the record of a file, as a function of the file, of the lookup and of the platforms -/
def recClosedG (lk : List String → Option Parsed) (plats : List Plat) (f : SrcFile) : FileRec :=
  mkRec (prOf lk plats) (f, pfG parse f)

/-- the analysis does not raise: every file parses, every entry names a file and its association does not raise -/
def GoodG (files : List SrcFile) (plats : List Plat) : Prop :=
  (∀ f ∈ files, ∃ p, parse f = .ok p) ∧
  ∀ pl ∈ plats, ∀ e ∈ pl.entries, ∃ r, runEntryL (lkOfG parse files) e = .ok r

theorem GoodG.parse_eq {parse : SrcFile → Except PP.Err Parsed} {files : List SrcFile} {plats : List Plat}
    (h : GoodG parse files plats) {f : SrcFile} (hf : f ∈ files) : parse f = .ok (pfG parse f) := by
  obtain ⟨p, hp⟩ := h.1 f hf
  rw [pfG, hp]; rfl

theorem analyseG_iff (files : List SrcFile) (plats : List Plat) (fs : List FileRec) :
    C06L.analyseG parse files plats = .ok fs ↔
      GoodG parse files plats ∧ fs = files.map (recClosedG parse (lkOfG parse files) plats) := by
  have hlk : lookup files (files.map (pfG parse)) = lkOfG parse files := funext (lookup_map_pfG parse files)
  unfold C06L.analyseG GoodG
  rcases mapE_cases dParsed parse files with ⟨ha, h1⟩ | ⟨ha, e, h1⟩
  · rw [show mapE parse files = .ok (files.map (pfG parse)) from h1]
    dsimp only
    rcases mapE_cases dRuns (runPlat files (files.map (pfG parse))) plats with ⟨hb, h2⟩ | ⟨hb, e, h2⟩ <;> rw [h2]
    · have hgood : ∀ pl ∈ plats, ∀ e ∈ pl.entries, ∃ r, runEntryL (lkOfG parse files) e = .ok r := fun pl hpl =>
        let ⟨r, hr⟩ := hb pl hpl
        ((runPlat_iff _ files _ hlk pl r).mp hr).1
      have hpr : (plats.map fun pl => val dRuns (runPlat files (files.map (pfG parse)) pl)) = prOf (lkOfG parse files) plats :=
        List.map_congr_left fun pl hpl => by rw [(runPlat_iff _ files _ hlk pl _).mpr ⟨hgood pl hpl, rfl⟩]; rfl
      rw [hpr, Except.ok.injEq, ← List.map_prod_left_eq_zip, List.map_map]
      exact ⟨fun h => ⟨⟨ha, hgood⟩, h.symm⟩, fun h => h.2.symm⟩
    · exact ⟨nofun, fun g => absurd (fun pl hpl => ⟨_, (runPlat_iff _ files _ hlk pl _).mpr ⟨g.1.2 pl hpl, rfl⟩⟩) hb⟩
  · rw [h1]; exact ⟨nofun, fun g => absurd g.1.1 ha⟩

end parser

/-! ## the C parser

`pf`, `lkOf`, `recClosed`, `Good` are `pfG`, `lkOfG`, `recClosedG`, `GoodG` at `parse := fun f => parseSrc f.text`, written out. -/

def pf (f : SrcFile) : Parsed := val dParsed (parseSrc f.text)

def lkOf (files : List SrcFile) (p : List String) : Option Parsed := (files.find? fun f => f.path == p).map pf

def recClosed (lk : List String → Option Parsed) (plats : List Plat) (f : SrcFile) : FileRec :=
  mkRec (prOf lk plats) (f, pf f)

def Good (files : List SrcFile) (plats : List Plat) : Prop :=
  (∀ f ∈ files, ∃ p, parseSrc f.text = .ok p) ∧
  ∀ pl ∈ plats, ∀ e ∈ pl.entries, ∃ r, runEntryL (lkOf files) e = .ok r

theorem analyse_iff (files : List SrcFile) (plats : List Plat) (fs : List FileRec) :
    analyse files plats = .ok fs ↔ Good files plats ∧ fs = files.map (recClosed (lkOf files) plats) :=
  analyseG_iff (fun f => parseSrc f.text) files plats fs

/-- the analysis result when the analysis does not raise -/
def closed (files : List SrcFile) (plats : List Plat) : List FileRec := files.map (recClosed (lkOf files) plats)

theorem analyse_closed (files : List SrcFile) (plats : List Plat) (h : Good files plats) :
    analyse files plats = .ok (closed files plats) := (analyse_iff files plats _).mpr ⟨h, rfl⟩

theorem analyse_not_good {files : List SrcFile} {plats : List Plat} (h : ¬ Good files plats) :
    (analyse files plats).toOption = none := by
  cases ha : analyse files plats with
  | error e => rfl
  | ok fs => exact absurd ((analyse_iff files plats fs).mp ha).1 h

end CbiVerif.C14C
