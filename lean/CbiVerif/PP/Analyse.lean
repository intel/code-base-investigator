import CbiVerif.PP.CSource
import CbiVerif.Model.ExpandPP
import CbiVerif.Model.Assoc
/-! Single-file end-to-end model: parse_file → DirectiveParser.parse → SourceTree.insert → ParserState.associate.

Tree building and association are NOT re-implemented here: they are the generic, proved
definitions of `Model/Tree.lean` (`Cond.build`) and `Model/Assoc.lean` (`Cond.visitList`,
`Cond.model`, `Cond.semCBI`), instantiated with the macro table of `PP/Expand.lean` and with
`condValue` (`Model/ExpandPP.lean`: the total expander `MX.cbiExpand` the C03 theorems are about, then the evaluator
`Eval.cbiEval` the C02 theorems are about) as the meaning of a controlling expression.  No `partial def` is involved.
`referenceFile` runs the flat ISO-C machine `Cond.reference` (`Spec/CPreproc.lean`) on the same
line list.  The node-list level (`analyseNodes` / `referenceNodes`) is shared with the Fortran front
end (`Model/FCond.lean`); `analyseFile text defs = parseFile text >>= (analyseNodes · defs)`.
The theorems of `Props/C01Main.lean` and `Props/C01.lean` are about exactly these functions. -/
namespace CbiVerif.PP

inductive NKind | code | ifk | elifk | elsek | endk | define | undef | include | pragma | unrecognized
deriving DecidableEq, Repr, Inhabited

structure PNode where
  kind : NKind
  lines : List Nat
  toks : List Tok := []        -- payload: expression tokens / define body etc. (tokens after the directive name)
  name : String := ""          -- macro name for define/undef
  margs : Option (List String) := none
deriving Repr, Inhabited

def mkTok (k : TKind) (s : String) (pw : Bool) : Tok := ⟨k, s, pw, true⟩

/-- DirectiveParser.parse for one directive logical line -/
def parseDirective (text : String) (lines : List Nat) : Except Err PNode :=
  match tokenize text with
  | h :: rest =>
    if !(h.kind == .op && h.text == "#") then .error (.parse "Not a directive.")
    else
      let unrec : PNode := { kind := .unrecognized, lines := lines }
      match rest with
      | d :: r =>
        let unrec : PNode := if d.kind == .ident then { unrec with name := d.text } else unrec   -- keep the directive's name
        if d.kind != .ident then .ok unrec
        else if d.text == "define" then
          match macroDefinition r with
          | some (n, args, body) => .ok { kind := .define, lines := lines, toks := body, name := n, margs := args }
          | none => .ok unrec
        else if d.text == "undef" then
          match r with
          | i :: _ => if i.kind == .ident then .ok { kind := .undef, lines := lines, name := i.text } else .ok unrec
          | [] => .ok unrec
        else if d.text == "include" then .ok { kind := .include, lines := lines, toks := r }
        else if d.text == "ifdef" then
          match r with
          | i :: _ => if i.kind == .ident then
              .ok { kind := .ifk, lines := lines, toks := [mkTok .ident "defined" true, mkTok .punct "(" false, i, mkTok .punct ")" false] }
            else .ok unrec
          | [] => .ok unrec
        else if d.text == "ifndef" then
          match r with
          | i :: _ => if i.kind == .ident then
              .ok { kind := .ifk, lines := lines, toks := [mkTok .op "!" true, mkTok .ident "defined" false, mkTok .punct "(" false, i, mkTok .punct ")" false] }
            else .ok unrec
          | [] => .ok unrec
        else if d.text == "if" then .ok { kind := .ifk, lines := lines, toks := r }
        else if d.text == "elif" then .ok { kind := .elifk, lines := lines, toks := r }
        else if d.text == "else" then .ok { kind := .elsek, lines := lines }
        else if d.text == "endif" then .ok { kind := .endk, lines := lines }
        else if d.text == "pragma" then .ok { kind := .pragma, lines := lines, toks := r }
        else .ok unrec
      | [] => .ok unrec
  | [] => .error .index

/-- FileParser.parse_file: node list in source order -/
def parseFile (text : String) : Except Err (List PNode) := do
  let (lls, _, _) ← cFileSource text
  let mut nodes : List PNode := []
  let mut code : List Nat := []
  let mut codeOpen := false
  for ll in lls do
    if ll.isDirective then
      if codeOpen then
        nodes := nodes ++ [{ kind := .code, lines := code }]
        code := []; codeOpen := false
      let n ← parseDirective ll.text ll.lines
      nodes := nodes ++ [n]
    else
      code := code ++ ll.lines; codeOpen := true
  if codeOpen then nodes := nodes ++ [{ kind := .code, lines := code }]
  return nodes

/-! ## Instantiation of the generic C01 model -/
deriving instance DecidableEq for Macro

def kindOf : NKind → Cond.Kind
  | .code => .code | .ifk => .ifk | .elifk => .elifk | .elsek => .elsek | .endk => .endk
  | .define | .undef | .include | .pragma | .unrecognized => .other

/-- payload of node `i`: its own index where the kind has a meaning to decode (`#if/#elif` expression,
non-conditional directive), 0 for code / `#else` / `#endif` (their payload is never looked at) -/
def payOf (k : Cond.Kind) (i : Nat) : Nat :=
  match k with
  | .code | .elsek | .endk => 0
  | _ => i

/-- the line list handed to the tree builder / the reference machine: node `i` has id `i` -/
def labels (nodes : List PNode) : List Cond.Lbl :=
  nodes.zipIdx.map fun (n, i) => ⟨i, kindOf n.kind, payOf (kindOf n.kind) i⟩

/-- meaning of the payloads: `evaluate_for_platform` of the node with that index.
`#include`, `#pragma` and unrecognised directives do nothing in the single-file model. -/
def langOf (nodes : Array PNode) : Cond.Lang Macro Err where
  act := fun i =>
    let n := nodes[i]!
    match n.kind with
    | .define =>
      match makeMacro n.name n.margs n.toks with
      | .ok m => .define n.name m
      | .error e => .fail e
    | .undef => .undef n.name
    | _ => .nop
  cond := fun tbl i => condValue tbl nodes[i]!.toks

abbrev MacroWorld := Cond.MWorld Macro Err

/-- `-D` definitions in command-line order, entered with `define` (model: `Platform.define`, keep first;
reference: C's `#define`) -/
def initWorld (define : MacroWorld → String → Macro → MacroWorld) (defs : List String) : Except Err MacroWorld :=
  defs.foldlM (fun w d => do
    let m ← macroFromDefinitionString d
    return define w m.name m) {}

/-! tree shape used by the multi-file model (`PP/Find.lean`): the tree is the one built by `Cond.build` -/
inductive PTree | node (idx : Nat) (kids : List PTree)
deriving Repr, Inhabited

mutual
def toPTree : Cond.Tree → PTree
  | .node l kids => .node l.id (toPTrees kids)
def toPTrees : List Cond.Tree → List PTree
  | [] => []
  | t :: ts => toPTree t :: toPTrees ts
end

/-- `SourceTree.insert` over all nodes; `None.add_child` is an AttributeError (reported as `type_`) -/
def buildTree (nodes : List PNode) : Except Err (List PTree) :=
  match Cond.build (labels nodes) with
  | some ts => .ok (toPTrees ts)
  | none => .error .type_

abbrev Row := NKind × List Nat × Bool

def rowsOf (nodes : List PNode) (out : List Nat) : List Row :=
  nodes.zipIdx.map fun (n, i) => (n.kind, n.lines, out.contains i)

/-- MODEL, node-list level (shared by the C path `analyseFile` and the Fortran path
`Fortran.analyseFortran`): tree builder + visitor with `Platform.define`; per node (kind, lines, attributed) -/
def analyseNodes (nodes : List PNode) (defs : List String) : Except Err (List Row) := do
  if (Cond.build (labels nodes)).isNone then throw .type_
  let w ← initWorld Cond.MWorld.defineCBI defs
  match Cond.model (Cond.semCBI (langOf nodes.toArray)) w (labels nodes) with
  | none => throw .type_
  | some a =>
    if a.crash then throw .index
    match a.σ.err with
    | some e => throw e
    | none => return rowsOf nodes a.out

/-- MODEL: analyse one file with `-D` definitions: per node (kind, lines, attributed) -/
def analyseFile (text : String) (defs : List String) : Except Err (List Row) :=
  parseFile text >>= (analyseNodes · defs)

structure RefResult where
  rows : List Row
  bad : Bool            -- structural diagnostic (#else without #if, #elif after #else, …)
  unterminated : Bool   -- an #if is still open at the end
  diag : Bool           -- a macro was redefined with a different body (gcc warns)
  err : Option Err      -- a reached expression / directive is malformed
  c23 : Bool            -- the unit uses `#elifdef/#elifndef` (C23; gcc >= 12 accepts them silently), which
                        -- neither CBI nor this reference treats as conditionals: outside the modelled set

/-- SPEC, node-list level: the flat reference machine on the line list of `nodes`, with C's `#define` -/
def referenceNodes (nodes : List PNode) (defs : List String) : Except Err RefResult := do
  let w ← initWorld Cond.MWorld.defineC defs
  let r := Cond.reference (Cond.semC (langOf nodes.toArray)) w (labels nodes)
  return { rows := rowsOf nodes r.out, bad := r.bad, unterminated := !r.stack.isEmpty, diag := r.σ.diag, err := r.σ.err,
           c23 := nodes.any fun n => n.kind == .unrecognized && (n.name == "elifdef" || n.name == "elifndef") }

/-- SPEC: the flat reference machine on the same line list, with C's `#define` -/
def referenceFile (text : String) (defs : List String) : Except Err RefResult :=
  parseFile text >>= (referenceNodes · defs)

end CbiVerif.PP
