/-!
C17 at the level of character classes, self-contained: `fortran_cleaner` reading classes instead of characters
(`step1`, `step`, `endLine`; its `verify_continue` buffer reduced to "holds blanks after the `&`") against a
reference scanner for free-form Fortran (`rstep`, `rend`), and the buffer reduced to which parts are a blank.

The cleaner state that belongs to reference mode `m` is `absSt m`, up to `vws` where it cannot be read (`Rl`).
That one character and one end of line keep the two related is a finite table (`stepOK_all`, `endOK_all`),
evaluated by the kernel; induction over the characters of a line and the lines of a text gives `counted_eq_ref`.
`Lemmas/FCleanTable.lean` to `Lemmas/FCleanLift.lean` repeat the argument for the cleaner on characters and the
reference of `Spec/FortranRef.lean`.
-/
namespace CbiVerif.FLex

inductive Cls | bang | amp | dq | sq | dollar | alpha | ws | bslash | other
deriving DecidableEq, Repr

inductive Mode | top | dq | sq | esc | verify | cfs
deriving DecidableEq, Repr

/-- progress of `dir_check` within the current line -/
inductive Scan | run | bang | sentinel | done
deriving DecidableEq, Repr

inductive Emit | sp | ns (c : Cls)
deriving DecidableEq, Repr

structure CSt where
  stack : List Mode      -- head = state[-1]
  scan : Scan
  vws : Bool             -- verify_continue holds white space after the '&'
deriving DecidableEq, Repr

/-- one dispatch of `fortran_cleaner.process`; last component = putback -/
def step1 (s : CSt) (c : Cls) : CSt × List Emit × Bool :=
  match s.scan with
  | .done => (s, [], false)
  | .sentinel => (s, [.ns c], false)
  | .bang =>
    match c with
    | .dollar => ({ s with scan := .sentinel }, [.ns .bang, .ns .dollar], false)
    | .alpha => (s, [], false)
    | _ => ({ s with scan := .done }, [], false)
  | .run =>
    match s.stack with
    | [] => (s, [], false)
    | .top :: r =>
      match c with
      | .bslash => ({ s with stack := .esc :: .top :: r }, [.ns c], false)
      | .bang => ({ s with stack := [.top], scan := .bang }, [], false)
      | .amp => ({ s with stack := .verify :: .top :: r, vws := false }, [], false)
      | .dq => ({ s with stack := .dq :: .top :: r }, [.ns c], false)
      | .sq => ({ s with stack := .sq :: .top :: r }, [.ns c], false)
      | .ws => (s, [.sp], false)
      | _ => (s, [.ns c], false)
    | .cfs :: r =>
      match c with
      | .ws => (s, [.sp], false)
      | .amp => ({ s with stack := r }, [], false)
      | .bang => ({ s with scan := .bang }, [], false)
      | _ => ({ s with stack := r }, [], true)
    | .dq :: r =>
      match c with
      | .bslash => ({ s with stack := .esc :: .dq :: r }, [.ns c], false)
      | .dq => ({ s with stack := r }, [.ns c], false)
      | .amp => ({ s with stack := .verify :: .dq :: r, vws := false }, [], false)
      | _ => (s, [.ns c], false)
    | .sq :: r =>
      match c with
      | .bslash => ({ s with stack := .esc :: .sq :: r }, [.ns c], false)
      | .sq => ({ s with stack := r }, [.ns c], false)
      | .amp => ({ s with stack := .verify :: .sq :: r, vws := false }, [], false)
      | _ => (s, [.ns c], false)
    | .esc :: r => ({ s with stack := r }, [.ns c], false)
    | .verify :: r =>
      if c == .bang && r.head? == some .top then ({ s with scan := .bang }, [], false)
      else if c != .ws then
        ({ s with stack := r, vws := false }, (.ns .amp) :: (if s.vws then [.ns .ws] else []), true)
      else ({ s with vws := true }, [], false)

def step (s : CSt) (c : Cls) : CSt × List Emit :=
  match step1 s c with
  | (s1, e1, true) => match step1 s1 c with | (s2, e2, _) => (s2, e1 ++ e2)
  | (s1, e1, false) => (s1, e1)

/-- end of `process` (per line) and start of the next line: `scan` is line-local -/
def endLine (s : CSt) : CSt :=
  match s.stack with
  | .verify :: r => { stack := .cfs :: r, scan := .run, vws := false }
  | st => { stack := st, scan := .run, vws := false }

def Emit.visible : Emit → Bool | .ns .ws => false | .ns _ => true | .sp => false
def Emit.litWs : Emit → Bool | .ns .ws => true | _ => false
def anyVisible (es : List Emit) : Bool := es.any Emit.visible
def anyLitWs (es : List Emit) : Bool := es.any Emit.litWs

/-! ## Reference: free-form Fortran source form -/
inductive Ctx | top | dq | sq deriving DecidableEq, Repr
inductive Site | code | cont | amp deriving DecidableEq, Repr

inductive RF
  | start (c : Ctx)            -- beginning of a continuation line
  | code
  | inDq | inSq
  | ampTop (w : Bool)
  | ampDq (w : Bool) | ampSq (w : Bool)
  | bang (s : Site) | sent (s : Site) | comm (s : Site)
deriving DecidableEq, Repr

structure ROut where
  mode : RF
  vis : Bool     -- something visible (statement text / sentinel) becomes known on this line
  lit : Bool     -- a blank inside a character context (or sentinel text)

def inLit (ctx : Ctx) (c : Cls) (pend : Bool) (w : Bool) : Option ROut :=
  -- process `c` inside a character context `ctx` (after a pending '&' turned out to be text if `pend`)
  match ctx, c with
  | _, .bslash => none
  | .dq, .dq => some ⟨.code, true, w⟩
  | .sq, .sq => some ⟨.code, true, w⟩
  | .dq, .amp => some ⟨.ampDq false, pend, w⟩
  | .sq, .amp => some ⟨.ampSq false, pend, w⟩
  | .dq, .ws => some ⟨.inDq, pend, true⟩
  | .sq, .ws => some ⟨.inSq, pend, true⟩
  | .dq, _ => some ⟨.inDq, true, w⟩
  | .sq, _ => some ⟨.inSq, true, w⟩
  | .top, _ => none

def codeStep (c : Cls) : Option ROut :=
  match c with
  | .bslash => none
  | .bang => some ⟨.bang .code, false, false⟩
  | .amp => some ⟨.ampTop false, false, false⟩
  | .dq => some ⟨.inDq, true, false⟩
  | .sq => some ⟨.inSq, true, false⟩
  | .ws => some ⟨.code, false, false⟩
  | _ => some ⟨.code, true, false⟩

/-- `none` = not a well-formed free-form line -/
def rstep (m : RF) (c : Cls) : Option ROut :=
  match m with
  | .code => codeStep c
  | .inDq => inLit .dq c false false
  | .inSq => inLit .sq c false false
  | .ampTop _ =>
    match c with
    | .ws => some ⟨.ampTop true, false, false⟩
    | .bang => some ⟨.bang .amp, false, false⟩
    | _ => none
  | .ampDq w => if c == .ws then some ⟨.ampDq true, false, false⟩ else inLit .dq c true w
  | .ampSq w => if c == .ws then some ⟨.ampSq true, false, false⟩ else inLit .sq c true w
  | .start .top =>
    match c with
    | .ws => some ⟨.start .top, false, false⟩
    | .amp => some ⟨.code, false, false⟩
    | .bang => some ⟨.bang .cont, false, false⟩
    | _ => codeStep c
  | .start .dq =>
    match c with
    | .ws => some ⟨.start .dq, false, false⟩
    | .amp => some ⟨.inDq, false, false⟩
    | _ => none
  | .start .sq =>
    match c with
    | .ws => some ⟨.start .sq, false, false⟩
    | .amp => some ⟨.inSq, false, false⟩
    | _ => none
  | .bang s =>
    match c with
    | .alpha => some ⟨.bang s, false, false⟩
    | .dollar => some ⟨.sent s, true, false⟩
    | _ => some ⟨.comm s, false, false⟩
  | .sent s => some ⟨.sent s, c != .ws, c == .ws⟩
  | .comm s => some ⟨.comm s, false, false⟩

/-- reference at end of line: the mode in which the next line starts -/
def rend : RF → Option RF
  | .code => some .code
  | .ampTop _ => some (.start .top)
  | .ampDq _ => some (.start .dq)
  | .ampSq _ => some (.start .sq)
  | .bang .code | .sent .code | .comm .code => some .code
  | .bang _ | .sent _ | .comm _ => some (.start .top)
  | .start c => some (.start c)
  | .inDq | .inSq => none

/-! ## Abstraction -/
def ctxStack : Ctx → List Mode | .top => [.top] | .dq => [.dq, .top] | .sq => [.sq, .top]
def siteStack : Site → List Mode | .code => [.top] | .cont => [.cfs, .top] | .amp => [.verify, .top]

def absSt : RF → CSt
  | .code => ⟨[.top], .run, false⟩
  | .inDq => ⟨[.dq, .top], .run, false⟩
  | .inSq => ⟨[.sq, .top], .run, false⟩
  | .ampTop w => ⟨[.verify, .top], .run, w⟩
  | .ampDq w => ⟨[.verify, .dq, .top], .run, w⟩
  | .ampSq w => ⟨[.verify, .sq, .top], .run, w⟩
  | .start c => ⟨.cfs :: ctxStack c, .run, false⟩
  | .bang s => ⟨siteStack s, .bang, false⟩
  | .sent s => ⟨siteStack s, .sentinel, false⟩
  | .comm s => ⟨siteStack s, .done, false⟩

/-- `vws` only matters while a '&' is being verified -/
def relevant (s : CSt) : Bool := s.scan == .run && s.stack.head? == some .verify
def proj (s : CSt) : List Mode × Scan × Bool := (s.stack, s.scan, relevant s && s.vws)

def allRF : List RF :=
  [.start .top, .start .dq, .start .sq, .code, .inDq, .inSq, .ampTop false, .ampTop true, .ampDq false, .ampDq true, .ampSq false, .ampSq true,
   .bang .code, .bang .cont, .bang .amp, .sent .code, .sent .cont, .sent .amp, .comm .code, .comm .cont, .comm .amp]
def allC : List Cls := [.bang, .amp, .dq, .sq, .dollar, .alpha, .ws, .bslash, .other]

/-- representative cleaner state for reference mode `m` with an arbitrary irrelevant `vws` -/
def repSt (m : RF) (v : Bool) : CSt := if relevant (absSt m) then absSt m else { absSt m with vws := v }

def stepOK (m : RF) (v : Bool) (c : Cls) : Bool :=
  match rstep m c with
  | none => true
  | some o =>
    let r := step (repSt m v) c
    (proj r.1 == proj (absSt o.mode)) && (anyVisible r.2 == o.vis) && (anyLitWs r.2 == o.lit)

theorem stepOK_all : (allRF.all fun m => [false, true].all fun v => allC.all fun c => stepOK m v c) = true := by decide +kernel

def endOK (m : RF) (v : Bool) : Bool :=
  match rend m with
  | none => true
  | some m' => proj (endLine (repSt m v)) == proj (absSt m')

theorem endOK_all : (allRF.all fun m => [false, true].all fun v => endOK m v) = true := by decide +kernel

/-- `s` is the cleaner state of reference mode `m`, up to a `vws` that is not read -/
def Rl (s : CSt) (m : RF) : Prop := proj s = proj (absSt m)

theorem rel_rep (s : CSt) (m : RF) (h : Rl s m) : s = repSt m s.vws := by
  obtain ⟨st, sc, v⟩ := s
  unfold Rl at h
  unfold repSt
  generalize absSt m = a at h ⊢
  obtain ⟨st', sc', v'⟩ := a
  simp only [proj, relevant, Prod.mk.injEq] at h
  obtain ⟨rfl, rfl, h3⟩ := h
  split <;> simp_all [relevant]

theorem mem_allRF (m : RF) : m ∈ allRF := by
  cases m with
  | start c => cases c <;> decide
  | ampTop w | ampDq w | ampSq w => cases w <;> decide
  | bang s | sent s | comm s => cases s <;> decide
  | _ => decide

theorem step_sim (s : CSt) (m : RF) (c : Cls) (o : ROut) (h : Rl s m) (ho : rstep m c = some o) :
    Rl (step s c).1 o.mode ∧ anyVisible (step s c).2 = o.vis ∧ anyLitWs (step s c).2 = o.lit := by
  have hall := stepOK_all
  simp only [List.all_eq_true] at hall
  have h1 := hall m (mem_allRF m) s.vws (by cases s.vws <;> simp) c (by cases c <;> decide)
  simp only [stepOK, ho, Bool.and_eq_true, beq_iff_eq] at h1
  rw [rel_rep s m h]
  exact ⟨h1.1.1, h1.1.2, h1.2⟩

theorem end_sim (s : CSt) (m m' : RF) (h : Rl s m) (he : rend m = some m') : Rl (endLine s) m' := by
  have hall := endOK_all
  simp only [List.all_eq_true] at hall
  have h1 := hall m (mem_allRF m) s.vws (by cases s.vws <;> simp)
  simp only [endOK, he, beq_iff_eq] at h1
  rw [rel_rep s m h]
  exact h1

/-! ## Buffers (same as for the C cleaner) -/
structure Buf where
  parts : List Bool := []      -- for each part: is it the string " "?
  trailing : Bool := false

def Buf.add (b : Buf) : Emit → Buf
  | .sp => if b.trailing then b else { parts := b.parts ++ [true], trailing := true }
  | .ns c => { parts := b.parts ++ [c == .ws], trailing := false }
def Buf.addAll (b : Buf) (es : List Emit) : Buf := es.foldl Buf.add b
def Buf.blank (b : Buf) : Bool := b.parts == [] || b.parts == [true]

def Buf.hasVis (b : Buf) : Bool := b.parts.any (fun x => !x)
def Buf.OnlySp (b : Buf) : Prop := (b.parts = [] ∧ b.trailing = false) ∨ (b.parts = [true] ∧ b.trailing = true)

theorem vis_ns (c : Cls) : (Emit.ns c).visible = !(c == .ws) := by cases c <;> rfl
theorem lit_ns (c : Cls) : (Emit.ns c).litWs = (c == .ws) := by cases c <;> rfl

theorem hasVis_add (b : Buf) (e : Emit) : (b.add e).hasVis = (b.hasVis || e.visible) := by
  cases e with
  | sp => simp only [Buf.add, Emit.visible, Bool.or_false]; split <;> simp [Buf.hasVis]
  | ns c => simp [Buf.add, Buf.hasVis, vis_ns]

theorem onlySp_add (b : Buf) (e : Emit) (h : b.OnlySp) (hv : e.visible = false) (hl : e.litWs = false) :
    (b.add e).OnlySp := by
  cases e with
  | sp =>
    rcases h with ⟨hp, ht⟩ | ⟨hp, ht⟩ <;> exact .inr (by simp [Buf.add, hp, ht])
  | ns c =>
    rw [vis_ns] at hv; rw [lit_ns] at hl
    simp [hl] at hv

theorem blank_of_onlySp (b : Buf) (h : b.OnlySp) : b.blank = true := by
  rcases h with ⟨hp, _⟩ | ⟨hp, _⟩ <;> simp [Buf.blank, hp]

theorem blank_of_hasVis (b : Buf) (h : b.hasVis = true) : b.blank = false := by
  unfold Buf.blank Buf.hasVis at *
  cases hp : b.parts with
  | nil => simp [hp] at h
  | cons x xs =>
    cases xs with
    | nil => cases x <;> simp_all
    | cons y ys => simp

/-- buffer invariant on a physical line: `v`/`l` = some visible / literal-white-space emission so far -/
structure BInv (b : Buf) (v l : Bool) : Prop where
  vis : b.hasVis = v
  only : v = false → l = false → b.OnlySp

theorem BInv.add {b : Buf} {v l : Bool} (h : BInv b v l) (e : Emit) :
    BInv (b.add e) (v || e.visible) (l || e.litWs) := by
  refine ⟨by rw [hasVis_add, h.vis], fun hv hl => ?_⟩
  simp only [Bool.or_eq_false_iff] at hv hl
  exact onlySp_add b e (h.only hv.1 hl.1) hv.2 hl.2

theorem BInv.addAll {b : Buf} {v l : Bool} (h : BInv b v l) (es : List Emit) :
    BInv (b.addAll es) (v || anyVisible es) (l || anyLitWs es) := by
  induction es generalizing b v l with
  | nil => simpa [Buf.addAll, anyVisible, anyLitWs] using h
  | cons e es ih => simpa [Buf.addAll, anyVisible, anyLitWs, Bool.or_assoc] using ih (h.add e)

theorem hasVis_addAll (b : Buf) (es : List Emit) : (b.addAll es).hasVis = (b.hasVis || anyVisible es) :=
  (BInv.addAll (b := b) (v := b.hasVis) (l := true) ⟨rfl, fun _ h => nomatch h⟩ es).vis

theorem onlySp_addAll (b : Buf) (es : List Emit) (h : b.OnlySp) (hv : anyVisible es = false) (hl : anyLitWs es = false) :
    (b.addAll es).OnlySp :=
  (BInv.addAll (b := b) (v := false) (l := false)
    ⟨by rcases h with ⟨hp, _⟩ | ⟨hp, _⟩ <;> simp [Buf.hasVis, hp], fun _ _ => h⟩ es).only (by simp [hv]) (by simp [hl])

theorem BInv.counted {b : Buf} {v l : Bool} (h : BInv b v l) (hk : l = true → v = true) : (!b.blank) = v := by
  cases v with
  | true => simp [blank_of_hasVis b h.vis]
  | false =>
    have hl : l = false := by cases l <;> simp_all
    simp [blank_of_onlySp b (h.only rfl hl)]

theorem binv_empty : BInv ({} : Buf) false false :=
  ⟨rfl, fun _ _ => Or.inl ⟨rfl, rfl⟩⟩

def procChars : CSt → Buf → List Cls → CSt × Buf
  | s, b, [] => (s, b)
  | s, b, c :: cs => procChars (step s c).1 (b.addAll (step s c).2) cs

/-- one logical C line handed to `fortran_cleaner.process` by `fortran_file_source` -/
def procLine (s : CSt) (l : List Cls) : CSt × Bool :=
  (endLine (procChars s {} l).1, !(procChars s {} l).2.blank)

def cbiCounted : CSt → List (List Cls) → List Bool
  | _, [] => []
  | s, l :: ls => (procLine s l).2 :: cbiCounted (procLine s l).1 ls

structure RAcc where
  mode : RF
  vis : Bool
  lit : Bool

def rchars : RAcc → List Cls → Option RAcc
  | a, [] => some a
  | a, c :: cs =>
    match rstep a.mode c with
    | none => none
    | some o => rchars ⟨o.mode, a.vis || o.vis, a.lit || o.lit⟩ cs

/-- `none`: ill-formed, or finding class F-C17-1 (blanks inside a literal on a line with nothing visible) -/
def rline (m : RF) (l : List Cls) : Option (RF × Bool) :=
  match rchars ⟨m, false, false⟩ l with
  | none => none
  | some a =>
    if a.lit && !a.vis then none
    else match rend a.mode with
      | none => none
      | some m' => some (m', a.vis)

def refCounted : RF → List (List Cls) → Option (List Bool)
  | m, [] => if m == .code then some [] else none
  | m, l :: ls =>
    match rline m l with
    | none => none
    | some (m', b) => match refCounted m' ls with | none => none | some bs => some (b :: bs)

theorem procChars_sim (chars : List Cls) : ∀ (s : CSt) (buf : Buf) (a0 a : RAcc),
    Rl s a0.mode → BInv buf a0.vis a0.lit → rchars a0 chars = some a →
    Rl (procChars s buf chars).1 a.mode ∧ BInv (procChars s buf chars).2 a.vis a.lit := by
  intro s buf a0 a hR hb
  fun_induction rchars a0 chars generalizing s buf with
  | case1 => rintro ⟨⟩; exact ⟨hR, hb⟩
  | case2 => nofun
  | case3 a0 c cs o ho ih =>
    obtain ⟨hs1, hs2, hs3⟩ := step_sim s _ c o hR ho
    exact ih _ _ hs1 (hs2 ▸ hs3 ▸ hb.addAll _)

theorem chars_sim (chars : List Cls) : ∀ (s : CSt) (m : RF) (buf : Buf) (v l : Bool) (a0 a : RAcc),
    Rl s m → a0.mode = m → BInv buf v l → v = a0.vis → l = a0.lit → rchars a0 chars = some a →
    ∃ v' l', Rl (procChars s buf chars).1 a.mode ∧ BInv (procChars s buf chars).2 v' l' ∧ v' = a.vis ∧ l' = a.lit := by
  intro s m buf v l a0 a hR hm hb hv hl hr
  subst hm hv hl
  obtain ⟨h1, h2⟩ := procChars_sim chars s buf a0 a hR hb hr
  exact ⟨_, _, h1, h2, rfl, rfl⟩

theorem line_sim (s : CSt) (m m' : RF) (l : List Cls) (b : Bool) (hR : Rl s m) (h : rline m l = some (m', b)) :
    Rl (procLine s l).1 m' ∧ (procLine s l).2 = b := by
  revert h
  -- the one branch of `rline` that returns a value
  fun_cases rline m l with
  | case4 a hr hk m2 he =>
    rintro ⟨⟩
    obtain ⟨h1, h2⟩ := procChars_sim l s {} ⟨m, false, false⟩ a hR binv_empty hr
    exact ⟨end_sim _ _ _ h1 he, h2.counted fun hl => by simpa [hl] using hk⟩
  | _ => nofun

/-- **C17 (class level): for every well-formed free-form text outside F-C17-1 the lines counted by the
    Fortran cleaner are exactly the lines holding statement text or a directive sentinel.** -/
theorem counted_eq_ref (t : List (List Cls)) : ∀ (s : CSt) (m : RF) (bs : List Bool),
    Rl s m → refCounted m t = some bs → cbiCounted s t = bs := by
  intro s m bs hR
  -- the two branches of `refCounted` that return a value: no line left, and a line the reference accepts before an accepted rest
  fun_induction refCounted m t generalizing s bs with
  | case1 => rintro ⟨⟩; rfl
  | case5 m l ls m' b hl bs' hrest ih =>
    rintro ⟨⟩
    obtain ⟨h1, h2⟩ := line_sim s m m' l b hR hl
    rw [cbiCounted, h2, ih _ _ h1 hrest]
  | _ => nofun

theorem counted_eq_ref_top (t : List (List Cls)) (bs : List Bool) (h : refCounted .code t = some bs) :
    cbiCounted ⟨[.top], .run, false⟩ t = bs := counted_eq_ref t _ .code bs rfl h

end CbiVerif.FLex
#print axioms CbiVerif.FLex.counted_eq_ref_top
