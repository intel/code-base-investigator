import CbiVerif.Climb2
import CbiVerif.Lemmas.ClimbProof
/-! The design prototype `Climb2.lean` is the executed definition `Model/Climb.lean` run on translated operations
    (`toOps`: unary operators at precedence 12, `?` right-associative): a round of it is a round of the executed
    definition at the translated table (`loop_succ`, `primary_succ`), so the two agree up to the error type (`sim`),
    and its results follow from those of `Lemmas/ClimbProof.lean`. -/
namespace CbiVerif.Climb2
open CbiVerif.PP
variable {V : Type} (O : EvOps V)

def toErr : EErr → Climb.EErr
  | .parse => .parse
  | .other n => .other n

def toRes (r : Res V) : Climb.Res V :=
  match r with
  | .ok x => .ok x
  | .error e => .error (toErr e)

theorem toRes_ok {r : Res V} {x : V × List Tok} : toRes r = .ok x ↔ r = .ok x := by
  cases r with
  | ok y => exact ⟨fun h => by cases h; rfl, fun h => by cases h; rfl⟩
  | error e => exact ⟨fun h => (by cases h), fun h => (by cases h)⟩

/-- the prototype parses the third operand of `?:` at the precedence of `?` whatever its associativity in the table -/
def toOps : Climb.EvOps V where
  un := O.un
  bin := O.bin
  tern := O.tern
  leaf ts := toRes (O.leaf ts)
  unPrec s := if O.isUnary s then some 12 else none
  binInfo s := (O.binInfo s).map fun pr => (pr.1, pr.2 || s == "?")

theorem expr_succ (f m : Nat) (ts : List Tok) : expr O (f+1) m ts = Climb.andThen (primary O f ts) (loop O f m) := by
  rw [expr]; cases primary O f ts <;> rfl

theorem loop_succ (f m : Nat) (v : V) (ts : List Tok) :
    loop O (f+1) m v ts = Climb.loopF (toOps O) .parse (expr O f) (loop O f) m v ts := by
  match ts with
  | [] => rfl
  | t :: rest =>
    rw [loop, Climb.loopF, show (toOps O).binInfo t.text = (O.binInfo t.text).map _ from rfl]
    cases O.binInfo t.text with
    | none => rfl
    | some pa =>
      obtain ⟨p, ra⟩ := pa
      rw [Option.map_some]
      cases t.text == "?"
      · simp only [Bool.or_false, Bool.false_eq_true, if_false]
        cases expr O f (if ra then p else p + 1) rest <;> rfl
      · simp only [Bool.or_true, if_true]
        rcases expr O f 0 rest with e | ⟨tv, _ | ⟨c, rest2⟩⟩
        · rfl
        · rfl
        · simp only [Climb.andThen, Climb.expect]
          cases expr O f p rest2 <;> rfl

theorem primary_succ (f : Nat) (ts : List Tok) :
    primary O (f+1) ts = Climb.primaryF (toOps O) .parse (expr O f) O.leaf ts := by
  match ts with
  | [] => rfl
  | t :: rest =>
    rw [primary, Climb.primaryF, show (toOps O).unPrec t.text = if O.isUnary t.text then some 12 else none from rfl]
    cases t.kind == TKind.op
    · simp only [Bool.false_eq_true, if_false]
      rcases expr O f 0 rest with e | ⟨tv, _ | ⟨c, rest2⟩⟩ <;> rfl
    · cases O.isUnary t.text
      · rfl
      · simp only [if_true]; cases expr O f 12 rest <;> rfl

theorem andThen_toRes {x : Res V} {x' : Climb.Res V} {k : V → List Tok → Res V} {k' : V → List Tok → Climb.Res V}
    (h : x' = toRes x) (hk : ∀ v r, k' v r = toRes (k v r)) : Climb.andThen x' k' = toRes (Climb.andThen x k) := by
  subst h
  cases x with
  | error e => rfl
  | ok vr => exact hk vr.1 vr.2

theorem respects_toRes : Climb.Respects (V := V) id .parse .parse fun x x' => x' = toRes x where
  nil := rfl
  cons t _ := ⟨t, rfl, rfl, rfl⟩
  ok _ _ := rfl
  error := rfl
  andThen := andThen_toRes

theorem sim : ∀ f,
    (∀ m ts, Climb.expr (toOps O) f m ts = toRes (expr O f m ts)) ∧
    (∀ m v ts, Climb.loop (toOps O) f m v ts = toRes (loop O f m v ts)) ∧
    (∀ ts, Climb.primary (toOps O) f ts = toRes (primary O f ts)) := by
  intro f
  induction f with
  | zero => exact ⟨fun _ _ => rfl, fun _ _ _ => rfl, fun _ => rfl⟩
  | succ f ih =>
    obtain ⟨ihe, ihl, ihp⟩ := ih
    refine ⟨fun m ts => ?_, fun m v ts => ?_, fun ts => ?_⟩
    · rw [Climb.expr_succ, expr_succ]; exact andThen_toRes (ihp ts) (ihl m)
    · rw [Climb.loop_succ, loop_succ]; exact respects_toRes.loopF ihe ihl m v ts
    · rw [Climb.primary_succ, primary_succ]; exact respects_toRes.primaryF ihe (fun _ => rfl) ts

theorem mono_all : ∀ f,
    (∀ m ts r, expr O f m ts = .ok r → expr O (f+1) m ts = .ok r) ∧
    (∀ m v ts r, loop O f m v ts = .ok r → loop O (f+1) m v ts = .ok r) ∧
    (∀ ts r, primary O f ts = .ok r → primary O (f+1) ts = .ok r) := by
  intro f
  obtain ⟨e0, l0, p0⟩ := sim O f
  obtain ⟨e1, l1, p1⟩ := sim O (f+1)
  obtain ⟨me, ml, mp⟩ := Climb.mono_all (toOps O) f
  exact ⟨fun m ts r h => toRes_ok.mp (e1 m ts ▸ me m ts r (e0 m ts ▸ toRes_ok.mpr h)),
    fun m v ts r h => toRes_ok.mp (l1 m v ts ▸ ml m v ts r (l0 m v ts ▸ toRes_ok.mpr h)),
    fun ts r h => toRes_ok.mp (p1 ts ▸ mp ts r (p0 ts ▸ toRes_ok.mpr h))⟩

def toAst : Ast V → Climb.Ast V
  | .leaf ts v => .leaf ts v
  | .paren a => .paren (toAst a)
  | .un s a => .un s (toAst a)
  | .bin s p l r => .bin s p (toAst l) (toAst r)
  | .tern c t e => .tern (toAst c) (toAst t) (toAst e)

theorem toAst_level (a : Ast V) : (toAst a).level = a.level := by cases a <;> rfl
theorem toAst_rbound (a : Ast V) : (toAst a).rbound = a.rbound := by cases a <;> rfl
theorem toAst_size (a : Ast V) : (toAst a).size = a.size := by
  induction a <;> simp only [toAst, Ast.size, Climb.Ast.size, *]
theorem toAst_render (a : Ast V) : (toAst a).render = a.render := by
  induction a <;> simp only [toAst, Ast.render, Climb.Ast.render, *] <;> rfl
theorem toAst_eval (a : Ast V) : (toAst a).eval (toOps O) = a.eval O := by
  induction a <;> simp only [toAst, Ast.eval, Climb.Ast.eval, *] <;> rfl

theorem leadPrec_toOps (ts : List Tok) : Climb.leadPrec (toOps O) ts = leadPrec O ts := by
  cases ts with
  | nil => rfl
  | cons t r =>
    rw [Climb.leadPrec, leadPrec, show (toOps O).binInfo t.text = (O.binInfo t.text).map _ from rfl]
    cases O.binInfo t.text <;> rfl

theorem toAst_wf (a : Ast V) (h : a.WF O) : Climb.WFc (toOps O) (fun _ => True) (toAst a) := by
  induction a with
  | leaf ts v => exact ⟨h.1, fun rest _ => congrArg toRes (h.2 rest)⟩
  | paren a ih => exact ih h
  | un s a ih => exact ⟨if_pos h.1, ih h.2.1, toAst_level a ▸ h.2.2⟩
  | bin s p l r ihl ihr =>
    obtain ⟨hb, hq, hl, hr, h1, h2, h3⟩ := h
    refine ⟨?_, hq, ihl hl, ihr hr, toAst_level l ▸ h1, toAst_level r ▸ h2, toAst_rbound l ▸ h3⟩
    show (O.binInfo s).map _ = _
    rw [hb, Option.map_some, beq_eq_false_iff_ne.mpr hq]; rfl
  | tern c t e ihc iht ihe =>
    exact ⟨ihc h.1, iht h.2.1, ihe h.2.2.1, toAst_level c ▸ h.2.2.2.1, toAst_rbound c ▸ h.2.2.2.2⟩

variable (hT : TableOK O)
include hT

theorem tableOK_toOps : Climb.TableOK (toOps O) where
  range s p ra h := by
    obtain ⟨⟨p', ra'⟩, hb, e⟩ := Option.map_eq_some_iff.mp h
    cases e; exact hT.range s p' ra' hb
  colon := by show (O.binInfo ":").map _ = none; rw [hT.colon]; rfl
  rparen := by show (O.binInfo ")").map _ = none; rw [hT.rparen]; rfl
  quest := by show (O.binInfo "?").map _ = _; rw [hT.quest]; rfl

theorem main_lemma (a : Ast V) : a.WF O → ∀ (m : Nat) (rest : List Tok) (g : Nat) (r : V × List Tok),
    m ≤ a.level → leadPrec O rest ≤ a.rbound → loop O g m (a.eval O) rest = .ok r →
    ∃ f, f ≤ g + 3 * a.size ∧ expr O f m (a.render ++ rest) = .ok r := by
  intro hwf m rest g r hm hlead hl
  have h := Climb.main_fuel (toOps O) (tableOK_toOps O hT) (C := fun _ => True) (fun _ _ => trivial) (fun _ => trivial)
    (toAst a) (toAst_wf O a hwf) m rest g r (toAst_level a ▸ hm) (by rw [leadPrec_toOps, toAst_rbound]; exact hlead)
    trivial (by rw [(sim O g).2.1, toAst_eval]; exact toRes_ok.mpr hl)
  rw [(sim O _).1, toAst_render, toAst_size] at h
  exact ⟨_, Nat.le_refl _, toRes_ok.mp h⟩

-- Any parse tree of the table-induced grammar, with leaves accepted by the leaf parser, is evaluated by the
-- climbing parser to its value, consuming exactly its tokens, without running out of fuel.
theorem climb_correct (a : Ast V) (h : a.WF O) (rest : List Tok) (hr : leadPrec O rest = 0) :
    ∃ f, f ≤ 3 * a.size + 1 ∧ expr O f 0 (a.render ++ rest) = .ok (a.eval O, rest) := by
  have h := Climb.climb_fuel (toOps O) (tableOK_toOps O hT) (C := fun _ => True) (fun _ _ => trivial) (fun _ => trivial)
    (toAst a) (toAst_wf O a h) rest (by rw [leadPrec_toOps]; exact hr) trivial
  rw [(sim O _).1, toAst_render, toAst_size, toAst_eval] at h
  exact ⟨_, Nat.le_of_eq (Nat.add_comm _ _), toRes_ok.mp h⟩

end CbiVerif.Climb2
#print axioms CbiVerif.Climb2.climb_correct
