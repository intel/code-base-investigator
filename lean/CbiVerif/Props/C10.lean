import CbiVerif.Lemmas.Exclude
import CbiVerif.Lemmas.ExpandPP
import CbiVerif.Lemmas.LexChars
/-! # C10 — excluding files removes their lines from the counts and changes nothing else

Model: `CbiVerif/Model/Exclude.lean` (`find` with an explicit tree cache and language class per file,
`setmapOf`, `effectivePatterns`).  The driver op `c10find` executes exactly these definitions with the
semantics `Exclude.sem fs` (the preprocessor model of `CbiVerif/PP`); the theorems below hold for
*every* semantics record `S`, hence for that instance.

The code base enters `find` in one place only: the list of files that are parsed before any
association starts (`preparse`).  What that can change is (1) whether the analysis fails while building
trees (`PreOK`) and (2) the *language* in which a header is parsed: a header that is not pre-parsed is
parsed in the language of the file that includes it first (`Sem.enter`).  `NoMix` says that (2) never
made a difference in the run — every file was used under the class that depends on (file system,
configuration) only: its extension class if it has one, else the class of its includer.
Under `PreOK` and `NoMix` the attribution equals the cache-free reference `findRef`, which does not
mention the code base at all.  Without `NoMix` the statement is false: `d19_dependency` (finding D19). -/
namespace CbiVerif.C10
open CbiVerif.PP CbiVerif.Exclude

/-- building the trees of the code base and of the compiled files did not fail -/
def PreOK (S : Sem) (cb : List String) (cfg : List (String × List Entry)) : Prop :=
  (preparse S (cb ++ entryFiles cfg) {}).loc.err = none

/-- no language-mixing event was logged by the run (the model reports the log, so this is decidable per run) -/
def NoMix (S : Sem) (n : Nat) (cb : List String) (cfg : List (String × List Entry)) : Prop :=
  (find S n cb cfg).mixed = []

/-- With no mixing event, the whole association state (per-node platform sets, include warnings,
failure status, final platform) is the reference's — a function of (file system, configuration) only. -/
theorem find_eq_ref (S : Sem) (n : Nat) (cb : List String) (cfg : List (String × List Entry))
    (hpre : PreOK S cb cfg) (hmix : NoMix S n cb cfg) :
    (find S n cb cfg).loc = findRef S n cfg :=
  (find_spec S n cb cfg hpre).2.1 hmix

/-- **Attribution does not depend on the exclude list**: two analyses of the same file system and
configuration with *any* two code bases (any exclude patterns, any root) attribute every node of every
file to the same platforms, emit the same include warnings and fail or succeed alike. -/
theorem attribution_independent_of_excludes (S : Sem) (n : Nat) (cb₁ cb₂ : List String)
    (cfg : List (String × List Entry))
    (h₁ : PreOK S cb₁ cfg) (h₂ : PreOK S cb₂ cfg) (m₁ : NoMix S n cb₁ cfg) (m₂ : NoMix S n cb₂ cfg) :
    (find S n cb₁ cfg).loc = (find S n cb₂ cfg).loc := by
  rw [find_eq_ref S n cb₁ cfg h₁ m₁, find_eq_ref S n cb₂ cfg h₂ m₂]

/-- Every file of the code base (and every compiled file) is counted on the tree obtained by parsing it
under its *extension* class — whatever else the code base contains and whatever was included first. -/
theorem member_tree_by_extension (S : Sem) (n : Nat) (cb : List String) (cfg : List (String × List Entry))
    (hpre : PreOK S cb cfg) (f : String) (hf : f ∈ cb ++ entryFiles cfg) :
    ∃ cl t, S.extClass f = some cl ∧ S.parseAs cl f = .ok t ∧ (find S n cb cfg).cache.look f = some (cl, t) :=
  (find_spec S n cb cfg hpre).2.2 f hf

/-- per-line rows (platform set, line count per node) of a file that is in both code bases are equal -/
theorem rows_independent_of_excludes (S : Sem) (n : Nat) (cb₁ cb₂ : List String)
    (cfg : List (String × List Entry))
    (h₁ : PreOK S cb₁ cfg) (h₂ : PreOK S cb₂ cfg) (m₁ : NoMix S n cb₁ cfg) (m₂ : NoMix S n cb₂ cfg)
    (f : String) (hf₁ : f ∈ cb₁) (hf₂ : f ∈ cb₂) :
    (find S n cb₁ cfg).rows f = (find S n cb₂ cfg).rows f := by
  obtain ⟨cl₁, t₁, hx₁, hp₁, hl₁⟩ := member_tree_by_extension S n cb₁ cfg h₁ f (List.mem_append_left _ hf₁)
  obtain ⟨cl₂, t₂, hx₂, hp₂, hl₂⟩ := member_tree_by_extension S n cb₂ cfg h₂ f (List.mem_append_left _ hf₂)
  obtain rfl : cl₁ = cl₂ := Option.some.inj (hx₁.symm.trans hx₂)
  obtain rfl : t₁ = t₂ := Except.ok.inj (hp₁.symm.trans hp₂)
  unfold XW.rows
  rw [hl₁, hl₂, attribution_independent_of_excludes S n cb₁ cb₂ cfg h₁ h₂ m₁ m₂]

/-- **`setmap(cb) = setmap(cb ∖ X) + setmap(X)`** key-wise, for any membership predicate `X`
and any per-file rows (in particular the rows of a finished analysis). -/
theorem setmap_split (rows : String → List (List String × Nat)) (members : List String)
    (X : String → Bool) (key : List String) :
    setmapOf rows members key =
      setmapOf rows (members.filter fun f => !X f) key + setmapOf rows (members.filter X) key :=
  setmapOf_split rows X key members

/-- **Excluding `X` removes exactly the lines of the matched files from every platform set**: the setmap
of the analysis *with* the exclusion plus the excluded files' own setmap (taken from the analysis
without it) is the setmap without the exclusion. -/
theorem exclusion_removes_exactly (S : Sem) (n : Nat) (cb : List String) (X : String → Bool)
    (cfg : List (String × List Entry)) (key : List String)
    (h₁ : PreOK S cb cfg) (h₂ : PreOK S (cb.filter fun f => !X f) cfg)
    (m₁ : NoMix S n cb cfg) (m₂ : NoMix S n (cb.filter fun f => !X f) cfg) :
    setmapOf (find S n cb cfg).rows cb key =
      setmapOf (find S n (cb.filter fun f => !X f) cfg).rows (cb.filter fun f => !X f) key +
      setmapOf (find S n cb cfg).rows (cb.filter X) key := by
  rw [setmap_split (find S n cb cfg).rows cb X key]
  congr 1
  apply setmapOf_congr
  intro f hf
  exact rows_independent_of_excludes S n cb _ cfg h₁ h₂ m₁ m₂ f (List.mem_filter.mp hf).1 hf

/-- **`-x P…` ≡ `exclude = [P…]`**: the pattern list handed to `CodeBase` is the same. -/
theorem cli_equiv (P : List String) :
    effectivePatterns P none = effectivePatterns [] (some P) ∧
    effectivePatterns P (some []) = effectivePatterns [] (some P) := by
  simp [effectivePatterns]

/-- patterns given partly with `-x` and partly in the analysis file act like their concatenation
(command line first) given in either place -/
theorem cli_equiv_concat (A B : List String) :
    effectivePatterns A (some B) = effectivePatterns (A ++ B) none ∧
    effectivePatterns A (some B) = effectivePatterns [] (some (A ++ B)) := by
  simp [effectivePatterns]

/-- hence membership in the code base is the same, whatever the pattern matcher is -/
theorem cli_equiv_member (isSource inRoot : String → Bool) (matcher : List String → String → Bool)
    (P : List String) (f : String) :
    member isSource inRoot matcher (effectivePatterns P none) f =
      member isSource inRoot matcher (effectivePatterns [] (some P)) f := by
  rw [(cli_equiv P).1]

/-! ## The one real dependency (finding D19) and non-vacuity

A toy semantics: `a.f90` (Fortran by extension) includes `h.h` (C by extension); parsed as C the header
has one node (its `#define` sits inside `/* */`), parsed as Fortran it has two. -/

def toyNode (k : NKind) : PNode := { kind := k, lines := [1] }

def toy : Sem where
  extClass := fun f =>
    if f == "h.h" || f == "b.c" then some .c else if f == "a.f90" then some .fortran else none
  parseAs := fun cl f =>
    if f == "a.f90" || f == "b.c" then .ok (#[toyNode .include, toyNode .code], [.node 0 [], .node 1 []])
    else if f == "h.h" then
      match cl with
      | .fortran => .ok (#[toyNode .define, toyNode .code], [.node 0 [], .node 1 []])
      | _ => .ok (#[toyNode .code], [.node 0 []])
    else .error (.other "FileNotFoundError")
  step := fun file idx nd l =>
    ({ l with assoc := l.assoc ++ [((file, idx), [l.plat.name])] }, if nd.kind == .include then .incl "h.h" else .stay)
  findInc := fun p _ _ => (none, p)
  mkPlat := fun pname _ => .ok { name := pname }

def toyCfg : List (String × List Entry) := [("p", [⟨"a.f90", [], [], []⟩])]

def toyCfgC : List (String × List Entry) := [("p", [⟨"b.c", [], [], []⟩])]

/-- the hypotheses of the theorems above are satisfiable on a non-trivial input: a C file including a
header, with the header in the code base and with the header excluded (it is still associated) -/
example : PreOK toy ["b.c", "h.h"] toyCfgC ∧ PreOK toy ["b.c"] toyCfgC ∧
    NoMix toy 8 ["b.c", "h.h"] toyCfgC ∧ NoMix toy 8 ["b.c"] toyCfgC ∧
    (find toy 8 ["b.c"] toyCfgC).loc.assoc = [(("b.c", 0), ["p"]), (("h.h", 0), ["p"]), (("b.c", 1), ["p"])] := by
  unfold PreOK NoMix; decide +kernel

/-- the rows of the excluded header are not counted, the rows of `b.c` are -/
example : setmapOf (find toy 8 ["b.c"] toyCfgC).rows ["b.c"] ["p"] = 2 ∧
    setmapOf (find toy 8 ["b.c", "h.h"] toyCfgC).rows ["b.c", "h.h"] ["p"] = 3 := by decide +kernel

/-- **Finding D19 (the one real dependency)**: without `NoMix` the attribution *does* depend on the code
base.  With `h.h` in the code base it is parsed as C (one node); with `h.h` excluded it is first reached
from `a.f90` and parsed as Fortran (two nodes, the commented-out `#define` becomes live).  Both
analyses succeed; the second one logs a mixing event. -/
theorem d19_dependency :
    ∃ (S : Sem) (n : Nat) (cfg : List (String × List Entry)) (cb₁ cb₂ : List String),
      PreOK S cb₁ cfg ∧ PreOK S cb₂ cfg ∧ NoMix S n cb₁ cfg ∧ (find S n cb₂ cfg).mixed ≠ [] ∧
      (find S n cb₁ cfg).loc.err = none ∧ (find S n cb₂ cfg).loc.err = none ∧
      (find S n cb₁ cfg).loc.assoc ≠ (find S n cb₂ cfg).loc.assoc :=
  ⟨toy, 8, toyCfg, ["a.f90", "h.h"], ["a.f90"], by unfold PreOK NoMix; decide +kernel⟩

/-- the statement without the `NoMix` guard … -/
def AttributionIndependentUnguarded : Prop :=
  ∀ (S : Sem) (n : Nat) (cb₁ cb₂ : List String) (cfg : List (String × List Entry)),
    PreOK S cb₁ cfg → PreOK S cb₂ cfg → (find S n cb₁ cfg).loc.assoc = (find S n cb₂ cfg).loc.assoc

/-- … is false for the model of the code as it is (D19) -/
theorem not_attributionIndependentUnguarded : ¬ AttributionIndependentUnguarded := by
  intro h
  obtain ⟨S, n, cfg, cb₁, cb₂, h₁, h₂, _, _, _, _, hne⟩ := d19_dependency
  exact hne (h S n cb₁ cb₂ cfg h₁ h₂)

/-! ## the instance the driver runs: the value of a controlling expression -/

/-- In the semantics `Exclude.sem fs` (what op `c10find` and, through `FindCache.semC`, op `c08find` execute) an `#if`/`#elif`
has the value `PP.condValue`: the evaluation by `Eval.evaluatePP` (the C02 evaluator) of the expansion by the total step
machine `MX.cbiExpand` (the model of the C03 theorems) under the platform's macro table — the same definition as in the
single-file model of C01 and the multi-file model of C04; no `partial def` is executed. -/
theorem cond_is_expand_then_eval (l : Local) (toks : List Tok) (h : l.err = none) :
    evalCondL l toks =
      match CbiVerif.MX.cbiExpand l.plat.tbl toks with
      | .ok ts => (match CbiVerif.Eval.evaluatePP ts with | .ok b => (b, l) | .error e => (false, l.fail e))
      | .error e => (false, l.fail e)
      | .fuel => (false, l.fail (.other "ModelOutOfFuel")) := by
  unfold evalCondL
  rw [h]
  exact condValue_elim l.plat.tbl toks (fun b => (b, l)) (fun e => (false, l.fail e))

/-- non-vacuity: `#if A > 1 && defined(B)` under `-DA=2 -DB` -/
example : (evalCondL { plat := { name := "p", tbl :=
      [("A", ⟨"A", none, false, false, [], [⟨.num, "2", false, true⟩]⟩), ("B", ⟨"B", none, false, false, [], [⟨.num, "1", false, true⟩]⟩)] } }
    (tokenize "A > 1 && defined(B)")).1 = true := by rw [tokenize_ofList]; decide +kernel

end CbiVerif.C10
