import CbiVerif.Lemmas.EnginesAgreeForced
import CbiVerif.Lemmas.FindChars
import CbiVerif.Props.C04
import CbiVerif.Props.C10
/-! # C04 — the engine of `c08find` / `c10find` agrees with the engine of `findinc` (the C04 / C13 / C18 model)

There are two executable multi-file engines: `Inc.find` (`Model/FindInc.lean`: per file `Cond.build` + `Cond.visitList`, i.e.
`Cond.model`; fuel = include depth; attribution recorded per file after the walk; memo `IncMemo`; file system with links —
the model `C04.include_semantics_find`, `C13.attributed_files_reachable` and the C18 warning theorems are about) and the
engine of `Model/Exclude.lean` (`runEntryRef` / `findRef`: `PTree` of node indices walked by `visitRef`, fuel per step,
attribution at every node, language classes — the engine `C08.findI_is_engine` and `C10.find_eq_ref` are about, run by ops
`c08find` / `c10find` under the record `Exclude.sem`).  `C08.paths_agree` ties their path layers.

Proved here (`Lemmas/EnginesAgree{Base,Sim,Forced}.lean`): a simulation between `Exclude.visitRef (sem fs)` and
`Cond.visit (MF.sem (Inc.ops fs (parseAll fs)) d file)` — mutual induction on the tree inside an induction on the include
depth `d`, for every step fuel of the other side; the relation keeps both failure flags clear, the `Platform` objects equal
field by field (macro table, once-list, search list, memo), `branch_taken` equal, and the attribution sets equal *up to the
nodes the C04 engine has walked but not yet recorded* (in the current file and in every including file).  Both failure flags
are sticky (`visit_bad`, `visitListRef_err`), so "neither run failed" implies that neither fuel ran out; no explicit fuel bound
is needed.  The tree invariant needed (every label of a built tree is a label of the node list, `build_lbls`) is proved for
every label list, well nested or not.

Side condition (`Engines.EngOK`, decidable, evaluated by op `engines` for every generated case): no symbolic links, no
existing file that is Fortran / assembler by extension, compiled files C-family by extension, no `-include` files. -/
namespace CbiVerif.C04
open CbiVerif.PP CbiVerif.Engines

/-- FULL STATEMENT (not proved; expected false without a side condition — `Exclude.sem` sends a header with a Fortran
extension to the Fortran front end, `Inc.find` knows one front end only, and follows symbolic links): in non-error runs the two
engines attribute the same (file, node, platform) triples. -/
def ExcludeEngineEqFindInc : Prop :=
  ∀ (fs : Inc.FS) (cb : List String) (cfg : List (String × List Entry)) (n fuel : Nat),
    (runExclude fs cfg n).err = none → (Inc.find fs cb cfg fuel).err = none →
    ∀ f i p, Has (runExclude fs cfg n).assoc f i p ↔ Has (Inc.find fs cb cfg fuel).assoc f i p

/-- **engine agreement (proved part).**  On a link-free, single-language-class request without `-include` files (`EngOK`),
whenever neither run fails — which includes "neither fuel was exhausted": the step fuel `n` of `Exclude`'s engine and the
include-depth fuel `fuel` of `Inc.find` — the cache-free engine of ops `c08find` / `c10find` (`Exclude.findRef (Exclude.sem fs.files)`)
and the model of `finder.find` the C04 / C13 / C18 theorems are about attribute exactly the same (file, node, platform)
triples, for every code base, configuration and pair of fuels. -/
theorem engines_agree_partial (fs : Inc.FS) (cb : List String) (cfg : List (String × List Entry)) (n fuel : Nat)
    (hok : EngOK fs cfg = true)
    (hx : (runExclude fs cfg n).err = none) (hi : (Inc.find fs cb cfg fuel).err = none) :
    ∀ f i p, Has (runExclude fs cfg n).assoc f i p ↔ Has (Inc.find fs cb cfg fuel).assoc f i p :=
  (find_top fs cb cfg n fuel treesOK (engOKF_of_engOK fs cfg hok)).agree hx hi

/-- … in the form the driver evaluates (op `engines`: fields `eng_ok`, `both_ok`, `agree`) -/
theorem engines_agree_checked (fs : Inc.FS) (cb : List String) (cfg : List (String × List Entry)) (n fuel : Nat)
    (hok : EngOK fs cfg = true) (hb : bothOk fs cb cfg n fuel = true) : agree fs cb cfg n fuel = true :=
  agreeOf_of_has hb (engines_agree_partial fs cb cfg n fuel hok)

/-- **one file, no `#include` processed** (first step of the induction, stated for the engines themselves): a single
command, include-depth fuel 0 on the side of `Inc.find` — any `#include` that enters a file makes that run fail — : both
engines reduce to the single-file associator `Cond.model` over the file's labels and attribute the same nodes. -/
theorem engines_agree_single_file (fs : Inc.FS) (cb : List String) (pname : String) (e : Entry) (n : Nat)
    (hok : EngOK fs [(pname, [e])] = true)
    (hx : (runExclude fs [(pname, [e])] n).err = none) (hi : (Inc.find fs cb [(pname, [e])] 0).err = none) :
    ∀ f i p, Has (runExclude fs [(pname, [e])] n).assoc f i p ↔ Has (Inc.find fs cb [(pname, [e])] 0).assoc f i p :=
  engines_agree_partial fs cb [(pname, [e])] n 0 hok hx hi

/-- FULL STATEMENT of the transfer (not proved without the side condition) -/
def IncludeSemanticsExcludeEngine : Prop :=
  ∀ (fs : Inc.FS) (cb : List String) (cfg : List (String × List Entry)) (n fuel : Nat),
    Inc.WFparsed (Inc.parseAll fs) →
    (runExclude fs cfg n).err = none → (Inc.findSpec fs cb cfg fuel).err = none →
    ∀ f i p, Has (runExclude fs cfg n).assoc f i p ↔ Has (Inc.findSpec fs cb cfg fuel).assoc f i p

/-- **`C04.include_semantics_find` transfers to the engine ops `c08find` / `c10find` execute** (proved part: `EngOK`).
For well-nested files, whenever neither run fails, the engine of `Model/Exclude.lean` attributes exactly the triples the
reference analysis does (`Inc.findSpec`: flat ISO C conditional-group machine, textual inclusion, the compiler's search rule
evaluated afresh at every include). -/
theorem include_semantics_exclude_engine_partial (fs : Inc.FS) (cb : List String) (cfg : List (String × List Entry))
    (n fuel : Nat) (hok : EngOK fs cfg = true) (hwf : Inc.WFparsed (Inc.parseAll fs))
    (hx : (runExclude fs cfg n).err = none) (hs : (Inc.findSpec fs cb cfg fuel).err = none) :
    ∀ f i p, Has (runExclude fs cfg n).assoc f i p ↔ Has (Inc.findSpec fs cb cfg fuel).assoc f i p := by
  rw [← include_semantics_find fs cb cfg fuel hwf] at hs ⊢
  exact engines_agree_partial fs cb cfg n fuel hok hx hs

/-- … and to the run with the shared parse cache (`Exclude.find`, what op `c10find` returns), when it logs no
language-mixing event and the up-front parse succeeds (`C10.find_eq_ref`) -/
theorem include_semantics_cached_engine_partial (fs : Inc.FS) (cb cb' : List String) (cfg : List (String × List Entry))
    (n fuel : Nat) (hok : EngOK fs cfg = true) (hwf : Inc.WFparsed (Inc.parseAll fs))
    (hpre : C10.PreOK (Exclude.sem fs.files) cb' cfg) (hmix : C10.NoMix (Exclude.sem fs.files) n cb' cfg)
    (hx : (Exclude.find (Exclude.sem fs.files) n cb' cfg).loc.err = none) (hs : (Inc.findSpec fs cb cfg fuel).err = none) :
    ∀ f i p, Has (Exclude.find (Exclude.sem fs.files) n cb' cfg).loc.assoc f i p ↔ Has (Inc.findSpec fs cb cfg fuel).assoc f i p := by
  rw [C10.find_eq_ref _ n cb' cfg hpre hmix] at hx ⊢
  exact include_semantics_exclude_engine_partial fs cb cfg n fuel hok hwf hx hs

/-! ### non-vacuity -/

/-- a `#pragma once` header that defines a macro and shows different lines per platform, included twice (quote form, then
angle form through `-I`: the second inclusion is stopped by the once-list), two platforms -/
def engFs : Inc.FS := { files := [
  ("/r/inc/h.h", "#pragma once\n#ifdef A\nint a;\n#else\nint b;\n#endif\n#define H 1\n"),
  ("/r/a.c", "#include \"inc/h.h\"\n#include <h.h>\n#ifdef H\nint x;\n#endif\n")] }
def engCfg : List (String × List Entry) :=
  [("cpu", [{ file := "/r/a.c", defines := ["A"], includePaths := ["/r/inc"], includeFiles := [] }]),
   ("gpu", [{ file := "/r/a.c", defines := [], includePaths := ["/r/inc"], includeFiles := [] }])]

/-- both runs on `engFs` / `engCfg` and the well-formedness check of the parsed files, evaluated by the kernel in one
declaration: the error flag and the size of the association list come from one reduction of the run, and `Inc.find` and the
check share `Inc.parseAll engFs` -/
theorem eng_eval : bothOk engFs ["/r/a.c"] engCfg 200 4 = true ∧
    ((runExclude engFs engCfg 200).assoc.map (·.2.length)).sum = 22 ∧
    ((Inc.find engFs ["/r/a.c"] engCfg 4).assoc.map (·.2.length)).sum = 22 ∧
    (Inc.parseAll engFs).wf = true := by
  rw [bothOk, runExclude, Inc.find, Inc.findWith]
  generalize hS : Exclude.sem engFs.files = S
  generalize hp : Inc.parseAll engFs = pfs
  rw [Exclude.sem, engFs, Exclude.parseAsFS_cons, Exclude.parseAsFS_cons] at hS
  rw [engFs, Inc.parseAll_cons, Inc.parseAll_cons] at hp
  subst hS hp
  decide +kernel

/-- the hypotheses of `engines_agree_partial` / `engines_agree_checked` hold there (kernel-checked) … -/
example : EngOK engFs engCfg = true ∧ bothOk engFs ["/r/a.c"] engCfg 200 4 = true := ⟨by decide +kernel, eng_eval.1⟩

/-- … and both runs are non-trivial: 12 nodes, 22 (file, node, platform) triples each (the two association lists differ
in order: `Inc.find` records the header's nodes before the includer's) -/
example : ((runExclude engFs engCfg 200).assoc.map (·.2.length)).sum = 22 := eng_eval.2.1
example : ((Inc.find engFs ["/r/a.c"] engCfg 4).assoc.map (·.2.length)).sum = 22 := eng_eval.2.2.1

/-- the well-formedness hypothesis of the transfer theorem holds there as well -/
example : Inc.WFparsed (Inc.parseAll engFs) := WFparsed_of_check _ eng_eval.2.2.2

/-- the side condition is not vacuous: a symbolic link, an `-include` file or a Fortran header falsify it -/
example : EngOK { engFs with links := [("/r/l", "/r/inc")] } engCfg = false ∧
    EngOK engFs [("p", [{ file := "/r/a.c", defines := [], includePaths := [], includeFiles := ["inc/h.h"] }])] = false ∧
    EngOK { files := ("/r/m.f90", "") :: engFs.files } engCfg = false := by decide +kernel

end CbiVerif.C04
