import CbiVerif.Props.C06Fortran
import CbiVerif.Props.C17Nodes
/-!
# C06 about SOURCE TEXT — the per-line attribution of mixed code bases, Fortran files included

`Props/C06Fortran.lean` states `FortranGroupsAreReference` and proves the per-line attribution under a grouping hypothesis
(`line_attribution_is_reference_mixed_partial`).  The field `groups` of `C06L.parseSrcL_facts` (for a Fortran file: from
`C17.nodes_of_ok`) proves the former and discharges the latter (the statement fails for the code before the repair of its
defect F-C17-2):

* `fortran_groups_are_reference` / `fortranGroupsAreReference` — inside C17's guard the nodes of a Fortran file are the groups
  of `Spec/FortranNodes.lean`;
* `line_attribution_is_reference_mixed` / `lineAttributionIsReferenceMixed` — the per-line attribution of every file inside the
  guard of its language is the one written from the specifications alone (C-family: from `C05.nodes_of_ok`; Fortran: from `C17.nodes_of_ok`);
* `setmap_rows_are_reference_counts_mixed` — hence every row of `get_setmap` of a mixed code base counts the (file, counted
  line) pairs whose reference attribution is exactly that platform set;
* `fortran_nodes_nonempty` — every node of a Fortran file inside the guard holds at least one line (`1 ≤ num_lines`).
-/
namespace CbiVerif.C06
open CbiVerif.SM CbiVerif.C06C CbiVerif.C06L

/-- **fortran_groups_are_reference.**  A free-form Fortran text inside C17's guard (the reference scanner accepts it, no
    F-C17-1 line) is cut into nodes exactly as `Spec/FortranNodes.lean`
    groups the lines the reference counts — one node per directive line, one per maximal run of counted lines between directive
    lines — and every node holds at least one line with `num_lines = len(lines)`. -/
theorem fortran_groups_are_reference (t : List Char) (p : Parsed) (hg : fguard t = true) (h : fParseSrc t = .ok p) :
    p.nodes.map (fun nd => (nd.kind == CClean.NKind.directive, nd.lines)) = Fortran.refNodes (String.ofList t) ∧
    ∀ nd ∈ p.nodes, nd.numLines = nd.lines.length ∧ 1 ≤ nd.numLines :=
  have hf := fParseSrc_facts t p h
  ⟨(hf.groups hg).1, fun nd hnd => ⟨hf.wf nd hnd, (hf.groups hg).2 nd hnd⟩⟩

/-- **fortranGroupsAreReference.**  The statement `FortranGroupsAreReference` of `Props/C06Fortran.lean`, as stated there. -/
theorem fortranGroupsAreReference : FortranGroupsAreReference :=
  fun t p hg h => (fortran_groups_are_reference t p hg h).1

/-- **fortran_nodes_nonempty.**  Every node `FileParser` builds for a free-form Fortran text inside C17's guard counts at
    least one physical line. -/
theorem fortran_nodes_nonempty (t : List Char) (p : Parsed) (hg : fguard t = true) (h : fParseSrc t = .ok p) :
    ∀ nd ∈ p.nodes, 1 ≤ nd.numLines := fun nd hnd => ((fortran_groups_are_reference t p hg h).2 nd hnd).2

/-- **line_attribution_is_reference_mixed.**  For distinct file names and a configuration whose units the reference accepts: for
    EVERY file — C-family or free-form Fortran — whose text is inside the guard of its language (C05's; C17's),
    the per-line attribution of the record (`SM.lineAttr`, the list `setmap_lines` / `specCount` count over) is
    EXACTLY the attribution written from the specifications alone (`specLineAttrL`): every line the language's specification
    counts, once, with the platforms whose ISO C reference run keeps the specification's group it belongs to; and every node
    of such a file counts at least one line. -/
theorem line_attribution_is_reference_mixed (files : List SrcFile) (plats : List Plat) (fs : List FileRec)
    (h : analyseL files plats = .ok fs) (hnd : (files.map (·.path)).Nodup) (hacc : RefAcceptsAllL files plats) :
    List.Forall₂ (fun (f : SrcFile) (r : FileRec) => ∃ p, parseSrcL f = .ok p ∧
        (guardL f = true → lineAttr r = specLineAttrL plats f p.pnodes ∧ ∀ n ∈ r.nodes, 1 ≤ n.numLines)) files fs := by
  obtain ⟨pr, hp⟩ := analyseG_records _ files plats fs h
  refine hp.imp fun f r ⟨p, hparse, hr, hplats⟩ => ⟨p, hparse, fun hg => ?_⟩
  have hf := parseSrcL_facts f p hparse
  exact hr ▸ ⟨lineAttr_mkRec (hplats hnd hacc) _ (hf.lines hg), nodeRecs_pos pr f.path p.nodes (hf.groups hg).2⟩

/-- **lineAttributionIsReferenceMixed.**  The full statement kept visible in `Props/C06Fortran.lean`, as stated there. -/
theorem lineAttributionIsReferenceMixed : LineAttributionIsReferenceMixed := by
  intro files plats fs h hnd hacc
  refine (line_attribution_is_reference_mixed files plats fs h hnd hacc).imp ?_
  rintro f r ⟨p, hp, hattr⟩
  exact ⟨p, hp, fun hg => (hattr hg).1⟩

/-- **setmap_rows_are_reference_counts_mixed.**  … and when every text of a mixed code base is inside the guard of its
    language, the row of platform set `k` in `get_setmap` is the number of (file, counted line) pairs — counted by C05's
    specification in the C-family files, by C17's in the Fortran files — whose reference attribution is exactly `k`. -/
theorem setmap_rows_are_reference_counts_mixed (files : List SrcFile) (plats : List Plat) (fs : List FileRec)
    (h : analyseL files plats = .ok fs) (hnd : (files.map (·.path)).Nodup) (hacc : RefAcceptsAllL files plats)
    (hg : ∀ f ∈ files, guardL f = true) (k : Key) :
    ∃ ps, List.Forall₂ (fun (f : SrcFile) (p : Parsed) => parseSrcL f = .ok p) files ps ∧
      get (getSetmap fs) k =
        ((files.zip ps).map fun x => (specLineAttrL plats x.1 x.2.pnodes).countP fun y => y.2 = k).sum := by
  obtain ⟨ps, hps, hrows⟩ := rows_of_attr (records_facts files plats fs h)
    (lineAttributionIsReferenceMixed files plats fs h hnd hacc) hg
  exact ⟨ps, hps, (hrows k).trans (countP_flatMap_sum ..)⟩

/-! ## non-vacuity (kernel-checked) -/

/-- the code base `exSrcL` / `exPlatsL` of `Props/C06Fortran.lean` (a C file and a Fortran file with a statement continued over
    a comment line inside `#ifdef A`, a sentinel in the `#else` branch; two platforms, four compile commands) satisfies the
    hypotheses of the three theorems: both files are inside the guard of their language; and the attribution is not trivial (the Fortran
    file has seven groups carrying three different platform sets) -/
example :
    (exSrcL.all guardL) = true ∧ (exSrcL.map (·.path)).Nodup ∧ refAcceptsAllLb exSrcL exPlatsL = true ∧
    (exSrcL.map fun f => (specNodesL f).map (·.2)) =
      [[[1], [2], [3], [4], [5, 6], [7]], [[1], [2], [3, 5], [6], [7], [8], [10]]] ∧
    ((analyseL exSrcL exPlatsL).toOption.map fun fs => fs.map fun r => (r.nodes.map (·.plats))) =
      some [[["cpu", "gpu"], ["cpu", "gpu"], ["cpu", "gpu"], ["cpu", "gpu"], [], ["cpu", "gpu"]],
            [["cpu", "gpu"], ["cpu", "gpu"], ["cpu"], ["cpu", "gpu"], ["gpu"], ["cpu", "gpu"], ["cpu", "gpu"]]] :=
  ⟨exSrcL_facts.1.2.1, exSrcL_facts.1.2.2.1, exSrcL_facts.1.2.2.2.1, exSrcL_facts.2⟩

/-- the former witness of F-C17-2 is inside C17's guard and, since the repair, grouped as the specification groups it -/
example :
    fguard CbiVerif.C17.witnessF2.toList = true ∧
    (fParseSrc CbiVerif.C17.witnessF2.toList).toOption.map
        (fun p => p.nodes.map fun nd => (nd.kind == CClean.NKind.directive, nd.lines))
      = some (Fortran.refNodes CbiVerif.C17.witnessF2) := by
  unfold CbiVerif.C17.witnessF2
  rw [String.toList_ofList, Fortran.refNodes_ofList, Fortran.refText_ofList]
  decide +kernel

end CbiVerif.C06
