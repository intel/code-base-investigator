import CbiVerif.Lemmas.TreeBuild
import CbiVerif.Lemmas.TreeSim
import CbiVerif.Lemmas.TreeDefine
import CbiVerif.Lemmas.TreeParse
import CbiVerif.Lemmas.TreeExec
/-! # C01 — the single-file model against the reference machine, for every meaning of expressions

Model: `Model/Tree.lean` (`SourceTree.insert` as a zipper, `build`), `Model/Assoc.lean`
(`ParserState.associate` as the visitor `visit/visitList`, `Platform.define` = keep first).
Spec: `Spec/CPreproc.lean` (the flat conditional-stack machine of ISO C 6.10.1, `#define`
overwrites, redefinition diagnostic).  The last three theorems carry the result to the executed
functions `PP.analyseNodes` / `PP.analyseFile`, whose meaning of a controlling expression is
`PP.condValue`; what that meaning is, is the subject of `Props/C01.lean`.

All theorems quantify over every structured program `b : Block` (arbitrary nesting depth,
arbitrary length), every meaning of the payloads (`Sem Env` / `Lang B E`) and every
initial world. -/
namespace CbiVerif.C01
open CbiVerif.Cond

variable {Env : Type}

/-- `SourceTree.insert` builds, for every structured program, the tree in which each `#if`
holds its group and `#elif/#else/#endif` are its siblings — and never raises. -/
theorem build_eq (b : Block) : build b.lines = some b.trees := by
  obtain ⟨h, -⟩ := Block.build b Zip.empty (by simp [Zip.Good, Zip.empty])
  simp only [Zip.settle, Zip.addKids, Zip.empty, List.nil_append] at h
  exact finish_settled _ _ h

/-- The visitor over that tree and the flat reference machine, started in related states,
end in related states: same attributed ids in the same order, same world, `branch_taken`
= the reference's `taken` flags, no raise, no structural diagnostic. -/
theorem assoc_eq_ref (M : Sem Env) (b : Block) (st : AState Env) (r : RState Env) (h : Rel st r) :
    Rel (visitList M st b.trees) (refRun M r b.lines) := Block.sim M b st r h

theorem rel_init (σ : Env) : Rel ({ σ := σ } : AState Env) ({ σ := σ } : RState Env) :=
  ⟨rfl, rfl, rfl, (by intro f hf; cases hf), ⟨rfl, rfl⟩⟩

/-- Main theorem (`build_eq`, then `Block.joint` from the initial states): on the line list of any
structured program the executed pipeline `model` (build the tree, visit it) succeeds and
agrees with the reference run on the attributed ids (in order), on the final world (macro
table, failure flag, …) and on being failure-free; the reference sees a well-nested unit. -/
theorem main (M : Sem Env) (σ : Env) (b : Block) :
    ∃ a, model M σ b.lines = some a ∧
      a.out = (reference M σ b.lines).out ∧
      a.σ = (reference M σ b.lines).σ ∧
      a.crash = false ∧ a.taken = [] ∧
      (reference M σ b.lines).wellNested = true := by
  obtain ⟨σ', o', h1, h2⟩ := Block.joint M b true { σ := σ } { σ := σ } rfl rfl rfl
  refine ⟨visitList M { σ := σ } b.trees, by simp only [model, build_eq, Option.map_some], ?_⟩
  rw [reference, h2, (if_pos rfl).symm.trans h1]
  exact ⟨rfl, rfl, rfl, rfl, rfl⟩

/-- Instrumented meaning: every call of `evalIf` / `exec` is logged with its payload and the
world it was made in. -/
def Sem.traced (M : Sem Env) : Sem (Env × List (Bool × Nat × Env)) where
  evalIf := fun s p => ((M.evalIf s.1 p).1, ((M.evalIf s.1 p).2, s.2 ++ [(true, p, s.1)]))
  exec := fun s p => (M.exec s.1 p, s.2 ++ [(false, p, s.1)])

/-- "`#define/#undef` take effect in source order and only where they are reached", and each
controlling expression is evaluated in the world the reference evaluates it in: the *sequence*
of (kind, payload, world-before) of all evaluations/executions made by the model equals the
reference's.  In particular an `#elif` after a taken group, or anything in a skipped group, is
evaluated by neither. -/
theorem same_evaluations (M : Sem Env) (σ : Env) (b : Block) :
    ∃ a, model (Sem.traced M) (σ, []) b.lines = some a ∧
      a.σ.2 = (reference (Sem.traced M) (σ, []) b.lines).σ.2 := by
  obtain ⟨a, h1, _, h3, _⟩ := main (Sem.traced M) (σ, []) b
  exact ⟨a, h1, by rw [h3]⟩

/-! ## `#define` order: CBI keeps the first definition, C the last -/
variable {B E : Type} [DecidableEq B]

/-- With the reference's redefinition diagnostic clear at the end of the run (gcc printed no
"redefined" warning), the flat machine run with CBI's keep-first table is, **after every
prefix of the unit**, in exactly the state of the run with C's overwrite table: same macro
table, same failure flag, same attribution, same stack.  Holds for every line list. -/
theorem define_order (L : Lang B E) (r : RState (MWorld B E)) (pre suf : List Lbl)
    (h : (refRun (semC L) r (pre ++ suf)).σ.diag = false) :
    refRun (semCBI L) r pre = refRun (semC L) r pre := by
  rcases refRun_sync L pre r r (Or.inr rfl) with hd | he
  · have := refRun_diag_mono L suf _ hd
    rw [← refRun_append] at this
    rw [this] at h; cases h
  · exact he

/-- Main theorem for macro worlds: the model as executed (tree + visitor + `Platform.define`
keeping the first definition) against the reference with C's `#define`: if the reference
reports no redefinition diagnostic, attribution, final macro table and failure flag coincide. -/
theorem main_macro (L : Lang B E) (w : MWorld B E) (b : Block)
    (h : (reference (semC L) w b.lines).σ.diag = false) :
    ∃ a, model (semCBI L) w b.lines = some a ∧
      a.out = (reference (semC L) w b.lines).out ∧
      a.σ = (reference (semC L) w b.lines).σ ∧
      a.crash = false := by
  obtain ⟨a, h1, h2, h3, h4, _⟩ := main (semCBI L) w b
  have hd := define_order L ({ σ := w } : RState (MWorld B E)) b.lines [] (by simpa [reference] using h)
  simp only [reference] at h2 h3 ⊢
  rw [hd] at h2 h3
  exact ⟨a, h1, h2, h3, h4⟩

/-- "A program that a real preprocessor accepts without diagnostics never makes the analysis
fail" (generic form): the model fails exactly when the reference's world has failed — the tree
builder and the `branch_taken` bookkeeping never raise on a structured program. -/
theorem no_spurious_failure (M : Sem Env) (failed : Env → Bool) (σ : Env) (b : Block)
    (h : failed (reference M σ b.lines).σ = false) :
    ∃ a, model M σ b.lines = some a ∧ a.crash = false ∧ failed a.σ = false := by
  obtain ⟨a, h1, _, h3, h4, _⟩ := main M σ b
  exact ⟨a, h1, h4, by rw [h3]; exact h⟩

/-- … and for macro worlds against the C reference: no expression/directive failure and no
redefinition diagnostic in the reference ⇒ no failure in the model.  Since the reference
evaluates an `#elif` only when no earlier group of the chain was taken, this needs the
repaired associator (defect D1, commit 1c8af0e). -/
theorem no_spurious_failure_macro (L : Lang B E) (w : MWorld B E) (b : Block)
    (hd : (reference (semC L) w b.lines).σ.diag = false)
    (he : (reference (semC L) w b.lines).σ.err = none) :
    ∃ a, model (semCBI L) w b.lines = some a ∧ a.crash = false ∧ a.σ.err = none := by
  obtain ⟨a, h1, _, h3, h4⟩ := main_macro L w b hd
  exact ⟨a, h1, h4, by rw [h3]; exact he⟩

/-! ## From structured programs to arbitrary line lists, and to the executed functions -/

/-- Every line list on which the reference machine raises no structural diagnostic (no stray
`#elif/#else/#endif`, nothing after `#else`, every `#if` closed) is the line list of a structured
program — whatever the semantics and the initial world.  So quantifying over `b : Block` above is
quantifying over all translation units a C preprocessor accepts structurally. -/
theorem structured_of_wellNested (M : Sem Env) (σ : Env) (ls : List Lbl) (hl : ∀ l ∈ ls, l.normal)
    (h : (reference M σ ls).wellNested = true) : ∃ b : Block, b.lines = ls := by
  simp only [RState.wellNested, Bool.and_eq_true, Bool.not_eq_true', List.isEmpty_iff] at h
  have hn := (refRun_nest M ls ({ σ := σ } : RState Env) h.1).2
  simp only [reference] at h
  rw [h.2] at hn
  exact structured_of_nest ls hl hn

/-- `main_macro` for arbitrary (normalised) line lists: reference structurally content and without
redefinition diagnostic ⇒ the model completes with the reference's attribution and world. -/
theorem main_macro_lines (L : Lang B E) (w : MWorld B E) (ls : List Lbl) (hl : ∀ l ∈ ls, l.normal)
    (hw : (reference (semC L) w ls).wellNested = true)
    (hd : (reference (semC L) w ls).σ.diag = false) :
    ∃ a, model (semCBI L) w ls = some a ∧
      a.out = (reference (semC L) w ls).out ∧
      a.σ = (reference (semC L) w ls).σ ∧
      a.crash = false := by
  obtain ⟨b, rfl⟩ := structured_of_wellNested (semC L) w ls hl hw
  exact main_macro L w b hd

open CbiVerif.PP in
/-- **The executed functions, node-list level.**  `PP.analyseNodes` (tree builder + visitor with
`Platform.define` semantics, i.e. `Cond.model (Cond.semCBI …)`) against `PP.referenceNodes` (the same line
list through the flat ISO C machine with C's `#define`), for EVERY node list — whatever front end produced
it (`parse_file` on a C source, `fortran_file_source` + `DirectiveParser` on a Fortran source) — and every
`-D` list: whenever the reference reports no structural diagnostic, no unterminated `#if` and no macro
redefinition, the model returns exactly the reference's per-node attribution — or fails with exactly the
reference's expression/directive failure. -/
theorem analyseNodes_eq_reference (nodes : List PNode) (defs : List String) (r : RefResult)
    (h : referenceNodes nodes defs = .ok r)
    (hb : r.bad = false) (hu : r.unterminated = false) (hd : r.diag = false) :
    analyseNodes nodes defs = match r.err with | none => .ok r.rows | some e => .error e := by
  unfold referenceNodes at h
  cases hi : initWorld MWorld.defineC defs with
  | error e => simp [hi, bind, Except.bind] at h
  | ok w2 =>
    simp only [hi, bind, Except.bind, pure, Except.pure, Except.ok.injEq] at h
    subst h
    simp only [Bool.not_eq_eq_eq_not, Bool.not_false, List.isEmpty_iff] at hu
    simp only at hb hd
    have hw : (reference (semC (langOf nodes.toArray)) w2 (labels nodes)).wellNested = true := by
      simp [RState.wellNested, hb, hu]
    obtain ⟨a, hm, ho, hs, hc⟩ := main_macro_lines (langOf nodes.toArray) w2 (labels nodes) (labels_normal nodes) hw hd
    have hw2 : w2.diag = false := Bool.eq_false_iff.mpr fun hx =>
      Bool.false_ne_true (hd.symm.trans (refRun_diag_mono (langOf nodes.toArray) (labels nodes) { σ := w2 } hx))
    obtain ⟨ts, hts, -⟩ := Option.map_eq_some_iff.mp hm
    unfold analyseNodes
    simp only [initWorld_sync defs w2 hi hw2, hts, Option.isNone_some, hm, hc, bind, Except.bind, pure, Except.pure,
      Bool.false_eq_true, if_false]
    simp only [hs, ho]
    cases (reference (semC (langOf nodes.toArray)) w2 (labels nodes)).σ.err <;> rfl

open CbiVerif.PP in
/-- … and behind any front end `p` that yields the node list or fails (the `parse_file` port in `analyse_eq_reference`,
`Fortran.fortranPNodes` in `C17.conditionals_as_C`): model and reference run the same `p` first. -/
theorem frontEnd_eq_reference (p : Except Err (List PNode)) (defs : List String) (r : RefResult)
    (h : p >>= (referenceNodes · defs) = .ok r)
    (hb : r.bad = false) (hu : r.unterminated = false) (hd : r.diag = false) :
    p >>= (analyseNodes · defs) = match r.err with | none => .ok r.rows | some e => .error e := by
  cases p with
  | error e => cases h
  | ok nodes => exact analyseNodes_eq_reference nodes defs r h hb hu hd

open CbiVerif.PP in
/-- **The executed functions.**  `PP.analyseFile` (what driver op `c01` returns as `model`: the
`parse_file` port, then `analyseNodes`) and `PP.referenceFile` (what it returns as `spec`: the same node
list through `referenceNodes`): whenever the reference reports no structural diagnostic, no unterminated
`#if` and no macro redefinition, the model returns exactly the reference's per-node attribution — or fails
with exactly the reference's expression/directive failure.  For every file text and every `-D` list. -/
theorem analyse_eq_reference (text : String) (defs : List String) (r : RefResult)
    (h : referenceFile text defs = .ok r)
    (hb : r.bad = false) (hu : r.unterminated = false) (hd : r.diag = false) :
    analyseFile text defs = match r.err with | none => .ok r.rows | some e => .error e :=
  frontEnd_eq_reference (parseFile text) defs r h hb hu hd

end CbiVerif.C01
