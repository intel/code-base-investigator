import CbiVerif.Lemmas.C06ComposeText
/-!
# C06 about SOURCE TEXT — the composed pipeline

`C06C.analyse files plats` (`Model/C06Compose.lean`) is the analysis result of a code base given as texts and of a
configuration given as `-D` lists per platform and file: the C05 parser model (`CClean.parseFile`), the directive parser and
the C01 associator (`PP.analyseNodes`) per configuration entry, the platform set per node.  The driver executes
`C06L.analyseL` (op `c06text`), which on a code base of C-family files is this definition (`mixed_eq_C_on_C_files`).  The
theorems below restate `C06.setmap_total` / `setmap_lines` / `lines_partition` /
`summary_rows_are_line_counts` for it and DISCHARGE their hypotheses (`num_lines = len(lines)`, disjoint node line lists,
"the lines are the counted physical lines of the file") from `C05.partition`, `C05.nodes_lines`, `C05.nodes_of_ok`, and tie the
platform sets to the ISO C reference machine through `C01.analyseNodes_eq_reference`.

Every statement is for all texts, all platform lists and all `-D` lists (`List.Forall₂` pairs the i-th file with the i-th record),
and is the case of the C front end (`C06C.parseSrc_facts`; `analyse` is `C06L.analyseG fun f => parseSrc f.text` by `rfl`)
of the development for any front end in `Lemmas/C06ComposeText.lean`.
Scope: no `#include` resolution (C04's layer).
-/
namespace CbiVerif.C06
open CbiVerif.SM CbiVerif.C06C

/-- what the record `r` of the analysis says about the text of the file `f` it was computed from (`C06C.RecFacts` with the
    data of the C specification) -/
def FileFacts (f : SrcFile) (r : FileRec) : Prop :=
  r.path = f.path ∧ r.link = false ∧
  (CbiVerif.Cov.fileLines r.nodes).Pairwise (· < ·) ∧
  (∀ m ∈ CbiVerif.Cov.fileLines r.nodes, 1 ≤ m ∧ m ≤ (CbiVerif.CText.rawLines f.text).length) ∧
  (∀ n ∈ r.nodes, n.numLines = n.lines.length) ∧
  (C06C.guard f.text = true →
    CbiVerif.Cov.fileLines r.nodes = CLexRef.countedLines f.text ∧
    r.nodes.map (·.lines) = (CLexRef.nodes f.text).map (·.2) ∧ ∀ n ∈ r.nodes, 1 ≤ n.numLines)

/-- **file_lines_counted_once.**  For every code base (texts) and every configuration on which the analysis does not raise:
    the i-th record belongs to the i-th file, is not a link, and the concatenation of `node.lines` over ALL its nodes (code
    nodes and directive nodes, `tree.walk()` order) is strictly increasing — no physical line in two nodes or twice in one —
    within `1..n`, with `num_lines = len(lines)` for every node (from `C05.partition`, no hypothesis on the text); and for a
    text inside C05's guard (well-formed, outside F-C05-1/2) that concatenation IS the list of lines the C05 specification
    counts, grouped into nodes as the specification groups them, every node holding at least one line. -/
theorem file_lines_counted_once (files : List SrcFile) (plats : List Plat) (fs : List FileRec)
    (h : analyse files plats = .ok fs) : List.Forall₂ FileFacts files fs :=
  analyseG_facts (fun f => parseSrc_facts f.text) h

/-- **setmap_total_is_sloc_of_text.**  For every code base (texts) and configuration on which the analysis does not raise:
    every row of `get_setmap` is the number of counted lines whose node carries exactly that platform set (`setmap_lines`,
    its hypothesis `NodesWF` discharged), the sum of the setmap is the number of lines of all nodes of all files, and when
    every text is inside C05's guard that sum is the number of lines the C05 SPECIFICATION counts in the texts — the SLOC
    of the code base. -/
theorem setmap_total_is_sloc_of_text (files : List SrcFile) (plats : List Plat) (fs : List FileRec)
    (h : analyse files plats = .ok fs) :
    NodesWF fs ∧ (∀ k, get (getSetmap fs) k = specCount fs k) ∧ total (getSetmap fs) = specSloc fs ∧
    total (getSetmap fs) = (fs.map fun r => (CbiVerif.Cov.fileLines r.nodes).length).sum ∧
    ((∀ f ∈ files, C06C.guard f.text = true) →
      total (getSetmap fs) = (files.map fun f => (CLexRef.countedLines f.text).length).sum) :=
  setmap_total_of_facts (file_lines_counted_once files plats fs h)

/-- **summary_rows_of_text.**  The rows `codebasin -R summary` prints for the analysis of the texts: each row's count is the
    number of counted lines carrying exactly its platform set, its percentage that count over the SLOC, and `Total SLOC` is
    the number of lines the C05 specification counts in the texts (`summary_rows_are_line_counts`, hypothesis discharged). -/
theorem summary_rows_of_text (files : List SrcFile) (plats : List Plat) (fs : List FileRec)
    (h : analyse files plats = .ok fs) (rows : List CbiVerif.Summary.Row)
    (hr : CbiVerif.Summary.rows (getSetmap fs) = some rows) :
    (∀ r ∈ rows, r.count = specCount fs r.key ∧ r.percent = (specCount fs r.key : ℚ) / (specSloc fs : ℚ) * 100) ∧
    CbiVerif.Summary.totalCount (getSetmap fs) = specSloc fs ∧
    ((∀ f ∈ files, C06C.guard f.text = true) →
      CbiVerif.Summary.totalCount (getSetmap fs) = (files.map fun f => (CLexRef.countedLines f.text).length).sum) :=
  summary_of_facts (file_lines_counted_once files plats fs h) rows hr

/-- **coverage_partition_of_text.**  The coverage export of the analysis of the texts has one record per file, and in the
    record of every file `used_lines ++ unused_lines` is a rearrangement of the lines of its nodes, WITHOUT repetition and
    with no line on both sides (`lines_partition`, its disjointness hypothesis discharged from `C05.partition`); a line is
    used iff its node carries a non-empty platform set, unused iff the empty one; and for a text inside C05's guard the
    two lists together are exactly the lines the C05 specification counts. -/
theorem coverage_partition_of_text (files : List SrcFile) (plats : List Plat) (fs : List FileRec)
    (h : analyse files plats = .ok fs) :
    CbiVerif.Cov.compute fs = fs.map (fun r => (r.path, CbiVerif.Cov.split r.nodes)) ∧
    List.Forall₂ (fun (f : SrcFile) (r : FileRec) =>
      r.path = f.path ∧
      ((CbiVerif.Cov.split r.nodes).used ++ (CbiVerif.Cov.split r.nodes).unused).Perm (CbiVerif.Cov.fileLines r.nodes) ∧
      ((CbiVerif.Cov.split r.nodes).used ++ (CbiVerif.Cov.split r.nodes).unused).Nodup ∧
      (∀ l ∈ (CbiVerif.Cov.split r.nodes).used, l ∉ (CbiVerif.Cov.split r.nodes).unused) ∧
      (∀ l, l ∈ (CbiVerif.Cov.split r.nodes).used ↔ ∃ n ∈ r.nodes, l ∈ n.lines ∧ n.plats ≠ []) ∧
      (∀ l, l ∈ (CbiVerif.Cov.split r.nodes).unused ↔ ∃ n ∈ r.nodes, l ∈ n.lines ∧ n.plats = []) ∧
      (C06C.guard f.text = true →
        ((CbiVerif.Cov.split r.nodes).used ++ (CbiVerif.Cov.split r.nodes).unused).Perm (CLexRef.countedLines f.text)))
      files fs :=
  coverage_of_facts (file_lines_counted_once files plats fs h)

/-! ## the platform sets are those of the reference preprocessor -/

/-- every compile command of the configuration is a unit the ISO C reference machine accepts silently (no structural
    diagnostic, no unterminated `#if`, no macro redefinition) — the hypothesis of `C01.analyseNodes_eq_reference` -/
def RefAcceptsAll (files : List SrcFile) (plats : List Plat) : Prop :=
  ∀ f ∈ files, ∀ p, parseSrc f.text = .ok p → ∀ pl ∈ plats, ∀ e ∈ pl.entries, e.file = f.path →
    refAccepts p.pnodes e.defs = true

/-- **platform_sets_are_reference.**  For distinct file names and a configuration whose units the reference accepts: the
    platform set of the j-th node of every file is exactly the list of platforms having a compile command for that file under
    whose `-D` list the ISO C reference machine (`PP.referenceNodes`: flat conditional stack, C's `#define`) does not skip
    node j.  (From `C01.analyseNodes_eq_reference`, for every entry of every platform.) -/
theorem platform_sets_are_reference (files : List SrcFile) (plats : List Plat) (fs : List FileRec)
    (h : analyse files plats = .ok fs) (hnd : (files.map (·.path)).Nodup) (hacc : RefAcceptsAll files plats) :
    List.Forall₂ (fun f r => ∃ p, parseSrc f.text = .ok p ∧ r.nodes.length = p.nodes.length ∧
        p.pnodes.length = p.nodes.length ∧
        r.nodes.map (·.plats) = (List.range p.nodes.length).map (specPlats plats f.path p.pnodes)) files fs := by
  obtain ⟨pr, hp⟩ := analyseG_records _ files plats fs h
  refine hp.imp fun f r ⟨p, hparse, hr, hplats⟩ => ⟨p, hparse, ?_, (parseSrc_facts f.text p hparse).payload.length_eq.symm, ?_⟩
  · rw [hr]; exact (List.length_map _).trans List.length_zipIdx
  · rw [hr]; exact mkRec_plats (hplats hnd hacc)

/-- **used_iff_reference_keeps.**  Under the same hypotheses, in the coverage record of every file a line is listed as USED
    iff it is a line of a node that some platform's reference preprocessor run does not skip: there is a platform with a
    compile command for the file under whose `-D` list the ISO C reference machine keeps the node. -/
theorem used_iff_reference_keeps (files : List SrcFile) (plats : List Plat) (fs : List FileRec)
    (h : analyse files plats = .ok fs) (hnd : (files.map (·.path)).Nodup) (hacc : RefAcceptsAll files plats) :
    List.Forall₂ (fun f r => ∃ p, parseSrc f.text = .ok p ∧
      ∀ l, l ∈ (CbiVerif.Cov.split r.nodes).used ↔
        ∃ j nd, p.nodes[j]? = some nd ∧ l ∈ nd.lines ∧
          ∃ pl ∈ plats, ∃ e ∈ pl.entries, e.file = f.path ∧ refKeeps p.pnodes e.defs j = true) files fs := by
  obtain ⟨pr, hp⟩ := analyseG_records _ files plats fs h
  exact hp.imp fun f r ⟨p, hparse, hr, hplats⟩ => ⟨p, hparse, fun l => hr ▸ mkRec_used (hplats hnd hacc) l⟩

/-- **line_attribution_is_reference.**  For distinct file names, a configuration whose units the reference accepts, and every
    file whose text is inside C05's guard: the per-line attribution of the record (`SM.lineAttr`, the list `setmap_lines` /
    `specCount` count over) is EXACTLY the attribution written from the two specifications alone (`specLineAttr`): every
    line the C05 specification counts, once, with the platforms whose ISO C reference run keeps the specification's node
    it belongs to.  Hence every row of the setmap is the number of such lines with exactly that platform list. -/
theorem line_attribution_is_reference (files : List SrcFile) (plats : List Plat) (fs : List FileRec)
    (h : analyse files plats = .ok fs) (hnd : (files.map (·.path)).Nodup) (hacc : RefAcceptsAll files plats) :
    List.Forall₂ (fun (f : SrcFile) (r : FileRec) => ∃ p, parseSrc f.text = .ok p ∧
        (C06C.guard f.text = true → lineAttr r = specLineAttr plats f p.pnodes)) files fs := by
  obtain ⟨pr, hp⟩ := analyseG_records _ files plats fs h
  exact hp.imp fun f r ⟨p, hparse, hr, hplats⟩ =>
    ⟨p, hparse, fun hg => hr ▸ lineAttr_mkRec (hplats hnd hacc) _ ((parseSrc_facts f.text p hparse).lines hg)⟩

/-- **setmap_rows_are_reference_counts.**  … and when every text is inside the guard, the row of platform set `k` in
    `get_setmap` of the texts is the number of (file, counted line) pairs whose reference attribution is exactly `k`. -/
theorem setmap_rows_are_reference_counts (files : List SrcFile) (plats : List Plat) (fs : List FileRec)
    (h : analyse files plats = .ok fs) (hnd : (files.map (·.path)).Nodup) (hacc : RefAcceptsAll files plats)
    (hg : ∀ f ∈ files, C06C.guard f.text = true) (k : Key) :
    ∃ ps, List.Forall₂ (fun (f : SrcFile) (p : Parsed) => parseSrc f.text = .ok p) files ps ∧
      get (getSetmap fs) k =
        ((files.zip ps).map fun x => (specLineAttr plats x.1 x.2.pnodes).countP fun y => y.2 = k).sum := by
  obtain ⟨ps, hps, hrows⟩ := rows_of_attr (file_lines_counted_once files plats fs h)
    (line_attribution_is_reference files plats fs h hnd hacc) hg
  exact ⟨ps, hps, (hrows k).trans (countP_flatMap_sum ..)⟩

/-! ## non-vacuity (kernel-checked): a two-file code base, two platforms, three compile commands -/

/-- decidable form of `RefAcceptsAll` -/
def refAcceptsAllb (files : List SrcFile) (plats : List Plat) : Bool :=
  files.all fun f =>
    match parseSrc f.text with
    | .ok p => plats.all fun pl => pl.entries.all fun e => !(e.file == f.path) || refAccepts p.pnodes e.defs
    | .error _ => true

theorem refAcceptsAll_of_b (files : List SrcFile) (plats : List Plat) (h : refAcceptsAllb files plats = true) :
    RefAcceptsAll files plats := by
  intro f hf p hp pl hpl e he hef
  unfold refAcceptsAllb at h
  have h1 := List.all_eq_true.mp h f hf
  simp only [hp] at h1
  have h2 := List.all_eq_true.mp (List.all_eq_true.mp h1 pl hpl) e he
  simpa [hef] using h2

/-- `src/a.c`: a comment on a code line, an `#ifdef/#else` whose else branch is a continued line, a line comment, an
    `#if B==2`; `u.h`: no platform compiles it, one blank line -/
def exSrc : List SrcFile :=
  [⟨["src", "a.c"], "int a; /* c */\n#ifdef A\nint b;\n#else\nint c; \\\n  int d;\n#endif\n// x\n#if B==2\nint e;\n#endif\n".toList⟩,
   ⟨["u.h"], "int u;\n\nint v;\n".toList⟩]

def exPlats : List Plat :=
  [⟨"cpu", [⟨["src", "a.c"], ["A"]⟩]⟩, ⟨"gpu", [⟨["src", "a.c"], ["B=2"]⟩, ⟨["src", "a.c"], ["A=1"]⟩]⟩]

/-- what the example below says about the sample code base, as a theorem: `Props/C14Metrics.lean` reads its hypotheses and
    the dict off it, so the kernel analyses the two texts once -/
theorem exSrc_facts :
    ((analyse exSrc exPlats).toOption.map fun fs => (getSetmap fs, (CbiVerif.Cov.compute fs).map fun x => (x.2.used, x.2.unused)))
      = some ([(["cpu", "gpu"], 7), (["gpu"], 3), ([], 2)], [([1, 2, 3, 4, 5, 6, 7, 9, 10, 11], []), ([], [1, 3])]) ∧
    (exSrc.all fun f => C06C.guard f.text) = true ∧ (exSrc.map (·.path)).Nodup ∧ refAcceptsAllb exSrc exPlats = true ∧
    (exSrc.map fun f => (CLexRef.countedLines f.text).length).sum = 12 := by
  -- the two texts as explicit character lists: a literal is `String.ofList` of its characters by definition, and
  -- the lemma is far cheaper than running the UTF-8 decoder behind `String.toList` in the kernel
  unfold exSrc
  rw [String.toList_ofList, String.toList_ofList]
  decide +kernel

/-- the hypotheses of all theorems above hold on it (the analysis does not raise, both texts are inside C05's guard, file names
    are distinct, the reference accepts all three units), and the result is not trivial: three platform sets, an unused file,
    an uncounted line inside a counted region -/
example :
    ((analyse exSrc exPlats).toOption.map fun fs => (getSetmap fs, (CbiVerif.Cov.compute fs).map fun x => (x.2.used, x.2.unused)))
      = some ([(["cpu", "gpu"], 7), (["gpu"], 3), ([], 2)], [([1, 2, 3, 4, 5, 6, 7, 9, 10, 11], []), ([], [1, 3])]) ∧
    (exSrc.all fun f => C06C.guard f.text) = true ∧ (exSrc.map (·.path)).Nodup ∧ refAcceptsAllb exSrc exPlats = true ∧
    (exSrc.map fun f => (CLexRef.countedLines f.text).length).sum = 12 :=
  exSrc_facts

end CbiVerif.C06
