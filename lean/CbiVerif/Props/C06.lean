import CbiVerif.Props.C06Base
import CbiVerif.Props.C06Compose
/-!
# C06 — every counted line lands in exactly one platform set; all reports agree

Umbrella module (what `lake build CbiVerif.Props.C06` builds):
* `Props/C06Base.lean` — the theorems about an analysis result (`setmap_total`, `setmap_lines`, `lines_partition`,
  `tree_sums`, `tree_root_eq_summary`, `prune_exact`, `levels_only_hide`, `levels_none_all`, `percent`,
  `summary_rows_are_line_counts`);
* `Props/C06Compose.lean` — the same statements about SOURCE TEXT: the analysis result is the composed pipeline
  C05 parser model → C01 associator per `-D` list → platform set per node, and the hypotheses of the former are discharged
  from `C05.partition` / `C05.nodes_lines` / `C05.nodes_of_ok` and `C01.analyseNodes_eq_reference`.
All theorems live in namespace `CbiVerif.C06`.
-/
