import CbiVerif.Model.Setmap
import CbiVerif.Spec.C06
import CbiVerif.Model.FileTree
import CbiVerif.Model.Coverage
import CbiVerif.Model.Summary
import CbiVerif.Lemmas.Setmap
import CbiVerif.Lemmas.FileTree
import CbiVerif.Lemmas.C06
import Mathlib.Tactic.Ring
import Mathlib.Tactic.FieldSimp
import Mathlib.Algebra.Order.Field.Basic

/-!
# C06 — every counted line lands in exactly one platform set; all reports agree

Property theorems only (helper lemmas: `CbiVerif/Lemmas/{Setmap,FileTree,C06}.lean`).
The definitions the theorems speak about (`SM.getSetmap`, `SM.fileSetmap`, `FTm.insertRoot`,
`FTm.build`, `FTm.filesTree`, `FTm.print`, `Cov.split`, `Summary.rows`) are the ones the native
driver executes against the real code (`Drv/C06.lean`).

A dict `setmap` is read through `SM.get` (the count of a key, 0 if absent) and `SM.has`
(is the key present); together with distinct keys (`nodup_*`) equality of both is dict equality.
-/
namespace CbiVerif.C06
open CbiVerif.SM CbiVerif.FTm

/-! ## the setmap: every counted line lands in exactly one platform set -/

/-- **setmap_total.**  For every analysis result (any files, any nodes):
* the row of platform set `k` is the sum of `num_lines` over the nodes of the non-symlink files whose set is
  exactly `k`, which is also the sum over the files of their own setmaps' rows (Σ setmap = Σ files Σ nodes);
* the keys are distinct and `k` is a key iff some node of a non-symlink file carries it;
* the total is the sum of the rows over the keys, and the sum of `num_lines` over all those nodes. -/
theorem setmap_total (fs : List FileRec) :
    (∀ k, get (getSetmap fs) k = ((fs.filter fun f => !f.link).map fun f => nodeSum f.nodes k).sum) ∧
    (∀ k, get (getSetmap fs) k = ((fs.filter fun f => !f.link).map fun f => get (fileSetmap f) k).sum) ∧
    (keys (getSetmap fs)).Nodup ∧
    (∀ k, has (getSetmap fs) k = (fs.filter fun f => !f.link).any fun f => f.nodes.any fun n => decide (n.plats = k)) ∧
    total (getSetmap fs) = ((keys (getSetmap fs)).map (get (getSetmap fs))).sum ∧
    total (getSetmap fs) = ((fs.filter fun f => !f.link).map fun f => (f.nodes.map (·.numLines)).sum).sum := by
  have hnd := nodup_keys_getSetmap fs
  have hget : ∀ k, get (getSetmap fs) k = ((fs.filter fun f => !f.link).map fun f => nodeSum f.nodes k).sum := fun k => by
    rw [getSetmap_eq_foldl, get_foldl_add, sum_map_flatMap]; exact Nat.zero_add _
  refine ⟨hget, fun k => (hget k).trans (congrArg _ (List.map_congr_left fun f _ => ?_)), hnd, fun k => ?_,
    total_eq_sum_get _ hnd, ?_⟩
  · exact ((get_addNodes [] f.nodes k).trans (Nat.zero_add _)).symm
  · rw [getSetmap_eq_foldl, has_foldl_add, List.any_flatMap]; exact Bool.false_or _
  · rw [getSetmap_eq_foldl, total_foldl_add, sum_map_flatMap]; exact Nat.zero_add _

/-- **setmap_lines** (the "sum over lines" reference).  When `num_lines = len(lines)` for every node, the row of `k` is
    the number of counted lines whose platform set is exactly `k`, and the total is the SLOC of the code base. -/
theorem setmap_lines (fs : List FileRec) (hwf : NodesWF fs) :
    (∀ k, get (getSetmap fs) k = specCount fs k) ∧ total (getSetmap fs) = specSloc fs := by
  have hwf' : ∀ f ∈ fs.filter (fun f => !f.link), ∀ n ∈ f.nodes, n.numLines = n.lines.length :=
    fun f hf => hwf f (List.mem_filter.mp hf).1
  constructor
  · intro k
    rw [(setmap_total fs).1 k, specCount, allLines, List.countP_flatMap]
    exact congrArg _ (List.map_congr_left fun f hf => nodeSum_eq_countP f.nodes k (hwf' f hf))
  · rw [(setmap_total fs).2.2.2.2.2, specSloc, allLines, List.length_flatMap]
    exact congrArg _ (List.map_congr_left fun f hf => numLines_sum_eq_length f.nodes (hwf' f hf))

/-- a concrete analysis result (two platforms, a symlink, an unused file) satisfying `NodesWF` -/
def exFiles : List FileRec :=
  [⟨["src", "a.c"], false, [⟨["cpu", "gpu"], 2, [1, 2]⟩, ⟨["cpu"], 1, [4]⟩, ⟨[], 1, [6]⟩]⟩,
   ⟨["src", "l.c"], true, [⟨["cpu", "gpu"], 2, [1, 2]⟩, ⟨["cpu"], 1, [4]⟩, ⟨[], 1, [6]⟩]⟩,
   ⟨["u.c"], false, [⟨[], 3, [1, 2, 3]⟩]⟩]

example : NodesWF exFiles := by decide +kernel

/-! ## the coverage export: used ⊎ unused = the counted lines of the file -/

/-- **lines_partition.**  For every node list of a file: `used_lines ++ unused_lines` is a rearrangement of all
    counted lines of the file (nothing dropped, nothing duplicated); a line is listed as used iff it belongs to a node
    whose platform set is non-empty, as unused iff it belongs to a node whose set is empty; and when the nodes' line lists
    are disjoint (the parser's invariant) no line is listed twice or on both sides. -/
theorem lines_partition (ns : List NodeRec) :
    ((CbiVerif.Cov.split ns).used ++ (CbiVerif.Cov.split ns).unused).Perm (CbiVerif.Cov.fileLines ns) ∧
    (∀ l, l ∈ (CbiVerif.Cov.split ns).used ↔ ∃ n ∈ ns, l ∈ n.lines ∧ n.plats ≠ []) ∧
    (∀ l, l ∈ (CbiVerif.Cov.split ns).unused ↔ ∃ n ∈ ns, l ∈ n.lines ∧ n.plats = []) ∧
    ((CbiVerif.Cov.fileLines ns).Nodup →
      ((CbiVerif.Cov.split ns).used ++ (CbiVerif.Cov.split ns).unused).Nodup ∧
      ∀ l, l ∈ (CbiVerif.Cov.split ns).used → l ∉ (CbiVerif.Cov.split ns).unused) := by
  rw [CbiVerif.Cov.split_eq]
  have hperm : (((ns.filter fun n => !n.plats.isEmpty).flatMap (·.lines)) ++
      ((ns.filter fun n => n.plats.isEmpty).flatMap (·.lines))).Perm (CbiVerif.Cov.fileLines ns) := by
    rw [← List.flatMap_append]
    exact List.Perm.flatMap_right _
      (List.perm_append_comm.trans (List.filter_append_perm (fun n : NodeRec => n.plats.isEmpty) ns))
  have hmem : ∀ (p : NodeRec → Bool) (l : Nat), l ∈ (ns.filter p).flatMap (·.lines) ↔ ∃ n ∈ ns, l ∈ n.lines ∧ p n = true :=
    fun p l => by
      rw [List.mem_flatMap]
      exact ⟨fun ⟨n, hn, hl⟩ => ⟨n, (List.mem_filter.mp hn).1, hl, (List.mem_filter.mp hn).2⟩,
        fun ⟨n, hn, hl, hp⟩ => ⟨n, List.mem_filter.mpr ⟨hn, hp⟩, hl⟩⟩
  refine ⟨hperm, fun l => ?_, fun l => ?_, fun hnd => ?_⟩
  · simp only [hmem, Bool.not_eq_true', List.isEmpty_eq_false_iff]
  · simp only [hmem, List.isEmpty_iff]
  · have hnd' := hperm.symm.nodup hnd
    exact ⟨hnd', fun l hu hun => (List.nodup_append.mp hnd').2.2 l hu l hun rfl⟩

example : (CbiVerif.Cov.fileLines [⟨["cpu", "gpu"], 2, [1, 2]⟩, ⟨["cpu"], 1, [4]⟩, ⟨[], 1, [6]⟩]).Nodup := by decide +kernel

/-! ## the tree: every directory is the sum of the files beneath it -/

/-- the two figures of a setmap `v` that a measure relates to the insertions `l`: the count of `k` and the presence of `k` -/
theorem figures_of_meas (v : Setmap) (l : List (Ins Setmap)) (k : Key)
    (hget : (getMeas k).μ v = msum (getMeas k) (l.map fun i => gain (getMeas k) i.v i.link))
    (hhas : (hasMeas k).μ v = msum (hasMeas k) (l.map fun i => gain (hasMeas k) i.v i.link)) :
    get v k = (l.map fun i => if i.link then 0 else get i.v k).sum ∧ has v k = l.any fun i => !i.link && has i.v k := by
  refine ⟨hget.trans (msum_get k _), hhas.trans ((msum_has k _).trans ?_)⟩
  rw [List.any_map]
  refine congrArg (List.any _) (funext fun i => ?_)
  show gain (hasMeas k) i.v i.link = (!i.link && has i.v k)
  cases i.link <;> rfl

/-- **tree_sums.**  After ANY sequence of `FileTree.insert`s of pairwise prefix-incomparable, non-empty paths
    (distinct files of one file system) into an empty tree:
1. for every directory node of the tree (the root included) and every platform set `k`, the directory's count of `k`
   is the sum of the counts of the non-symlink files listed beneath it, and `k` is one of its keys iff it is a key of
   such a file;
2. the files listed in the tree are exactly the inserted ones (with their setmaps);
3. in particular the root's setmap is the sum over all non-symlink insertions, with distinct keys. -/
theorem tree_sums (root : String) (ins : List (Ins Setmap)) (hok : PathsOK (ins.map (·.path))) :
    (∀ n v ks, T.dir n v ks ∈ nodes (build merge [] root ins) → ∀ k,
        get v k = ((leavesL [] ks).map fun i => if i.link then 0 else get i.v k).sum ∧
        has v k = (leavesL [] ks).any fun i => !i.link && has i.v k) ∧
    (leavesL [] (build merge [] root ins).kids).Perm ins ∧
    (∀ k, get (build merge [] root ins).val k = (ins.map fun i => if i.link then 0 else get i.v k).sum ∧
          has (build merge [] root ins).val k = ins.any fun i => !i.link && has i.v k) ∧
    (keys (build merge [] root ins).val).Nodup := by
  refine ⟨fun n v ks hmem k => figures_of_meas v _ k (build_nodes (getMeas k) root ins hok n v ks hmem)
      (build_nodes (hasMeas k) root ins hok n v ks hmem), (build_spec (getMeas []) root ins hok).2.2,
    fun k => figures_of_meas _ _ k (build_spec (getMeas k) root ins hok).2.1 (build_spec (hasMeas k) root ins hok).2.1, ?_⟩
  unfold build
  rw [build_val]
  exact nodup_fold_merge ins [] List.nodup_nil

/-- the paths of the example are admissible -/
example : PathsOK (exFiles.map (·.path)) := by
  unfold PathsOK Incomp
  decide +kernel

/-- **tree_root_eq_summary.**  The unpruned tree `report.files` builds for an analysis result has, at its root, the same
    dict as `get_setmap`: the same keys, the same counts. -/
theorem tree_root_eq_summary (root : String) (fs : List FileRec) (hok : PathsOK (fs.map (·.path))) :
    ∀ k, get (filesTree root false fs).val k = get (getSetmap fs) k ∧
         has (filesTree root false fs).val k = has (getSetmap fs) k := by
  intro k
  have hfilter : fs.filter (kept false) = fs := List.filter_eq_self.mpr fun f _ => kept_false f
  rw [filesTree_eq_build, hfilter]
  have hok' : PathsOK ((fs.map toIns).map (·.path)) := by rw [List.map_map]; exact hok
  obtain ⟨_, _, hroot, _⟩ := tree_sums root (fs.map toIns) hok'
  rw [(hroot k).1, (hroot k).2, (setmap_total fs).2.1 k, (setmap_total fs).2.2.2.1 k, List.map_map, List.any_map]
  refine ⟨sum_nonlink fs (fun f => SM.get (fileSetmap f) k), ?_⟩
  rw [← funext fun f => has_fileSetmap f k]
  exact any_nonlink fs (fun f => has (fileSetmap f) k)

/-! ## `--prune` and `--levels` -/

/-- **prune_exact.**  The pruned tree is the unpruned tree of exactly the files some platform uses
    (`usedFile`: some node of the file is associated with a platform); consequently (for admissible paths) the files it
    lists are exactly those, each with its own setmap, and every figure obeys `tree_sums`. -/
theorem prune_exact (root : String) (fs : List FileRec) :
    filesTree root true fs = filesTree root false (fs.filter usedFile) ∧
    (∀ f, usedFile f = true ↔ ∃ n ∈ f.nodes, n.plats ≠ []) ∧
    (PathsOK (fs.map (·.path)) →
      (leavesL [] (filesTree root true fs).kids).Perm ((fs.filter usedFile).map toIns)) := by
  have hk : fs.filter (kept true) = fs.filter usedFile := congrArg (List.filter · fs) (funext kept_true)
  have hk2 : (fs.filter usedFile).filter (kept false) = fs.filter usedFile :=
    List.filter_eq_self.mpr fun f _ => kept_false f
  refine ⟨?_, fun f => ?_, fun hok => ?_⟩
  · rw [filesTree_eq_build, filesTree_eq_build, hk, hk2]
  · unfold usedFile
    simp only [List.any_eq_true, Bool.not_eq_true', List.isEmpty_eq_false_iff]
  · rw [filesTree_eq_build, hk]
    have hsl : ((fs.filter usedFile).map (·.path)).Sublist (fs.map (·.path)) := List.filter_sublist.map _
    refine (tree_sums root _ ?_).2.1
    rw [List.map_map]
    exact ⟨fun p hp => hok.1 p (hsl.subset hp), hok.2.sublist hsl⟩

/-- **levels_only_hide.**  For every tree and every `levels`: the rows printed with `levels = L` are the rows printed
    without a limit, filtered by `depth ≤ L` — the same rows, in the same order, with the same connectors and figures.
    (`L = 0` is Python-falsy and hides nothing; `cbi-tree` rejects it.) -/
theorem levels_only_hide {V : Type} (t : T V) (L : Nat) :
    print (some L) t = (print none t).filter (fun r => L == 0 || decide (r.depth ≤ L)) := by
  unfold print
  rw [(print_hide (some L)).1 t 0 "" "" true]
  refine congrArg (List.filter · _) (funext fun r => ?_)
  show (!((!(L == 0)) && decide (r.depth > L))) = _
  rw [Bool.not_and, Bool.not_not, ← decide_not]
  exact congrArg (L == 0 || ·) (decide_eq_decide.mpr Nat.not_lt)

/-- **levels_none_all.**  With a limit `L ≠ 0` the rows printed are exactly the rows of the unlimited print of depth `≤ L`. -/
theorem levels_none_all {V : Type} (t : T V) (L : Nat) (hL : L ≠ 0) :
    ∀ r, r ∈ print (some L) t ↔ r ∈ print none t ∧ r.depth ≤ L := by
  intro r
  rw [levels_only_hide, List.mem_filter, beq_false_of_ne hL, Bool.false_or, decide_eq_true_eq]

/-! ## the summary table -/

theorem sum_div_mul (l : List (Key × Nat)) (T : ℚ) :
    (l.map fun e => (e.2 : ℚ) / T * 100).sum = (((l.map (·.2)).sum : ℕ) : ℚ) / T * 100 := by
  induction l with
  | nil => simp
  | cons e l ih => rw [List.map_cons, List.sum_cons, ih, List.map_cons, List.sum_cons, Nat.cast_add, add_div, add_mul]

/-- **percent.**  Whenever `summary` prints a table (`rows sm = some rows`; it raises `ZeroDivisionError` exactly when
    the setmap is non-empty with total 0):
* the rows are the items of the setmap, each exactly once (a rearrangement), named `{p1, p2, …}` with sorted names;
* every row's percentage is `count / total * 100` as a rational, where `total = sum(setmap.values())`;
* `Total SLOC` is that total;
* with a non-zero total the percentages add up to 100;
* with distinct keys a row's count is the dict's value for its key. -/
theorem percent (sm : Setmap) (rows : List CbiVerif.Summary.Row) (h : CbiVerif.Summary.rows sm = some rows) :
    (rows.map fun r => (r.key, r.count)).Perm sm ∧
    (∀ r ∈ rows, r.percent = (r.count : ℚ) / (total sm : ℚ) * 100 ∧ r.name = CbiVerif.Summary.rowName r.key) ∧
    CbiVerif.Summary.totalCount sm = total sm ∧
    (total sm ≠ 0 → (rows.map (·.percent)).sum = 100) ∧
    ((keys sm).Nodup → ∀ r ∈ rows, r.count = get sm r.key) := by
  unfold CbiVerif.Summary.rows at h
  split at h
  · exact absurd h (by simp)
  · have hrows : rows = (sm.mergeSort CbiVerif.Summary.keyLe).map (CbiVerif.Summary.mkRow (total sm)) :=
      (Option.some.inj h).symm
    have hperm : (sm.mergeSort CbiVerif.Summary.keyLe).Perm sm := List.mergeSort_perm sm _
    have hitems : (rows.map fun r => (r.key, r.count)) = sm.mergeSort CbiVerif.Summary.keyLe := by
      rw [hrows, List.map_map]
      exact List.map_id _
    have htot : CbiVerif.Summary.totalCount sm = total sm := by
      unfold CbiVerif.Summary.totalCount total CbiVerif.Metrics.total
      exact (hperm.map _).sum_nat
    refine ⟨hitems ▸ hperm, ?_, htot, ?_, ?_⟩
    · intro r hr
      rw [hrows] at hr
      obtain ⟨e, _, rfl⟩ := List.mem_map.mp hr
      exact ⟨rfl, rfl⟩
    · intro hne
      rw [hrows, List.map_map]
      refine (sum_div_mul _ (total sm)).trans ?_
      rw [show ((sm.mergeSort CbiVerif.Summary.keyLe).map (·.2)).sum = total sm from htot,
        div_self (mt Rat.natCast_eq_zero_iff.mp hne), one_mul]
    · intro hnd r hr
      have hmem : (r.key, r.count) ∈ sm.mergeSort CbiVerif.Summary.keyLe :=
        hitems ▸ List.mem_map_of_mem (f := fun r : CbiVerif.Summary.Row => (r.key, r.count)) hr
      exact (get_of_mem sm hnd (hperm.mem_iff.mp hmem)).symm

example : CbiVerif.Summary.rows [(["cpu"], 2), ([], 4)] ≠ none := by decide +kernel

/-- **summary_rows_are_line_counts** (end to end).  For an analysis result with `num_lines = len(lines)`: every row the
    summary prints for `get_setmap` shows the number of counted lines whose platform set is exactly the row's set, as
    `count / SLOC * 100` percent, and `Total SLOC` is the number of counted lines of the code base. -/
theorem summary_rows_are_line_counts (fs : List FileRec) (hwf : NodesWF fs) (rows : List CbiVerif.Summary.Row)
    (h : CbiVerif.Summary.rows (getSetmap fs) = some rows) :
    (∀ r ∈ rows, r.count = specCount fs r.key ∧ r.percent = (specCount fs r.key : ℚ) / (specSloc fs : ℚ) * 100) ∧
    CbiVerif.Summary.totalCount (getSetmap fs) = specSloc fs := by
  obtain ⟨_, hp, ht, _, hc⟩ := percent (getSetmap fs) rows h
  obtain ⟨hrow, htotal⟩ := setmap_lines fs hwf
  refine ⟨fun r hr => ?_, by rw [ht, htotal]⟩
  have h1 : r.count = specCount fs r.key := by rw [hc (setmap_total fs).2.2.1 r hr, hrow]
  exact ⟨h1, by rw [(hp r hr).1, h1, htotal]⟩

end CbiVerif.C06
