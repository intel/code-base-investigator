import CbiVerif.Lemmas.Argv
import CbiVerif.Lemmas.ArgvSweep
import CbiVerif.Lemmas.ArgvPositional
import CbiVerif.Spec.Unrecognised
/-! # C11 (full parser) — `parse_known_args` as written: positionals, extras, classes of abort

Objects:
* `ArgparseFull.fullModel` — `_parse_known_args` of CPython 3.12.1 followed function by function (up-front
  `O`/`A`/`-` pattern, `consume_positionals` with the single `file` positional, `consume_optional`,
  `_match_argument`, extras, `ArgumentError` vs `parser.error()`), for the generated option table; the driver op
  `c11full` runs it against the real parser *including* `namespace.file` and the extras list;
* `Argparse.argparseModel` / `Argparse.parseKnown` — the left-to-right model `C11.main` is about;
* `ArgvSweep.sweep` — the one-pass form of the full model (proof device, `Lemmas/ArgvSweep.lean`);
* `Extract.lists` / `Extract.Tame` — the property-level extractor and the complement of the recorded classes.
-/
namespace CbiVerif.C11Full
open CbiVerif.Argparse CbiVerif.ArgparseFull CbiVerif.Extract CbiVerif.ArgvLemmas

abbrev Argv := List (List Char)

/-- **full_refines_lr** — for every option table of the supported kinds and every command line the full model's
four value lists are exactly the left-to-right model's, and the two fail on the same command lines with the same
class of abort (no "where neither fails" restriction). -/
theorem full_refines_lr (t : List Opt) (argv : Argv) :
    (parseFull t argv).map FResult.cfg = parseKnown t argv :=
  ArgvSweep.parseFull_cfg t argv

/-- hence the configuration assembled from the full model is the one `C11.main` speaks about -/
theorem full_configuration_eq (argv : Argv) : fullConfiguration argv = argparseModel argv := by
  unfold fullConfiguration
  rw [ArgvSweep.fullModel_eq, argparseModel_eq, ← full_refines_lr]
  cases parseFull T argv <;> rfl

/-- **the index loop is a one-pass scan**: positionals go to `file` during the first run of non-options and to
`extras` afterwards, an unknown option string goes to `extras`, an option string ends the first run. -/
theorem full_eq_onepass (t : List Opt) (argv : Argv) (toks : List Tok) (h : tokenize t argv = .ok toks)
    (hu : t.any (fun o => o.kind == .unsupported) = false) :
    parseFull t argv = ArgvSweep.sweep .idle ⟨{}, .pending, []⟩ toks :=
  ArgvSweep.parseFull_eq_sweep t argv toks h hu

example : tokenize table ["a.c".toList, "-DX".toList, "-Wall".toList, "b.c".toList] =
      .ok [.A "a.c".toList, .O "-DX".toList (.opt oD (some "X".toList)), .O "-Wall".toList .unknown, .A "b.c".toList] ∧
    (table.any fun o => o.kind == .unsupported) = false := by decide +kernel

/-- **main_full** — on every tame command line the full parser model does not abort and its four value lists
(`-I` and `-isystem` directories separately) are exactly the property-level extractor's, in command-line order. -/
theorem main_full (argv : Argv) (h : Tame argv) :
    ∃ r, fullModel argv = .ok r ∧ r.cfg = toCfg (lists argv) := by
  have hf := full_refines_lr T argv
  rw [parseKnown_tame argv h] at hf
  rw [ArgvSweep.fullModel_eq]
  cases hp : parseFull T argv with
  | error e => rw [hp] at hf; cases hf
  | ok r => rw [hp] at hf; exact ⟨r, rfl, Except.ok.inj hf⟩

/-- non-vacuity of `main_full`, and a look at everything the model returns on a realistic line: the first run of
positionals is `file`, later positionals and unknown options are `extras`, `-c` swallows `main.c`. -/
example :
    let argv : Argv := ["a.c".toList, "-O2".toList, "-Wall".toList, "-DA=1".toList, "-I".toList, "inc dir".toList,
      "-isystem".toList, "/sys".toList, "-MF".toList, "x.d".toList, "-include".toList, "pre.h".toList,
      "-c".toList, "main.c".toList, "-o".toList, "out.o".toList, "b.c".toList]
    Tame argv ∧ fullModel argv = .ok ⟨[.str "A=1".toList], [.str "inc dir".toList], [.str "/sys".toList],
      [.str "pre.h".toList], ["a.c".toList], ["-Wall".toList, "-MF".toList, "x.d".toList, "b.c".toList]⟩ := by
  decide +kernel

/-- the abort classes: `ArgumentError` (raised, `exit_on_error=False`) and `SystemExit` (`parser.error()`, taken
during the up-front pass, before any action and whatever precedes) -/
example : fullModel ["-DA".toList, "-I".toList, "-x".toList] = .error .argumentError ∧
    fullModel ["-D".toList, "-x".toList, "-i".toList] = .error .systemExit ∧
    fullModel ["-o".toList, "--".toList, "x".toList] = .error .argumentError ∧
    fullModel ["--".toList, "-i".toList, "-D".toList] =
      .ok ⟨[], [], [], [], ["-i".toList, "-D".toList], []⟩ ∧
    fullModel ["x.c".toList, "-DA".toList, "--".toList, "-DB".toList] =
      .ok ⟨[.str "A".toList], [], [], [], ["x.c".toList], ["--".toList, "-DB".toList]⟩ := by decide +kernel

/-! ### positionals -/

theorem not_waiting {xs : Argv} (hw : waitsForValue xs = false) (d : Act) (c : Cfg) :
    stateAfter T .idle {} xs ≠ .ok (.need d, c) ∧ stateAfter T .idle {} xs ≠ .ok (.needIgn, c) := by
  unfold waitsForValue at hw
  rw [table_eq] at hw
  constructor <;> intro e <;> simp [e] at hw

/-- **positionals_never_disturb** — inserting any number of positional arguments (empty, or not starting with `-`)
at any place of a command line that is not between an option and its required argument leaves the four value
lists unchanged — and does not turn a parse into an abort or vice versa.  No tameness assumed. -/
theorem positionals_never_disturb (xs ps ys : Argv) (hps : ∀ p ∈ ps, plainPositional p = true)
    (hw : waitsForValue xs = false) :
    (fullModel (xs ++ ps ++ ys)).map FResult.cfg = (fullModel (xs ++ ys)).map FResult.cfg := by
  rw [ArgvSweep.fullModel_eq, ArgvSweep.fullModel_eq, full_refines_lr, full_refines_lr]
  exact ArgvPositional.parseKnown_insert T xs ps ys hps (not_waiting hw)

example :
    let xs : Argv := ["-DA".toList, "-O".toList]
    let ps : Argv := ["x.c".toList, "".toList, "dir/y z.c".toList]
    let ys : Argv := ["-I".toList, "inc".toList, "-Wall".toList]
    (∀ p ∈ ps, plainPositional p = true) ∧ waitsForValue xs = false ∧
    (fullModel (xs ++ ps ++ ys)).map FResult.cfg = .ok ⟨[.str "A".toList], [.str "inc".toList], [], []⟩ := by
  decide +kernel

/-- between an option and its required argument a positional *is* the argument (the hypothesis is needed) -/
example : waitsForValue ["-D".toList] = true ∧
    (fullModel (["-D".toList] ++ ["p".toList] ++ ["X".toList])).map FResult.cfg ≠
      (fullModel (["-D".toList] ++ ["X".toList])).map FResult.cfg := by decide +kernel

/-- the same for the configuration handed to the preprocessor -/
theorem positionals_never_disturb_configuration (xs ps ys : Argv) (hps : ∀ p ∈ ps, plainPositional p = true)
    (hw : waitsForValue xs = false) :
    argparseModel (xs ++ ps ++ ys) = argparseModel (xs ++ ys) := by
  rw [argparseModel_eq, argparseModel_eq, ArgvPositional.parseKnown_insert T xs ps ys hps (not_waiting hw)]

/-! ### extras -/

/-- **extras_are_exactly_unrecognised**, full statement: on a tame command line the extras list is exactly the
unrecognised arguments and `namespace.file` exactly the first run of operands, as the reference reading
`Unrecognised.leftover` (vocabulary of the property-level extractor) lists them, in order.
Proved in `Props/C11Extras.lean` (`extras_are_exactly_unrecognised`); the reference reading is also *tested* by the
`leftover` oracle of `harness/props/c11.py` against the real parser on every tame vector of the exhaustive and
random streams. -/
def ExtrasAreExactlyUnrecognised : Prop :=
  ∀ argv : Argv, Tame argv → ∃ r, fullModel argv = .ok r ∧
    r.extras = (Unrecognised.leftover argv).extras ∧ r.file = (Unrecognised.leftover argv).file

/-- the part that needs no tameness: for **every** command line (tame or not) that passes the up-front pass, what `fullModel` returns —
in particular `extras` and `file` — is what the one-pass rule `ArgvSweep.sweep` produces from the parser's own
classification: a positional goes to `file` during the first run of non-options and to `extras` afterwards, an
unknown option string goes to `extras`, every option string ends the first run, an argument taken by an option goes
nowhere.  The full statement adds the per-argument link "model's classification = `Unrecognised.shape`" on tame
lines (`ArgvExtras.link_single`). -/
theorem extras_are_exactly_unrecognised_partial (argv : Argv) (toks : List Tok)
    (h : tokenize table argv = .ok toks) :
    fullModel argv = ArgvSweep.sweep .idle ⟨{}, .pending, []⟩ toks := by
  rw [ArgvSweep.fullModel_eq]
  exact full_eq_onepass T argv toks (table_eq ▸ h) T_supported

/-- an instance of the full statement (and non-vacuity of the partial one) -/
example :
    let argv : Argv := ["a.c".toList, "-O2".toList, "-Wall".toList, "-DA=1".toList, "-MF".toList, "x.d".toList,
      "-c".toList, "main.c".toList, "-o".toList, "out.o".toList, "b.c".toList, "-1".toList, "--weird x".toList]
    Tame argv ∧ (∃ toks, tokenize table argv = .ok toks) ∧
    (fullModel argv).map (fun r => (r.file, r.extras)) =
      .ok ((Unrecognised.leftover argv).file, (Unrecognised.leftover argv).extras) ∧
    (Unrecognised.leftover argv).extras =
      ["-Wall".toList, "-MF".toList, "x.d".toList, "b.c".toList, "-1".toList, "--weird x".toList] := by
  -- the tokens exist because the line is tame; everything else is one evaluation
  refine (fun h => ⟨h.1, ?_, h.2⟩ : _ ∧ _ → _) (by decide +kernel)
  exact (ArgvSweep.tokenize_ambiguous table _).2 (by rw [table_eq]; exact not_ambiguous _ h.1)

end CbiVerif.C11Full
