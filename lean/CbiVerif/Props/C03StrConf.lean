import CbiVerif.Props.C03Stringify
import CbiVerif.Lemmas.MacroStrSpec
/-! # C03 — `#` against the specification: `Lexer.stringify` and `MacroFunction.replace` conform to C11 6.10.3.1 / 6.10.3.2

Part of the open statement `StrcatConformsFull` (`Props/C03Strcat.lean`): its non-recursive component.  Model `M` = `PP.stringify`
and `MX.replaceFn` (what `MX.strcatPass` / `MX.cbiExpand` execute for `# param`; the recursion around them is discharged by
`strcat_partial`); specification `S` = `Spec.Prosser.stringize` and `Spec.Prosser.subst` on the same tokens seen as specification
tokens (`MX.toSpec []`).

* `stringify_conforms` (full, for the argument class `StrArgOk`): whenever the specification assigns a string literal to `# param`,
  `Lexer.stringify` returns that token (kind, spelling, white-space flag).  Two independent components are compared
  (`Lemmas/MacroStrSpec.lean`): the spelling between the quotes (`sanitized_str` and the blank rule against `escapeLit` and the blank
  rule of 6.10.3.2p2, `specBody_eq`) and the two lexers on `"` + spelling + `"` (`lexString_of_lexQuoted`);
* `tokenizeOne_in_class`, `tokenize_in_class`, `stringify_conforms_lexed`: every token the lexer makes is in the class `tokOk`, so
  lexed arguments are in `StrArgOk` and no hypothesis is left;
* `D45_fixed`, `D45_fixed_stringify`: finding D45 (a string literal or `#` spelling that ends in an escaped backslash) is repaired —
  `StrArgOk` says nothing about a final backslash, `lexString_of_lexQuoted` nothing about the last character;
* `replaceFn_hash_conforms_partial`: replacement lists with `#` and without `##` — `replace` and `subst` return the same tokens
  whenever both return; `replaceFn_hash_total_partial`: under `replaceReady`, `replace` returns whenever `subst` does;
  `hex_identity` discharges its hypothesis about the "complete macro expansion" for arguments without macro names;
  `ReplaceFnConformsFull` (open, kept visible): the same with `##`.
The driver ops `c03stringify` / `c03replace` (`Drv/C03StrConf.lean`) evaluate exactly these definitions; `harness/props/c03_strconf.py`
compares the real code with them and with the specification. -/
namespace CbiVerif.C03
open CbiVerif.PP CbiVerif.MX CbiVerif.MX.StrSpec
open CbiVerif.Spec.Prosser (T K stringize lexOne lexQuoted)

theorem strBody_eq_match (ts : List Tok) : strBody ts = bodyOf ts := by
  cases ts <;> rfl

/-- **`#` conforms to C11 6.10.3.2p2**: for every argument of the class `StrArgOk`, whenever the specification assigns a string
    literal to `# param` (the spelling is a valid string literal — otherwise the behaviour is undefined), `Lexer.stringify` returns
    a token, and it is that token: same kind, same spelling, same white-space flag. -/
theorem stringify_conforms (ts : List Tok) (st : T) (hok : StrArgOk ts)
    (hspec : stringize (ts.map (toSpec [])) = .ok st) :
    ∃ t, stringify ts = some t ∧ toSpec [] t = st := by
  unfold stringize at hspec
  rw [specBody_eq ts hok, ← strBody_eq_match] at hspec
  have hl : ("\"" ++ strBody ts ++ "\"").toList = '"' :: ((strBody ts).toList ++ ['"']) := by
    simp [String.toList_append, q1]
  rw [stringify_spelling ts, hl]
  simp only [hl] at hspec
  split at hspec
  · next t hlex =>
    split at hspec
    · cases hspec
      obtain ⟨t', h1, h2⟩ := tokenizeOne_of_lexOne_quote _ _ hlex
      exact ⟨t', by rw [h1]; rfl, h2⟩
    · cases hspec
  · cases hspec

/-- **every token the lexer makes is in the class**: `Lexer.tokenize_one` (arguments, replacement lists, the results of `#` and
    `##` are made of its tokens) and `Lexer.tokenize` never produce a string literal with an unescaped `"` in its text -/
theorem tokenizeOne_in_class (s : List Char) (pw : Bool) (t : Tok) (r : List Char) (h : tokenizeOne s pw = some (t, r)) :
    tokOk t = true := tokenizeOne_tokOk s pw t r h

theorem tokenize_in_class (text : String) : ∀ t ∈ tokenize text, tokOk t = true := tokenize_tokOk text

/-- **`#` conforms, arguments made by the lexer**: no hypothesis about the argument is left -/
theorem stringify_conforms_lexed (text : String) (st : T)
    (hspec : stringize ((tokenize text).map (toSpec [])) = .ok st) :
    ∃ t, stringify (tokenize text) = some t ∧ toSpec [] t = st :=
  stringify_conforms _ st (tokenize_in_class text) hspec

/-- non-vacuity: an argument with repeated blanks, a string literal with an escaped quote and a character constant `'\\'` is in
    the class, and the specification assigns it a string literal -/
example : StrArgOk (tokenize "a  + \"q\\\"\" '\\\\'") ∧
    (stringize ((tokenize "a  + \"q\\\"\" '\\\\'").map (toSpec []))).toOption.map (·.text)
      = some "\"a + \\\"q\\\\\\\"\\\" '\\\\\\\\'\"" := by rw [tokenize_ofList]; decide +kernel

/-- the same for the empty argument and for a backslash that is not the last character (`a \\ b`) -/
example : StrArgOk [] ∧ (stringize []).toOption.map (·.text) = some "\"\"" ∧ StrArgOk (tokenize "a \\\\ b") ∧
    (stringize ((tokenize "a \\\\ b").map (toSpec []))).toOption.map (·.text) = some "\"a \\\\ b\"" := by rw [tokenize_ofList]; decide +kernel

/-- **finding D45 repaired, `#` operands**: an argument whose spelling ends in a backslash (`\\\\`: two stray backslashes; `a \\\\`)
    is in the class `StrArgOk`; model = specification: `"\\\\"` is one string literal (before the repair `Lexer.stringify` returned the
    punctuator `"`, because `Lexer.string_constant` paired a backslash only with a following `"` and read the closing quote as escaped) -/
theorem D45_fixed_stringify :
    (stringize ((tokenize "\\\\").map (toSpec []))).toOption.map (·.text) = some "\"\\\\\"" ∧
    (stringify (tokenize "\\\\")).map spellTok = some "\"\\\\\"" ∧ StrArgOk (tokenize "\\\\") ∧
    (stringify (tokenize "a \\\\")).map spellTok = some "\"a \\\\\"" := by rw [tokenize_ofList, tokenize_ofList]; decide +kernel

/-- **finding D45 repaired, well-formed input**: a string literal that ends in an escaped backslash (`"a\\\\"`) is one token for
    `Lexer.string_constant` as for the specification (and gcc); under `#` its quotes and backslashes are escaped; `"a\\\\\\"b"` and
    `"\\\\\\\\"` likewise.  (Before the repair: `"`, `a`, `\\`, `\\`, `"`, `x`, and `""` under `#`.) -/
theorem D45_fixed :
    expandText [] [] "\"a\\\\\" x" = .ok ["\"a\\\\\"", "x"] ∧
    specText [] "\"a\\\\\" x" = some ["\"a\\\\\"", "x"] ∧
    expandText [] ["STR(x) #x"] "STR(\"a\\\\\")" = .ok ["\"\\\"a\\\\\\\\\\\"\""] ∧
    specText ["STR(x) #x"] "STR(\"a\\\\\")" = some ["\"\\\"a\\\\\\\\\\\"\""] ∧
    expandText [] [] "\"a\\\\\\\"b\" \"\\\\\\\\\" y" = .ok ["\"a\\\\\\\"b\"", "\"\\\\\\\\\"", "y"] ∧
    specText [] "\"a\\\\\\\"b\" \"\\\\\\\\\" y" = some ["\"a\\\\\\\"b\"", "\"\\\\\\\\\"", "y"] :=
  ⟨(expandText_ofChars [] [] _).trans (by decide +kernel), (specText_ofChars [] _).trans (by decide +kernel),
   (expandText_ofChars [] [_] _).trans (by decide +kernel), (specText_ofChars [_] _).trans (by decide +kernel),
   (expandText_ofChars [] [] _).trans (by decide +kernel), (specText_ofChars [] _).trans (by decide +kernel)⟩

/-! ## `MacroFunction.replace` against `Spec.Prosser.subst`: replacement lists with `#`, without `##` -/
open CbiVerif.Spec.Prosser (subst Unspec)

/-- **what remains open** (kept visible, not claimed): the same statement for every replacement list, `##` included (it needs the
    two lexers to agree on pasted spellings: `PP.tokenizeOne` against `Spec.Prosser.lexOne` in `glue`) -/
def ReplaceFnConformsFull : Prop :=
  ∀ (m : Macro) (params : List String) (ia : List Arg) (ex : List T → Except Unspec (List T)) (r : List Tok) (out : List T),
    m.args = some params → m.variadic = false → m.hasStrcat = true →
    (∀ t ∈ m.replacement, (t.text = "#" ∨ t.text = "##") → kindOf t.kind = .punct) →
    (∀ a ∈ ia, StrArgOk a.raw) →
    (∀ a ∈ ia, ∀ e, a.exp = some e → ∃ eS, ex (a.raw.map (toSpec [])) = .ok eS ∧ eS.map er = e.map (toSpec [])) →
    replaceFn m ia = .ok r →
    subst ex (some params) (ia.map fun a => a.raw.map (toSpec [])) (m.replacement.length + 1) (m.replacement.map (toSpec [])) [] false
      = .ok out →
    out.map er = r.map (toSpec [])

/-- **`replace` conforms to C11 6.10.3.1 / 6.10.3.2 on replacement lists with `#` and without `##`**: for a function-like,
    non-variadic macro whose replacement list holds no `##` and spells `#` only as an operator token (`hashBodyTok`; the other case is
    finding D42), for arguments of the class `StrArgOk`, and for any "complete macro expansion" `ex` of the specification that
    agrees with the pre-expansions the expander hands over (kinds, spellings, white space): whenever `MacroFunction.replace`
    returns a token list and `Spec.Prosser.subst` (run with the fuel `Spec.Prosser.expand` grants) returns one, they are the same
    tokens — kind, spelling and white-space flag of every token (hide sets, which only the specification has, are forgotten). -/
theorem replaceFn_hash_conforms_partial (m : Macro) (params : List String) (ia : List Arg)
    (ex : List T → Except Unspec (List T)) (r : List Tok) (out : List T)
    (hargs : m.args = some params) (hvar : m.variadic = false) (hcat : m.hasStrcat = true)
    (hbody : ∀ t ∈ m.replacement, hashBodyTok t = true)
    (hstrargs : ∀ a ∈ ia, StrArgOk a.raw)
    (hex : ∀ a ∈ ia, ∀ e, a.exp = some e → ∃ eS, ex (a.raw.map (toSpec [])) = .ok eS ∧ eS.map er = e.map (toSpec []))
    (hm : replaceFn m ia = .ok r)
    (hs : subst ex (some params) (ia.map fun a => a.raw.map (toSpec [])) (m.replacement.length + 1)
      (m.replacement.map (toSpec [])) [] false = .ok out) :
    out.map er = r.map (toSpec []) := by
  rw [replaceFn_strcat m params ia hargs hvar hcat] at hm
  cases hp : strcatPass params ia (m.replacement.length + 1) m.replacement [] false false false with
  | error e => rw [hp] at hm; cases hm
  | ok res' =>
    rw [hp] at hm
    obtain ⟨add, ob, rfl, rfl, h3⟩ := (hash_aux ex params ia _ rfl
      (fun i a st ha hz => stringify_conforms a.raw st (hstrargs a (List.mem_of_getElem? ha)) hz)
      (m.replacement.length + 1) m.replacement [] false false [] (m.replacement.length + 1) out hbody
      (Nat.lt_succ_self _) (Nat.lt_succ_self _) hs).2 res' hp
    exact h3 hex r hm

/-- **`replace` returns whenever the specification does, and returns the same** (replacement lists with `#`, without `##`): under
    the hypotheses of `replaceFn_hash_conforms_partial` and `replaceReady` (every `#` is followed by a parameter — a constraint of
    C11 6.10.3.2p1 —, every parameter has its argument, a parameter used outside `#` comes with its pre-expansion), if
    `Spec.Prosser.subst` returns `out` then `MacroFunction.replace` returns a token list, and it is `out` (kinds, spellings,
    white-space flags) -/
theorem replaceFn_hash_total_partial (m : Macro) (params : List String) (ia : List Arg)
    (ex : List T → Except Unspec (List T)) (out : List T)
    (hargs : m.args = some params) (hvar : m.variadic = false) (hcat : m.hasStrcat = true)
    (hbody : ∀ t ∈ m.replacement, hashBodyTok t = true)
    (hstrargs : ∀ a ∈ ia, StrArgOk a.raw)
    (hex : ∀ a ∈ ia, ∀ e, a.exp = some e → ∃ eS, ex (a.raw.map (toSpec [])) = .ok eS ∧ eS.map er = e.map (toSpec []))
    (hready : replaceReady params ia (m.replacement.length + 1) m.replacement = true)
    (hs : subst ex (some params) (ia.map fun a => a.raw.map (toSpec [])) (m.replacement.length + 1)
      (m.replacement.map (toSpec [])) [] false = .ok out) :
    ∃ r, replaceFn m ia = .ok r ∧ out.map er = r.map (toSpec []) := by
  obtain ⟨add, rb, h1, h2⟩ := (hash_aux ex params ia _ rfl
    (fun i a st ha hz => stringify_conforms a.raw st (hstrargs a (List.mem_of_getElem? ha)) hz)
    (m.replacement.length + 1) m.replacement [] false false [] (m.replacement.length + 1) out hbody
    (Nat.lt_succ_self _) (Nat.lt_succ_self _) hs).1 hready
  have hm : replaceFn m ia = .ok rb := by rw [replaceFn_strcat m params ia hargs hvar hcat, h1]; exact h2
  exact ⟨rb, hm, replaceFn_hash_conforms_partial m params ia ex rb out hargs hvar hcat hbody hstrargs hex hm hs⟩

/-- arguments handed over with their own tokens as pre-expansion, against the identity as "complete macro expansion" (what both
    sides do when the arguments hold no macro names): the hypothesis about `ex` holds -/
theorem hex_identity (raws : List (List Tok)) :
    ∀ a ∈ raws.map (fun ts => (⟨ts, some ts⟩ : Arg)), ∀ e, a.exp = some e →
      ∃ eS, (fun x => (Except.ok x : Except Unspec (List T))) (a.raw.map (toSpec [])) = .ok eS ∧ eS.map er = e.map (toSpec []) := by
  intro a ha e he
  simp only [List.mem_map] at ha
  obtain ⟨ts, _, rfl⟩ := ha
  cases he
  exact ⟨_, rfl, by simp [er, toSpec]⟩

/-- the decidable hypotheses of `replaceFn_hash_conforms_partial` and `replaceFn_hash_total_partial` on a concrete definition and
    concrete argument texts (lexer and `#define` parser included; arguments as in `hex_identity`), both sides successful with the
    spellings `expect` -/
def inHashFragment (defn : String) (argTexts : List String) (expect : List String) : Bool :=
  match defineLine ("#define " ++ defn) with
  | .ok m =>
    let ia : List Arg := (argTexts.map tokenize).map fun ts => ⟨ts, some ts⟩
    m.args.isSome && !m.variadic && m.hasStrcat && m.replacement.all hashBodyTok && ia.all (fun a => decide (StrArgOk a.raw)) &&
      replaceReady (m.args.getD []) ia (m.replacement.length + 1) m.replacement &&
      (match replaceFn m ia with | .ok r => r.map spellTok == expect | _ => false) &&
      (match subst (fun x => .ok x) m.args (ia.map fun a => a.raw.map (toSpec [])) (m.replacement.length + 1)
          (m.replacement.map (toSpec [])) [] false with
       | .ok out => out.map (·.text) == expect | _ => false)
  | .error _ => false

/-- non-vacuity: `#` twice, a parameter used plainly and under `#`, blanks and literals in the arguments -/
example : inHashFragment "M(x,y) #x y + x #y" ["a  +  'c'", "\"s\\n\" 1"]
    ["\"a + 'c'\"", "\"s\\n\"", "1", "+", "a", "+", "'c'", "\"\\\"s\\\\n\\\" 1\""] = true := by decide +kernel

end CbiVerif.C03
