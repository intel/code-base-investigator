import CbiVerif.Lemmas.GitIgnore
import CbiVerif.Model.GitIgnoreCB
import CbiVerif.Props.C09

/-!
# C09 — the exclude patterns have git's `.gitignore` semantics (pattern language inside the model)

Property theorems about the executable reference `Spec/GitIgnore.lean` (the definitions the driver op
`gitignore` runs and that are compared with `git check-ignore` and with `pathspec` on every run), and the
instantiation of `C09.member_iff` / `C09.iter_exact` with this concrete matcher.
Helper lemmas: `Lemmas/GitIgnore.lean`.  Paths are lists of components, components and lines are lists of
characters (bytes, see `GitIgnore.enc`); `d` says whether the path is a directory.
-/
namespace CbiVerif.C09
open CbiVerif.GitIgnore

/-- a name that can be written into an ignore file as it is: no glob syntax (`* ? [ \`), no `/`, not empty,
no leading `#` or `!`, no trailing blank -/
structure PlainName (s : Chars) : Prop where
  nonempty : s ≠ []
  noSyntax : ∀ c ∈ s, isSpecial c = false ∧ c ≠ '/'
  noMark : s.head? ≠ some '#' ∧ s.head? ≠ some '!'
  noTrailingBlank : s.getLast? ≠ some ' '

example : PlainName "a b.c".toList := ⟨by decide +kernel, by decide +kernel, by decide +kernel, by decide +kernel⟩

private theorem plain_noSlash {s : Chars} (h : PlainName s) : '/' ∉ s := fun hm => (h.noSyntax _ hm).2 rfl

private theorem plain_clean {s : Chars} (h : PlainName s) : Clean s :=
  ⟨fun c hc hE => by have := (h.noSyntax c hc).1; rw [hE] at this; exact absurd this (by decide), h.nonempty, h.noTrailingBlank⟩

private theorem plain_stripDir {s : Chars} (h : PlainName s) : stripDir s = (false, s) := by
  have : s.getLast? ≠ some '/' := fun hl => plain_noSlash h (List.mem_of_getLast? hl)
  simp [stripDir, this]

private theorem plain_tokens {s : Chars} (h : PlainName s) : tokenize s = some (s.map Tok.lit) :=
  tokenize_lits s (fun c hc => (h.noSyntax c hc).1)

private theorem contains_slash_false {s : Chars} (h : PlainName s) : s.contains '/' = false := by
  simpa using plain_noSlash h

/-! ## how a line is read -/

/-- blank lines and comment lines are no patterns: they can be removed from (or inserted into) any list -/
theorem comment_and_blank_ignored (l₁ l₂ : List Chars) (c : Chars) (hc : c = [] ∨ c.head? = some '#')
    (comps : Comps) (d : Bool) :
    ignoredLines (l₁ ++ c :: l₂) comps d = ignoredLines (l₁ ++ l₂) comps d := by
  have : parseLine c = none := by
    rcases hc with rfl | h
    · rfl
    · simp [parseLine, h]
  simp [ignoredLines, List.filterMap_append, this]

example : ([] : Chars) = [] ∨ ([] : Chars).head? = some '#' := Or.inl rfl
example : "# x".toList = [] ∨ "# x".toList.head? = some '#' := Or.inr (by decide +kernel)

/-! ## single patterns, for ALL paths -/

/-- one pattern that is not negated excludes a path iff it matches one of its non-empty prefixes (a proper prefix as a
directory): the text of the prefix when the pattern is anchored, its last component when it is not -/
theorem single_pattern {line : Chars} {dirOnly anchored : Bool} {ts : List Tok}
    (hp : parseLine line = some ⟨false, dirOnly, anchored, some ts⟩) (comps : Comps) (d : Bool) :
    ignoredLines [line] comps d = true ↔ ∃ k, 0 < k ∧ k ≤ comps.length ∧
      (!dirOnly || (decide (k < comps.length) || d)) = true ∧
      wm ts (if anchored then joinPath (comps.take k) else (comps.take k).getLast?.getD []) = true := by
  simp only [ignoredLines, List.filterMap_cons, hp, List.filterMap_nil, ignored, ignoredFrom_iff, List.nil_append,
    excludedAt_single, matchPat, Bool.not_false, Bool.and_true, Bool.and_eq_true]
  cases anchored <;> simp

/-- hence a pattern without a `/` at the beginning or in the middle is matched against each component on its own, whatever
its wildcards: it excludes a path one of whose parent directories matches, or whose last component matches (and is a
directory, for a pattern `…/`) -/
theorem unanchored_pattern {line : Chars} {dirOnly : Bool} {ts : List Tok}
    (hp : parseLine line = some ⟨false, dirOnly, false, some ts⟩) (comps : Comps) (d : Bool) :
    ignoredLines [line] comps d = true ↔
      (∃ c ∈ comps.dropLast, wm ts c = true) ∨ ∃ c, comps.getLast? = some c ∧ (!dirOnly || d) = true ∧ wm ts c = true := by
  rw [single_pattern hp]
  simp only [Bool.false_eq_true, if_false]
  rw [exists_prefix_last [] (fun b c => (!dirOnly || (b || d)) = true ∧ wm ts c = true)]
  simp only [Bool.true_or, Bool.or_true, true_and, Bool.false_or]

/-- a pattern without glob syntax and without `/` excludes exactly the paths that have that name as a
component — at any depth, the component being the file itself or one of its parent directories -/
theorem literal_component_pattern (s : Chars) (h : PlainName s) (comps : Comps) (d : Bool) :
    ignoredLines [s] comps d = true ↔ s ∈ comps := by
  have hp : parseLine s = some ⟨false, false, false, some (s.map Tok.lit)⟩ := by
    rw [parseLine_clean s (plain_clean h) h.noMark.1 h.noMark.2]
    simp [cleanPat, plain_stripDir h, plain_noSlash h, plain_tokens h]
  rw [unanchored_pattern hp, mem_dropLast_or_last s comps]
  simp [wm_lits]

example : ignoredLines ["build".toList] ["src".toList, "build".toList, "x.c".toList] false = true := by
  -- a literal unfolds to `String.ofList […]`, so this turns every `"…".toList` into the list of its characters;
  -- the kernel would otherwise decode each literal from UTF-8, which is most of the work
  repeat rw [String.toList_ofList]
  decide +kernel

/-- a leading `/` anchors the pattern to the directory of the ignore file: `/name` excludes exactly the paths
whose FIRST component is `name` -/
theorem anchored_pattern (s : Chars) (h : PlainName s) (comps : Comps) (d : Bool) :
    ignoredLines ['/' :: s] comps d = true ↔ comps.head? = some s := by
  have hsd : stripDir ('/' :: s) = (false, '/' :: s) := by
    have : ('/' :: s).getLast? ≠ some '/' := by
      obtain ⟨a, r, rfl⟩ := List.exists_cons_of_ne_nil h.nonempty
      rw [List.getLast?_cons_cons]
      exact fun hl => plain_noSlash h (List.mem_of_getLast? hl)
    simp [stripDir, this]
  have hp : parseLine ('/' :: s) = some ⟨false, false, true, some (s.map Tok.lit)⟩ := by
    rw [parseLine_clean _ (clean_cons (by decide) (plain_clean h)) (by simp) (by simp)]
    simp [cleanPat, hsd, stripLead, plain_tokens h]
  -- the text of a prefix is the name iff the prefix is that one component
  rw [single_pattern hp]
  simp only [Bool.not_false, Bool.true_or, if_true, true_and, wm_lits, joinPath_eq_name _ s (plain_noSlash h) h.nonempty]
  constructor
  · rintro ⟨k, h1, _, h3⟩
    cases comps with
    | nil => simp at h3
    | cons c r =>
      obtain ⟨k, rfl⟩ := Nat.exists_eq_succ_of_ne_zero (Nat.pos_iff_ne_zero.mp h1)
      rw [List.take_succ_cons, List.cons.injEq] at h3
      rw [h3.1]; rfl
  · intro hh
    obtain ⟨r, rfl⟩ := List.head?_eq_some_iff.mp hh
    exact ⟨1, Nat.one_pos, by simp, rfl⟩

example : ignoredLines ["/a".toList] ["a".toList, "x.c".toList] false = true ∧
    ignoredLines ["/a".toList] ["b".toList, "a".toList, "x.c".toList] false = false := by
  repeat rw [String.toList_ofList]
  decide +kernel

/-- a trailing `/` makes the pattern match directories only: `name/` excludes what lies below a directory
`name` (at any depth) and the directory itself, but not a file called `name` -/
theorem dir_only (s : Chars) (h : PlainName s) (comps : Comps) (d : Bool) :
    ignoredLines [s ++ ['/']] comps d = true ↔ s ∈ comps.dropLast ∨ (d = true ∧ comps.getLast? = some s) := by
  have hcl : Clean (s ++ ['/']) := by
    refine ⟨?_, by simp, by simp⟩
    intro c hc
    rcases List.mem_append.mp hc with hc | hc
    · exact (plain_clean h).noBackslash c hc
    · rw [List.mem_singleton.mp hc]; decide
  have hhead : (s ++ ['/']).head? = s.head? := by
    cases s with
    | nil => exact absurd rfl h.nonempty
    | cons a r => rfl
  have hp : parseLine (s ++ ['/']) = some (cleanPat false (s ++ ['/'])) :=
    parseLine_clean _ hcl (by rw [hhead]; exact h.noMark.1) (by rw [hhead]; exact h.noMark.2)
  have hsd : stripDir (s ++ ['/']) = (true, s) := by simp [stripDir]
  rw [unanchored_pattern (dirOnly := true) (ts := s.map Tok.lit) (hp.trans (by simp [cleanPat, hsd, plain_noSlash h, plain_tokens h]))]
  simp [wm_lits, and_comm]

example : ignoredLines ["obj/".toList] ["obj".toList] false = false ∧
    ignoredLines ["obj/".toList] ["src".toList, "obj".toList, "x.c".toList] false = true := by
  repeat rw [String.toList_ofList]
  decide +kernel

/-! ## the wildcards -/

/-- `*` stays inside one path component: what it swallows contains no `/` -/
theorem star_stays_in_component (ts : List Tok) (t : Chars) :
    wm (Tok.star :: ts) t = true ↔ ∃ a b, t = a ++ b ∧ '/' ∉ a ∧ wm ts b = true := by
  simp only [wm]; exact starLoop_iff (wm ts) t

/-- a trailing `/**` swallows anything, `/` included -/
theorem doublestar_crosses (ts : List Tok) (t : Chars) :
    wm (Tok.dstar :: ts) t = true ↔ ∃ a b, t = a ++ b ∧ wm ts b = true := by
  simp only [wm]; exact anyLoop_iff (wm ts) t

/-- `**/` matches nothing, or any text up to and including a `/` (zero or more whole directories) -/
theorem doublestar_slash_crosses (ts : List Tok) (t : Chars) :
    wm (Tok.dstarSlash :: ts) t = true ↔ wm ts t = true ∨ ∃ a b, t = a ++ '/' :: b ∧ wm ts b = true := by
  simp only [wm, Bool.or_eq_true, anyLoop_iff]
  constructor
  · rintro (h | ⟨a, b, rfl, hb⟩)
    · exact Or.inl h
    · cases b with
      | nil => simp at hb
      | cons c b' =>
        simp only [Bool.and_eq_true, beq_iff_eq] at hb
        obtain ⟨rfl, hb⟩ := hb
        exact Or.inr ⟨a, b', rfl, hb⟩
  · rintro (h | ⟨a, b, rfl, hb⟩)
    · exact Or.inl h
    · exact Or.inr ⟨a, '/' :: b, rfl, by simpa using hb⟩

/-- the tokens of `*.c`, `**/x`, `a/**`, `a**b`: a run of asterisks is special only as a whole component -/
example : tokenize "*.c".toList = some [.star, .lit '.', .lit 'c'] ∧
    tokenize "**/x".toList = some [.dstarSlash, .lit 'x'] ∧
    tokenize "a/**".toList = some [.lit 'a', .lit '/', .dstar] ∧
    tokenize "a/**/b".toList = some [.lit 'a', .lit '/', .dstarSlash, .lit 'b'] ∧
    tokenize "a**b".toList = some [.lit 'a', .star, .lit 'b'] ∧
    tokenize "[!a-c]?".toList = some [.set true [.ch 'a', .range 'a' 'c'], .any] := by
  repeat rw [String.toList_ofList]
  decide +kernel

example : ignoredLines ["*.c".toList] ["src".toList, "x.c".toList] false = true ∧
    ignoredLines ["/*.c".toList] ["src".toList, "x.c".toList] false = false ∧
    ignoredLines ["src/**/x.c".toList] ["src".toList, "a".toList, "b".toList, "x.c".toList] false = true ∧
    ignoredLines ["src/*/x.c".toList] ["src".toList, "a".toList, "b".toList, "x.c".toList] false = false := by
  repeat rw [String.toList_ofList]
  decide +kernel

/-! ## several patterns: the last match decides, parents first -/

/-- the last matching pattern decides -/
theorem last_match_wins (ps : List Pat) (p : Pat) (comps : Comps) (d : Bool) :
    lastMatch (ps ++ [p]) comps d = if matchPat p comps d then some (!p.neg) else lastMatch ps comps d :=
  lastMatch_append_single ps p comps d

/-- a path is ignored iff one of its parent directories is excluded or the path itself is -/
theorem ignored_iff_self_or_parent (ps : List Pat) (comps : Comps) (d : Bool) :
    ignored ps comps d = true ↔
      (∃ k, 0 < k ∧ k < comps.length ∧ excludedAt ps (comps.take k) true = true) ∨
      (comps ≠ [] ∧ excludedAt ps comps d = true) := by
  rw [ignored, ignoredFrom_iff]
  simp only [List.nil_append]
  constructor
  · rintro ⟨k, h1, h2, h3⟩
    by_cases hk : k < comps.length
    · exact .inl ⟨k, h1, hk, by simpa [hk] using h3⟩
    · obtain rfl : k = comps.length := by omega
      exact .inr ⟨List.ne_nil_of_length_pos h1, by simpa using h3⟩
  · rintro (⟨k, h1, h2, h3⟩ | ⟨hne, h3⟩)
    · exact ⟨k, h1, by omega, by simpa [h2] using h3⟩
    · exact ⟨comps.length, List.length_pos_iff.mpr hne, Nat.le_refl _, by simpa using h3⟩

/-- a file cannot be included again when a parent directory is excluded — whatever else the list says about it -/
theorem excluded_parent_wins (ps : List Pat) (comps : Comps) (d : Bool) (k : Nat) (h1 : 0 < k) (h2 : k < comps.length)
    (hk : excludedAt ps (comps.take k) true = true) : ignored ps comps d = true :=
  (ignored_iff_self_or_parent ps comps d).mpr (Or.inl ⟨k, h1, h2, hk⟩)

/-- a final negated pattern that matches the path includes it again — provided no parent directory is excluded -/
theorem negation_reincludes (ps : List Pat) (p : Pat) (comps : Comps) (d : Bool)
    (hneg : p.neg = true) (hm : matchPat p comps d = true)
    (hpar : ∀ k, 0 < k → k < comps.length → excludedAt (ps ++ [p]) (comps.take k) true = false) :
    ignored (ps ++ [p]) comps d = false := by
  rw [Bool.eq_false_iff]
  intro h
  rcases (ignored_iff_self_or_parent _ comps d).mp h with ⟨k, h1, h2, h3⟩ | ⟨_, h3⟩
  · rw [hpar k h1 h2] at h3; cases h3
  · simp [excludedAt, last_match_wins, hm, hneg] at h3

/-- hypotheses of `negation_reincludes` / `excluded_parent_wins` on `*.c`, `!keep.c` resp. `third/`, `!keep.c`;
the second is the recorded pathspec class F-C09-GI-A -/
example : ignoredLines ["*.c".toList, "!keep.c".toList] ["src".toList, "keep.c".toList] false = false ∧
    ignoredLines ["*.c".toList, "!keep.c".toList] ["src".toList, "x.c".toList] false = true ∧
    ignoredLines ["third/".toList, "!keep.c".toList] ["third".toList, "keep.c".toList] false = true := by
  repeat rw [String.toList_ofList]
  decide +kernel

/-- a pattern that matches neither the path nor any of its parent directories is irrelevant for the path,
wherever it stands in the list -/
theorem append_unmatched_pattern_irrelevant (ps qs : List Pat) (p : Pat) (comps : Comps) (d : Bool)
    (hun : ∀ k, 0 < k → k ≤ comps.length → ∀ d', matchPat p (comps.take k) d' = false) :
    ignored (ps ++ p :: qs) comps d = ignored (ps ++ qs) comps d := by
  unfold ignored
  apply ignoredFrom_congr
  intro k h1 h2 d'
  simp only [List.nil_append, excludedAt]
  rw [lastMatch_remove ps qs p _ d' (hun k h1 h2 d')]

/-! ## the code base with this matcher -/

open CbiVerif.Path CbiVerif.FS CbiVerif.CB CbiVerif.CBGit in
/-- `C09.member_iff` with the pattern semantics inside: `p in CodeBase(roots, exclude_patterns = pats)` ⇔ `p` names a
regular file with a recognised extension under a code-base directory (the first listed one that contains it) and the
gitignore reference does not ignore its path relative to that directory -/
theorem member_iff_gitignore (pats : List String) (cl : Bool) (fs : FS) (n : Nat) (roots : List Path.Comps)
    (cwd : Path.Comps) (p : P) (c : Path.Comps)
    (hcwd : dirPath fs cwd = true) (h : namei fs n (start cwd p) p.comps = .ok c) (hn : c.length + 2 ≤ n) :
    contains (gitCfg pats cl) fs n roots cwd p = .ok true ↔
      lstat fs c = some .file ∧
      CbiVerif.Gen.sourceExts.contains (suffix (name c)) = true ∧
      ∃ root, roots.find? (fun d => d.isPrefixOf c) = some root ∧
        ignoredStr pats (c.drop root.length) false = false :=
  member_iff (gitCfg pats cl) fs n roots cwd p c hcwd h hn

open CbiVerif.Path CbiVerif.FS CbiVerif.CB CbiVerif.CBGit in
/-- `C09.iter_exact` with the pattern semantics inside (any list of code-base directories: equal, nested, in any order) -/
theorem iter_exact_gitignore (pats : List String) (cl : Bool) (fs : FS) (n : Nat) (roots l : List Path.Comps)
    (hwf : wf fs = true) (hfuel : bigFuel fs n)
    (hnf : ∀ r ∈ roots, lstat fs r ≠ some .file)
    (h : iter (gitCfg pats cl) fs n roots = .ok l) :
    (∀ x ∈ l, contains (gitCfg pats cl) fs n roots [] ⟨true, x⟩ = .ok true) ∧
    (∀ c, memberSpec (gitCfg pats cl) fs roots c → l.count c = 1) ∧
    (∀ x ∈ l, namei fs n [] x ≠ .ok x →
        ∃ t, lstat fs x = some (.link t) ∧
          ((∃ c, namei fs n [] x = .ok c ∧ memberSpec (gitCfg pats cl) fs roots c) ∨ escapes fs n [] ⟨true, x⟩)) :=
  iter_exact (gitCfg pats cl) fs n roots l hwf hfuel hnf h

open CbiVerif.CB CbiVerif.CBGit in
/-- non-vacuity: the example tree of `Props/C09.lean` with the pattern list `sub/`, `!b.h`, `*.txt` -/
example : iter (gitCfg ["sub/", "!b.h", "*.txt"] false) exFS 20 [["t"]] = .ok [["t", "a.c"], ["t", "la.c"]] := by decide +kernel

end CbiVerif.C09
