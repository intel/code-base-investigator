import CbiVerif.Lemmas.FCleanRegen
/-!
# C17 — the `fortran_cleaner` and directives-only `c_cleaner` models are the machines tabulated from the running code

`Generated/FCleanTable.lean` / `Generated/CCleanTable.lean` are rewritten on every run by executing the
checkout's `fortran_cleaner.process`, `c_cleaner(directives_only=True).process` and `logical_newline`
(`tools/gen/cleaner.py`).  The theorems below are re-checked against those files on every run; a change of the
code's behaviour in any tabulated cell makes one of them fail to build.
-/
namespace CbiVerif.C17
open CbiVerif.Fortran CbiVerif.Fortran.Regen

/-- **C17.step_table_agrees.**  `fortran_cleaner.process(line)` — the unit the code executes; `dir_check` reads
    on from the same iterator — from every configuration (stack, `verify_continue`) reachable at a line start
    (9 of them, closed under `process`), on every line of length ≤ 2 over the nine behaviour-class
    representatives and every line of length 3 that starts with `!` or `&` (the two characters that open a mode
    not visible in the buffer), i.e. every inner configuration (stack top × scan mode × `verify_continue`
    holds blanks) followed by every class: the model's `procLine` yields exactly the configuration and the line
    buffer (`parts`, `trailing_space`) the real code produced. -/
theorem step_table_agrees : ∀ row ∈ Gen.FCleanTable.lines, ∀ p ∈ row.2,
    p.2 = lineObs (startSt row.1) (chars p.1) := by
  intro row hrow p hp
  have h := List.all_eq_true.mp lineRows_ok row hrow
  simp only [lineRowOK, Bool.and_eq_true, beq_iff_eq, List.all_eq_true] at h
  exact h.2 p hp

/-- **C17.table_closed.**  The table starts at the initial configuration, lists for every start configuration
    exactly the announced lines, and every configuration `process` leaves behind is again a start configuration. -/
theorem table_closed :
    Gen.FCleanTable.lines.head?.map (·.1) = some ([0], []) ∧
    (∀ row ∈ Gen.FCleanTable.lines, row.2.map (·.1) = linesOver Gen.FCleanTable.classReps Gen.FCleanTable.silentReps) ∧
    (∀ row ∈ Gen.FCleanTable.lines, ∀ p ∈ row.2,
      p.2.1 = true ∨ (p.2.2.1, p.2.2.2.1) ∈ Gen.FCleanTable.lines.map (·.1)) := by
  have hs := shape_ok
  have hc := closed_ok
  simp only [shapeOK, Bool.and_eq_true, beq_iff_eq, List.all_eq_true] at hs
  simp only [closedOK, List.all_eq_true, Bool.or_eq_true, List.contains_iff_mem] at hc
  exact ⟨hs.1, hs.2, hc⟩

/-- **C17.classes_agree.**  The character partition is the regenerated one: all 128 ASCII characters are listed
    (plus NEL, NBSP and some non-ASCII letters/blanks), and for ASCII, NEL and NBSP the model's `cls` is the class
    the running code's behaviour puts the character in; the code has five states at line starts, nine behaviour
    classes with smallest members NUL, TAB, `!`, `"`, `$`, `&`, `'`, `A`, `\`.  (Python's `str.isalpha` on other
    letters is outside the model: non-ASCII texts are outside the reference's `WF`.) -/
theorem classes_agree :
    (∀ p ∈ Gen.FCleanTable.charClass, (p.1 < 128 ∨ p.1 = 133 ∨ p.1 = 160) → clsIdx (cls (Char.ofNat p.1)) = p.2) ∧
    (Gen.FCleanTable.charClass.take 128).map (·.1) = List.range 128 ∧
    Gen.FCleanTable.stateNames.length = 5 ∧ Gen.FCleanTable.classReps = [0, 9, 33, 34, 36, 38, 39, 65, 92] ∧
    Gen.FCleanTable.silentReps = [33, 38] := by
  refine ⟨?_, by decide +kernel, by decide +kernel⟩
  intro p hp hr
  have h := List.all_eq_true.mp classes_ok p hp
  have hb : (decide (p.1 < 128) || p.1 == 133 || p.1 == 160) = true := by
    rcases hr with h1 | h1 | h1 <;> simp [h1]
  simpa only [classOK, hb, Bool.not_true, Bool.false_or, beq_iff_eq] using h

/-- **C17.cpass_table_agrees.**  The C pass in front (`c_cleaner(directives_only=True)`): for every stack it
    can reach (16), both buffer categories and EVERY ASCII character, one character through the model's
    `dProcess` gives the successor stack and buffer effects recorded for the character's class when the real
    `process()` was executed; `dNewline` likewise equals the recorded `logical_newline`; the table is closed. -/
theorem cpass_table_agrees :
    (∀ row ∈ Gen.CCleanTable.stepD, ∀ (b : Bool) (n : Nat), n < 128 →
      (classOfChar n).bind (fun i => (row.2[b.toNat]?).bind (·[i]?)) = some (dCell (row.1.map dModeOfId) b (Char.ofNat n))) ∧
    (∀ row ∈ Gen.CCleanTable.newlineD, row.2 = dNewlineCell (row.1.map dModeOfId)) ∧
    dClosedOK = true := by
  refine ⟨?_, ?_, by decide +kernel⟩
  · intro row hrow b n hn
    have h := List.all_eq_true.mp dRows_ok row hrow
    simp only [dRowOK, Bool.and_eq_true, beq_iff_eq, List.all_eq_true] at h
    exact h.2 b (by cases b <;> simp) n (List.mem_range.mpr hn)
  · intro row hrow
    have h := List.all_eq_true.mp dNlRows_ok row hrow
    simpa only [dNlRowOK, beq_iff_eq] using h

/-! non-vacuity: 9 start configurations × 253 lines; e.g. `&\t!` from the initial configuration -/
example : Gen.FCleanTable.lines.length = 9 ∧
    lineObs (startSt ([0], [])) (chars [38, 9, 33]) = (false, [2, 0], [], [], false) := by decide +kernel
set_option maxRecDepth 100000 in
example : Gen.FCleanTable.lines.map (·.2.length) = List.replicate 9 253 := by decide +kernel

end CbiVerif.C17
