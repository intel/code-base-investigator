import CbiVerif.Lemmas.CondDefined
/-!
# C02 / C01 — the value of a controlling expression with `defined` operators and object-like macros

`text_main_partial` (`Props/C02Text.lean`) composes text → lexer → evaluator for expressions WITHOUT a `defined` operator.
This file puts the macro expander in between, for expressions with `defined` operators and macro names
(`text_cond_partial`, `Props/C02TextCond.lean`, is the case of 2 without `defined`):

1. `expand_with_defined_partial` / `expand_with_defined_any_table` — the expander model `MX.cbiExpand` on a WHOLE token list in
   which `defined X` / `defined ( X )` occur in any position, any number of times: the result is `MX.ED` — each `defined` form
   replaced by the ONE number token `1` / `0` read from the table (`X` consumed, never expanded, even when `X` names a macro),
   every other token expanded by the recursive object-like reference `MX.E` (= the Prosser spec,
   `C03.object_like_conforms_partial`).  For every table of object-like macros; and for EVERY table when no other identifier
   names a macro.  The one-step lemmas `C03.defined_operator_*` are lifted to the stream machine over whole token lists by
   induction (`Lemmas/MacroDefinedList.lean`: `simD`).
2. `cond_defined_partial` — for every parse tree with `defined` leaves (operand any identifier, macro names included),
   constants and identifiers that are no macro names, EVERY macro table, every admissible layout of the text:
   `PP.condValue` = the ISO C truth value in the environment "defined X iff X is a name of the table".  Corollary
   `text_main_outside_D8_partial`: the full text-level statement `text_main` of `Props/C02Text.lean` with the one exclusion D8.
3. `cond_objmacro_partial` — identifier leaves that ARE object-like macros whose full expansion (by the expander model)
   spells a `defined`-free parse tree, object-like tables: `PP.condValue` = the ISO C truth value of the tree with those trees
   substituted (`CondFrag.substA`; the substituted tree must be grammatical, i.e. the expansions are atomic or parenthesised
   wherever the context requires it).

`PP.condValue` is what the end-to-end models of C01/C04/C08/C10/C17/C18 execute for `#if` / `#elif`.
Lemmas: `Lemmas/MacroDefinedList.lean`, `Lemmas/CondDefined.lean`; descriptors: `Model/CondFragment.lean` (driver op `condfrag`).
-/
namespace CbiVerif.C02
open CbiVerif.PP CbiVerif.Climb CbiVerif.CExpr CbiVerif.Eval CbiVerif.EvalBridge CbiVerif.LexLayout CbiVerif.MX CbiVerif.CondFrag

/-! ## the expander on whole token lists with `defined` -/

/-- **`defined` in any position of any token list (object-like tables).**  `ts` any token list in which every `defined` is
    followed by an identifier or by `(`, an identifier, `)` (`defOK`); `tbl` any table of object-like macros below the nesting
    limit (recursive definitions included): the expander model returns `ED` — `defined` decided from the table, never
    expanded; everything else expanded as by `C03.object_like_partial`.
    (`_partial`: object-like tables; the full text-level statement is `text_main` / `cond_objmacro` below.) -/
theorem expand_with_defined_partial (tbl : Table) (hT : TblOK tbl) (hsz : tbl.length + 2 < CbiVerif.Gen.maxLevel)
    (ts : List Tok) (hok : defOK ts = true) : cbiExpand tbl ts = .ok (ED tbl (tbl.length + 1) ts) :=
  cbiExpand_objD tbl hT ts hok hsz

/-- … and for EVERY table (function-like macros, `defined` in replacement lists, more macros than the nesting limit) when no
    expandable identifier outside the operands of `defined` names a macro (`noMacro`): the expander then consults the table
    only through `defined`. -/
theorem expand_with_defined_any_table (tbl : Table) (ts : List Tok) (hok : defOK ts = true) (hnm : noMacro tbl ts = true) :
    cbiExpand tbl ts = .ok (ED tbl (tbl.length + 1) ts) :=
  cbiExpand_noMacro tbl ts hok hnm

/-- what `ED` is, equation by equation: `defined X`, `defined ( X )` (whatever `X` is defined as), any other token -/
theorem expand_with_defined_reference (tbl : Table) (d : Nat) (t : Tok) (rest : List Tok) :
    (isDef t = true → ∀ x, x.text ≠ "(" → ED tbl d (t :: x :: rest) = defTok tbl x :: ED tbl d rest) ∧
    (isDef t = true → ∀ lp x rp, lp.text = "(" → ED tbl d (t :: lp :: x :: rp :: rest) = defTok tbl x :: ED tbl d rest) ∧
    (isDef t = false → ED tbl d (t :: rest) = E tbl d [] [t] ++ ED tbl d rest) ∧
    (∀ x, (defTok tbl x).kind = .num ∧ (defTok tbl x).text = (if (tbl.get x.text).isSome then "1" else "0")) :=
  ⟨fun h x hx => ED_plain tbl d t x rest h hx, fun h lp x rp hlp => ED_paren tbl d t lp x rp rest h hlp,
   fun h => ED_other tbl d t rest h, fun _ => ⟨rfl, rfl⟩⟩

/-! ## text → lexer → expander → evaluator -/

/-- the full statement: every macro table (function-like macros, `defined` in replacement lists, any size), constants of
    the class D8 included.  Open: function-like tables and D8 (`main_refuted`). -/
def cond_objmacro : Prop :=
  ∀ (tbl : Table) (s : Sub) (a : CExpr.Ast) (v : CExpr.Val) (w : Layout),
    (substA s a).grammatical = true → (substA s a).constsOK = true → LexSource.lexable a = true →
    (∀ n ∈ identLeaves a, leafOK tbl s n = true) → cEval (envOf tbl) (substA s a) = some v →
    admissible w (renderSrc a) = true →
    condValue tbl (tokenize (layout w (renderSrc a))) = .ok v.truth

/-- the common part of `cond_objmacro_partial` and `cond_defined_partial`: either the table is object-like and below the
    nesting limit, or no identifier leaf names a macro (then the table is consulted through `defined` only) -/
theorem cond_of_tree (tbl : Table) (s : Sub) (a : CExpr.Ast) (v : CExpr.Val) (w : Layout)
    (hobj : (TblOK tbl ∧ tbl.length + 2 < CbiVerif.Gen.maxLevel) ∨ ∀ n ∈ identLeaves a, tbl.get n = none)
    (hg : (substA s a).grammatical = true) (hc : (substA s a).constsOK = true)
    (hk8 : usesBigUnsuffixed (substA s a) = false) (hv : cEval (envOf tbl) (substA s a) = some v)
    (hl : LexSource.lexable a = true) (hleaf : ∀ n ∈ identLeaves a, leafOK tbl s n = true)
    (hw : admissible w (renderSrc a) = true) :
    condValue tbl (tokenize (layout w (renderSrc a))) = .ok v.truth := by
  rw [lexer_reads_source_layout a hl w hw]
  obtain ⟨hK, hok, hnm⟩ := (ED_tree tbl s (identLeaves a) hobj hleaf a hl (fun _ h => h) (flagged w (renderSrc a))
    (flagged_key _ _ hw) (flag_expandable _ _ _)).whole
  have hx : cbiExpand tbl (flagged w (renderSrc a)) = .ok (ED tbl (tbl.length + 1) (flagged w (renderSrc a))) := by
    rcases hobj with ⟨hT, hsz⟩ | hnone
    · exact cbiExpand_objD tbl hT _ hok hsz
    · exact cbiExpand_noMacro tbl _ hok (hnm hnone)
  rw [condValue_of_expand tbl _ _ hx]
  exact (main_partial_key (envOf tbl) (substA s a) v hg hc hk8 hv _ hK).2

/-- **Text → lexer → expander → evaluator with `defined` and object-like macros (proved part of `cond_objmacro`).**
    `a` a parse tree whose leaves are constants, `defined X` / `defined(X)` (any identifier `X`) and identifiers; `tbl` a
    table of object-like macros below the nesting limit; `s` gives, for every identifier leaf that names a macro, a
    `defined`-free parse tree whose source tokens the expander model produces from that name (`leafOK`: kinds and texts
    of `cbiExpand tbl [name]`), identifier leaves that are no macro names are not substituted.  If the substituted tree
    satisfies the hypotheses of `main_partial` (grammatical, legal constants, outside D8, C value `v` in the environment
    "defined X iff X is a name of the table"), then for EVERY admissible layout of the source text the value the end-to-end
    models give to the text is the ISO C truth value.
    Missing for `cond_objmacro`: function-like macros, tables with `defined` in a replacement list, the class D8. -/
theorem cond_objmacro_partial (tbl : Table) (hT : TblOK tbl) (hsz : tbl.length + 2 < CbiVerif.Gen.maxLevel)
    (s : Sub) (a : CExpr.Ast) (v : CExpr.Val) (w : Layout)
    (hg : (substA s a).grammatical = true) (hc : (substA s a).constsOK = true)
    (hk8 : usesBigUnsuffixed (substA s a) = false) (hv : cEval (envOf tbl) (substA s a) = some v)
    (hl : LexSource.lexable a = true) (hleaf : ∀ n ∈ identLeaves a, leafOK tbl s n = true)
    (hw : admissible w (renderSrc a) = true) :
    condValue tbl (tokenize (layout w (renderSrc a))) = .ok v.truth :=
  cond_of_tree tbl s a v w (.inl ⟨hT, hsz⟩) hg hc hk8 hv hl hleaf hw

/-- the full statement for expressions whose identifier leaves are no macro names: every table, D8 included -/
def cond_defined : Prop :=
  ∀ (tbl : Table) (a : CExpr.Ast) (v : CExpr.Val) (w : Layout),
    a.grammatical = true → a.constsOK = true → LexSource.lexable a = true →
    (∀ n ∈ identLeaves a, n ≠ "defined" ∧ tbl.get n = none) → cEval (envOf tbl) a = some v →
    admissible w (renderSrc a) = true →
    condValue tbl (tokenize (layout w (renderSrc a))) = .ok v.truth

/-- **`defined` is decided from the table in ANY position of ANY expression (proved part of `cond_defined`).**  `a` any
    parse tree with leaves `defined X` / `defined(X)` (`X` any identifier, possibly a macro of the table), constants and
    identifiers that are no macro names; `tbl` ANY macro table (object-like or function-like macros, any size — the table is
    consulted through `defined` only); every admissible layout: the value of the TEXT is the ISO C truth value of `a` in the
    environment "defined X iff X is a name of `tbl`".
    Missing for `cond_defined`: the class D8 only. -/
theorem cond_defined_partial (tbl : Table) (a : CExpr.Ast) (v : CExpr.Val) (w : Layout)
    (hg : a.grammatical = true) (hc : a.constsOK = true) (hk8 : usesBigUnsuffixed a = false)
    (hv : cEval (envOf tbl) a = some v) (hl : LexSource.lexable a = true)
    (hfree : ∀ n ∈ identLeaves a, n ≠ "defined" ∧ tbl.get n = none)
    (hw : admissible w (renderSrc a) = true) :
    condValue tbl (tokenize (layout w (renderSrc a))) = .ok v.truth := by
  have hleaf : ∀ n ∈ identLeaves a, leafOK tbl [] n = true := by
    intro n hn
    obtain ⟨h1, h2⟩ := hfree n hn
    simp [leafOK, h1, h2, Sub.get]
  rw [← substA_nil a] at hg hc hk8 hv
  exact cond_of_tree tbl [] a v w (.inr fun n hn => (hfree n hn).2) hg hc hk8 hv hl hleaf hw

/-- **`text_main` outside D8, for every macro table.**  The full text-level statement of `Props/C02Text.lean` (every table
    that defines none of the identifiers of the expression, `defined` operators included) with the one exclusion D8. -/
theorem text_main_outside_D8_partial (tbl : Table) (a : CExpr.Ast) (v : CExpr.Val) (w : Layout)
    (hg : a.grammatical = true) (hc : a.constsOK = true) (hk8 : usesBigUnsuffixed a = false)
    (hl : LexSource.lexable a = true) (hnd : ∀ n ∈ identLeaves a, n ≠ "defined")
    (hfree : ∀ t ∈ renderSrc a, t.kind = .ident → t.text ≠ "defined" → tbl.get t.text = none)
    (hv : cEval (fun n => (tbl.get n).isSome) a = some v) (hw : admissible w (renderSrc a) = true) :
    condValue tbl (tokenize (layout w (renderSrc a))) = .ok v.truth :=
  cond_defined_partial tbl a v w hg hc hk8 hv hl
    (fun n hn => ⟨hnd n hn, hfree (identTok n) (identLeaf_mem_renderSrc a n hn) rfl (hnd n hn)⟩) hw

/-- why `text_main` needs the side condition on identifier leaves: the tree `.ident "defined"` satisfies every other
    hypothesis (C value 0), its text is the lone word `defined`, which is no C expression and which the expander rejects -/
theorem text_main_needs_no_defined_leaf :
    (CExpr.Ast.ident "defined").grammatical = true ∧ (CExpr.Ast.ident "defined").constsOK = true ∧
    LexSource.lexable (.ident "defined") = true ∧ cEval (envOf []) (.ident "defined") = some ⟨false, 0#64⟩ ∧
    layout (tight (renderSrc (.ident "defined"))) (renderSrc (.ident "defined")) = "defined" ∧
    condValue [] (tokenize "defined") = .error .type_ := by decide +kernel

/-! ## non-vacuity -/

/-- `A` ↦ `3`, `N` ↦ `( - 5 )`, `C` ↦ `A` (a chain), `AA` ↔ `BB` (mutual recursion) -/
def tblD : Table :=
  [("A", ⟨"A", none, false, false, [], [⟨.num, "3", false, true⟩]⟩),
   ("N", ⟨"N", none, false, false, [], [⟨.punct, "(", false, true⟩, ⟨.op, "-", false, true⟩, ⟨.num, "5", false, true⟩, ⟨.punct, ")", false, true⟩]⟩),
   ("C", ⟨"C", none, false, false, [], [⟨.ident, "A", false, true⟩]⟩),
   ("AA", ⟨"AA", none, false, false, [], [⟨.ident, "BB", false, true⟩]⟩),
   ("BB", ⟨"BB", none, false, false, [], [⟨.ident, "AA", false, true⟩, ⟨.num, "1", true, true⟩]⟩)]

/-- `defined A && ! defined ( UNDEF ) && ( defined BB ? 2u : 0 ) > - 1 || X` — `defined` in four positions, operands that
    are macro names (also of a recursive macro), an identifier that is no macro -/
def sampleD : CExpr.Ast :=
  .bin .lor
    (.bin .land
      (.bin .land (.defd "A" false) (.un .lnot (.defd "UNDEF" true)))
      (.bin .gt (.paren (.tern (.defd "BB" false) (numU 2) (num 0))) (.un .neg (num 1))))
    (.ident "X")

theorem tblD_ok : TblOK tblD := tblOK_of_check _ (by decide +kernel)

/-- hypotheses of `cond_defined_partial` for `sampleD` / `tblD`; the C value is 0 (`2u > -1` is false) although three
    `defined` operators are true — the table decides -/
example : sampleD.grammatical = true ∧ sampleD.constsOK = true ∧ usesBigUnsuffixed sampleD = false ∧
    LexSource.lexable sampleD = true ∧ (identLeaves sampleD).all (fun n => n != "defined" && (tblD.get n).isNone) = true ∧
    cEval (envOf tblD) sampleD = some (Val.ofBool false) ∧ tblD.length + 2 < CbiVerif.Gen.maxLevel := by decide +kernel

/-- a table `cond_defined_partial` covers and `TblOK` does not: a function-like macro `F(x)` ↦ `x`, an object-like macro whose
    replacement list is `defined F`, on top of `tblD` -/
def tblF : Table :=
  tblD ++ [("F", ⟨"F", some ["x"], false, false, [true], [⟨.ident, "x", false, true⟩]⟩),
           ("DD", ⟨"DD", none, false, false, [], [⟨.ident, "defined", false, true⟩, ⟨.ident, "F", true, true⟩]⟩)]

/-- `defined F && defined ( DD ) && ! defined X` under `tblF` -/
def sampleF : CExpr.Ast := .bin .land (.bin .land (.defd "F" false) (.defd "DD" true)) (.un .lnot (.defd "X" false))

example : tblOKb tblF = false ∧ (identLeaves sampleF).all (fun n => n != "defined" && (tblF.get n).isNone) = true ∧
    sampleF.grammatical = true ∧ cEval (envOf tblF) sampleF = some (Val.ofBool true) ∧
    noMacro tblF (tokenize "defined F&&defined(DD)&&!defined X") = true ∧
    condValue tblF (tokenize (layout (tight (renderSrc sampleF)) (renderSrc sampleF))) = .ok true := by
  rw [layout, tokenize_ofList, tokenize_ofList]
  decide +kernel

example : layout (tight (renderSrc sampleD)) (renderSrc sampleD) = "defined A&&!defined(UNDEF)&&(defined BB?2u:0)>-1||X" ∧
    admissible (tight (renderSrc sampleD)) (renderSrc sampleD) = true ∧
    condValue tblD (tokenize (layout (tight (renderSrc sampleD)) (renderSrc sampleD))) = .ok false ∧
    defOK (tokenize "defined A&&!defined(UNDEF)&&(defined BB?2u:0)>-1||X") = true ∧
    (match cbiExpand tblD (tokenize "defined A&&!defined(UNDEF)&&(defined BB?2u:0)>-1||X") with
     | .ok r => r.map (·.text) | _ => []) =
      ["1", "&&", "!", "0", "&&", "(", "1", "?", "2u", ":", "0", ")", ">", "-", "1", "||", "X"] := by
  -- the literal also stands under a `match`, where rewriting it in place would make the kernel evaluate both versions
  generalize e : tokenize "defined A&&!defined(UNDEF)&&(defined BB?2u:0)>-1||X" = ts
  rw [tokenize_ofList] at e
  subst e
  rw [layout, tokenize_ofList]
  decide +kernel

/-- `C + N == - 2 && defined C && ! defined ( X )` with `C` ↦ `3` (through `A`) and `N` ↦ `( - 5 )`; the operand `C` of
    `defined` is NOT replaced.  (`AA` is left out: it expands to the two tokens `AA 1`, which is not the spelling of an atomic
    or parenthesised tree.) -/
def sampleM : CExpr.Ast :=
  .bin .land
    (.bin .land
      (.bin .eq (.bin .add (.ident "C") (.ident "N")) (.un .neg (num 2)))
      (.defd "C" false))
    (.un .lnot (.defd "X" true))

def subM : Sub := [("C", num 3), ("N", .paren (.un .neg (num 5)))]

/-- hypotheses of `cond_objmacro_partial`: the model expander turns `C` into `3` (two levels) and `N` into `( - 5 )` -/
example : (substA subM sampleM).grammatical = true ∧ (substA subM sampleM).constsOK = true ∧
    usesBigUnsuffixed (substA subM sampleM) = false ∧ LexSource.lexable sampleM = true ∧
    (identLeaves sampleM).all (leafOK tblD subM) = true ∧ identLeaves sampleM = ["C", "N"] ∧
    cEval (envOf tblD) (substA subM sampleM) = some (Val.ofBool true) := by decide +kernel

example : layout (tight (renderSrc sampleM)) (renderSrc sampleM) = "C+N==-2&&defined C&&!defined(X)" ∧
    admissible (tight (renderSrc sampleM)) (renderSrc sampleM) = true ∧
    condValue tblD (tokenize (layout (tight (renderSrc sampleM)) (renderSrc sampleM))) = .ok true ∧
    condValue tblD (tokenize " C +\tN == - 2 && defined  C && ! defined ( X ) ") = .ok true := by
  rw [layout, tokenize_ofList, tokenize_ofList]
  decide +kernel

/-- `expand_with_defined_partial`: `defined` directly after `defined`'s own result, as operand `defined`, at the very end -/
example : defOK (tokenize "defined defined + defined(A) defined AA") = true ∧
    cbiExpand tblD (tokenize "defined defined + defined(A) defined AA") =
      .ok [⟨.num, "0", true, true⟩, ⟨.op, "+", true, true⟩, ⟨.num, "1", false, true⟩, ⟨.num, "1", true, true⟩] ∧
    defOK (tokenize "1 + defined") = false ∧ defOK (tokenize "defined ( A") = false ∧ defOK (tokenize "defined 1") = false := by
  rw [tokenize_ofList]
  decide +kernel

end CbiVerif.C02
