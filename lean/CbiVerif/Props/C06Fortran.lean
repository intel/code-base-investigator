import CbiVerif.Lemmas.C06Fortran
/-!
# C06 about SOURCE TEXT — code bases of C-family AND free-form Fortran files

`C06L.analyseL files plats` (`Model/C06Fortran.lean`) is the analysis result of a code base given as texts whose front end is
chosen per file by its extension, as `get_file_source` does: C-family files go through the C05 parser model
(`C06C.parseSrc`), `.f90/.F90` files through the C17 model (`Fortran.fortranSource`, `Fortran.group`, `Fortran.pnodeOf`);
behind the node list everything is the one definition of `Model/C06Compose.lean` (C01 associator per configuration entry,
platform set per node, `SM.getSetmap`, `Cov.compute`).  The driver executes exactly this definition (op `c06text`).

* `mixed_eq_C_on_C_files`  — on a code base of C-family files `analyseL` IS `C06C.analyse`, so the eight theorems of
  `Props/C06Compose.lean` are statements about what the driver executes there;
* `file_lines_counted_once_mixed`, `setmap_total_is_sloc_of_text_mixed`, `summary_rows_of_text_mixed`,
  `coverage_partition_of_text_mixed`, `platform_sets_are_reference_mixed`, `used_iff_reference_keeps_mixed` — the analogues
  for mixed code bases; the counted lines of a Fortran file are those of C17's reference scanner (`Fortran.refText`) under
  C17's guard (inside `WF`, no line of finding class F-C17-1), from `C17.structural_*` and `C17.nodes_of_ok`;
* `fortran_reference_is_C17` — for a Fortran file the reference run the platform sets are tied to is
  `Fortran.referenceFortran`, the one of `C17.conditionals_as_C`;
* `line_attribution_is_reference_mixed_partial` — the per-line attribution under a grouping hypothesis, which
  `Props/C06FortranGroups.lean` discharges; `language_by_extension` — the table that chooses the front end.

Every statement is for all texts, all platform lists and all `-D` lists, and is the case of the dispatching front end
(`C06L.parseSrcL_facts`) of the development for any front end in `Lemmas/C06ComposeText.lean`.  Scope: no `#include` resolution (C04's layer);
`asm` sources are not modelled (the model raises on them, so no statement below speaks about a code base holding one).
-/
namespace CbiVerif.C06
open CbiVerif.SM CbiVerif.C06C CbiVerif.C06L

/-- **mixed_eq_C_on_C_files.**  The C-only definitions of `Model/C06Compose.lean` are the C instance: `C06C.analyse` is `analyseG` with the C parser (by
    `rfl`), and on a code base all of whose files have a C-family extension the language-dispatching analysis the driver
    executes returns exactly what `C06C.analyse` returns (result or exception). -/
theorem mixed_eq_C_on_C_files (files : List SrcFile) (plats : List Plat)
    (h : ∀ f ∈ files, langOf f.path = .cFamily) :
    C06C.analyse = analyseG (fun f => parseSrc f.text) ∧ analyseL files plats = C06C.analyse files plats := by
  refine ⟨rfl, ?_⟩
  show analyseG parseSrcL files plats = analyseG (fun f => parseSrc f.text) files plats
  unfold analyseG
  rw [mapE_congr parseSrcL (fun f => parseSrc f.text) files (fun f hf => parseSrcL_c f (h f hf))]

/-- the extensions of the code's CURRENT table (regenerated on every run): `.f90/.F90` select the Fortran front end, the
    C / C++ extensions the C front end, fixed-form Fortran and unknown extensions raise; the choice looks at the last
    component of the path only -/
theorem language_by_extension :
    ([".f90", ".F90"].all fun e => langOfExt e == .fortranFree) = true ∧
    ([".c", ".h", ".cpp", ".hpp", ".cc", ".cxx", ".cu", ".cl"].all fun e => langOfExt e == .cFamily) = true ∧
    ([".f", ".F", ".ftn", ".for", ".txt", ""].all fun e => langOfExt e == .unsupported) = true ∧
    langOf ["src", "util", "solver.F90"] = .fortranFree ∧ langOf ["a.f90", "main.c"] = .cFamily ∧
    langOf [".f90"] = .unsupported := by
  decide +kernel

theorem records_facts (files : List SrcFile) (plats : List Plat) (fs : List FileRec) (h : analyseL files plats = .ok fs) :
    List.Forall₂ (fun f r => RecFacts (physLines f) (guardL f) (countedL f) (specNodesL f) f.path r) files fs :=
  analyseG_facts parseSrcL_facts h

/-- what the record `r` of the analysis says about the text of the file `f` it was computed from (any language) -/
def FileFactsL (f : SrcFile) (r : FileRec) : Prop :=
  r.path = f.path ∧ r.link = false ∧
  (CbiVerif.Cov.fileLines r.nodes).Pairwise (· < ·) ∧
  (∀ m ∈ CbiVerif.Cov.fileLines r.nodes, 1 ≤ m ∧ m ≤ physLines f) ∧
  (∀ n ∈ r.nodes, n.numLines = n.lines.length) ∧
  (guardL f = true → CbiVerif.Cov.fileLines r.nodes = countedL f) ∧
  (langOf f.path = .cFamily → C06C.guard f.text = true →
    r.nodes.map (·.lines) = (CLexRef.nodes f.text).map (·.2) ∧ ∀ n ∈ r.nodes, 1 ≤ n.numLines)

/-- **file_lines_counted_once_mixed.**  For every code base of C-family and free-form Fortran texts and every configuration on
    which the analysis does not raise: the i-th record belongs to the i-th file, is not a link, and the concatenation of
    `node.lines` over ALL its nodes (code nodes and directive nodes, `tree.walk()` order) is strictly increasing — no physical
    line in two nodes or twice in one — within `1..n`, with `num_lines = len(lines)` for every node (C: `C05.partition`;
    Fortran: `C17.structural_increasing / _in_range / _nodes`; no hypothesis on the text); and for a text inside the guard
    of its language (C: C05's; Fortran: accepted by C17's reference scanner with no F-C17-1 line) that concatenation IS the
    list of lines the language's specification counts (`CLexRef.countedLines` resp. `Fortran.countedLines ∘ refText`).
    For a C-family file the nodes are moreover grouped as the C05 specification groups them (as in `Props/C06Compose.lean`). -/
theorem file_lines_counted_once_mixed (files : List SrcFile) (plats : List Plat) (fs : List FileRec)
    (h : analyseL files plats = .ok fs) : List.Forall₂ FileFactsL files fs := by
  refine (records_facts files plats fs h).imp fun f r ⟨h1, h2, h3, h4, h5, h6⟩ =>
    ⟨h1, h2, h3, h4, h5, fun hg => (h6 hg).1, fun hl hg => ?_⟩
  unfold guardL specNodesL at h6
  rw [hl] at h6
  exact (h6 hg).2

/-- **setmap_total_is_sloc_of_text_mixed.**  For every mixed code base and configuration on which the analysis does not raise:
    every row of `get_setmap` is the number of counted lines whose node carries exactly that platform set, the sum of the
    setmap is the number of lines of all nodes of all files (Fortran files included, directive nodes included), and when every
    text is inside the guard of its language that sum is the number of lines the SPECIFICATIONS count in the texts — C05's
    for the C-family files plus C17's for the Fortran files: the SLOC of the code base. -/
theorem setmap_total_is_sloc_of_text_mixed (files : List SrcFile) (plats : List Plat) (fs : List FileRec)
    (h : analyseL files plats = .ok fs) :
    NodesWF fs ∧ (∀ k, get (getSetmap fs) k = specCount fs k) ∧ total (getSetmap fs) = specSloc fs ∧
    total (getSetmap fs) = (fs.map fun r => (CbiVerif.Cov.fileLines r.nodes).length).sum ∧
    ((∀ f ∈ files, guardL f = true) →
      total (getSetmap fs) = (files.map fun f => (countedL f).length).sum) :=
  setmap_total_of_facts (records_facts files plats fs h)

/-- **summary_rows_of_text_mixed.**  The rows `codebasin -R summary` prints for the analysis of a mixed code base: each row's
    count is the number of counted lines carrying exactly its platform set, its percentage that count over the SLOC, and
    `Total SLOC` is the number of lines the specifications of the files' languages count in the texts. -/
theorem summary_rows_of_text_mixed (files : List SrcFile) (plats : List Plat) (fs : List FileRec)
    (h : analyseL files plats = .ok fs) (rows : List CbiVerif.Summary.Row)
    (hr : CbiVerif.Summary.rows (getSetmap fs) = some rows) :
    (∀ r ∈ rows, r.count = specCount fs r.key ∧ r.percent = (specCount fs r.key : ℚ) / (specSloc fs : ℚ) * 100) ∧
    CbiVerif.Summary.totalCount (getSetmap fs) = specSloc fs ∧
    ((∀ f ∈ files, guardL f = true) →
      CbiVerif.Summary.totalCount (getSetmap fs) = (files.map fun f => (countedL f).length).sum) :=
  summary_of_facts (records_facts files plats fs h) rows hr

/-- **coverage_partition_of_text_mixed.**  The coverage export of the analysis of a mixed code base has one record per file
    (Fortran files included), and in the record of every file `used_lines ++ unused_lines` is a rearrangement of the lines of
    its nodes, WITHOUT repetition and with no line on both sides; a line is used iff its node carries a non-empty platform
    set, unused iff the empty one; and for a text inside the guard of its language the two lists together are exactly the
    lines the language's specification counts. -/
theorem coverage_partition_of_text_mixed (files : List SrcFile) (plats : List Plat) (fs : List FileRec)
    (h : analyseL files plats = .ok fs) :
    CbiVerif.Cov.compute fs = fs.map (fun r => (r.path, CbiVerif.Cov.split r.nodes)) ∧
    List.Forall₂ (fun (f : SrcFile) (r : FileRec) =>
      r.path = f.path ∧
      ((CbiVerif.Cov.split r.nodes).used ++ (CbiVerif.Cov.split r.nodes).unused).Perm (CbiVerif.Cov.fileLines r.nodes) ∧
      ((CbiVerif.Cov.split r.nodes).used ++ (CbiVerif.Cov.split r.nodes).unused).Nodup ∧
      (∀ l ∈ (CbiVerif.Cov.split r.nodes).used, l ∉ (CbiVerif.Cov.split r.nodes).unused) ∧
      (∀ l, l ∈ (CbiVerif.Cov.split r.nodes).used ↔ ∃ n ∈ r.nodes, l ∈ n.lines ∧ n.plats ≠ []) ∧
      (∀ l, l ∈ (CbiVerif.Cov.split r.nodes).unused ↔ ∃ n ∈ r.nodes, l ∈ n.lines ∧ n.plats = []) ∧
      (guardL f = true →
        ((CbiVerif.Cov.split r.nodes).used ++ (CbiVerif.Cov.split r.nodes).unused).Perm (countedL f)))
      files fs :=
  coverage_of_facts (records_facts files plats fs h)

/-! ## the platform sets are those of the reference preprocessor -/

/-- every compile command of the configuration is a unit the ISO C reference machine accepts silently (no structural
    diagnostic, no unterminated `#if`, no macro redefinition), the unit of a Fortran file being its C17 node list -/
def RefAcceptsAllL (files : List SrcFile) (plats : List Plat) : Prop :=
  ∀ f ∈ files, ∀ p, parseSrcL f = .ok p → ∀ pl ∈ plats, ∀ e ∈ pl.entries, e.file = f.path →
    refAccepts p.pnodes e.defs = true

/-- **platform_sets_are_reference_mixed.**  For distinct file names and a configuration whose units the reference accepts: the
    platform set of the j-th node of every file — C-family or Fortran — is exactly the list of platforms having a compile
    command for that file under whose `-D` list the ISO C reference machine (`PP.referenceNodes`) does not skip node j; and
    for a Fortran file the node list the reference runs on is C17's `Fortran.fortranPNodes` of the text.
    (From `C01.analyseNodes_eq_reference`, for every entry of every platform; preprocessor conditionals select lines in a
    Fortran source as in C.) -/
theorem platform_sets_are_reference_mixed (files : List SrcFile) (plats : List Plat) (fs : List FileRec)
    (h : analyseL files plats = .ok fs) (hnd : (files.map (·.path)).Nodup) (hacc : RefAcceptsAllL files plats) :
    List.Forall₂ (fun f r => ∃ p, parseSrcL f = .ok p ∧ r.nodes.length = p.nodes.length ∧
        p.pnodes.length = p.nodes.length ∧
        r.nodes.map (·.plats) = (List.range p.nodes.length).map (specPlats plats f.path p.pnodes) ∧
        (langOf f.path = .fortranFree → Fortran.fortranPNodes (String.ofList f.text) = .ok p.pnodes)) files fs := by
  obtain ⟨pr, hp⟩ := analyseG_records _ files plats fs h
  refine hp.imp fun f r ⟨p, hparse, hr, hplats⟩ =>
    ⟨p, hparse, ?_, (parseSrcL_facts f p hparse).payload.length_eq.symm, ?_, fun hlang => ?_⟩
  · rw [hr]; exact (List.length_map _).trans List.length_zipIdx
  · rw [hr]; exact mkRec_plats (hplats hnd hacc)
  · rw [parseSrcL_f f hlang] at hparse
    obtain ⟨_, _, _, hpn, _⟩ := fParseSrc_ok f.text p hparse
    exact hpn

/-- **fortran_reference_is_C17.**  On the node list of a Fortran file the three reference-side functions of this composition
    are C17's `Fortran.referenceFortran` — the reference `C17.conditionals_as_C` compares the executed conditional selection
    of a Fortran source with: "kept by the reference run" is "selected in `referenceFortran text defs`". -/
theorem fortran_reference_is_C17 (t : List Char) (p : Parsed) (h : fParseSrc t = .ok p) (defs : List String) :
    Fortran.referenceFortran (String.ofList t) defs = PP.referenceNodes p.pnodes defs ∧
    Fortran.analyseFortran (String.ofList t) defs = PP.analyseNodes p.pnodes defs ∧
    (∀ j, refKeeps p.pnodes defs j =
      match Fortran.referenceFortran (String.ofList t) defs with
      | .ok r => (flagsOf r.rows).getD j false
      | .error _ => false) := by
  obtain ⟨_, _, _, hpn, _⟩ := fParseSrc_ok t p h
  have h1 : Fortran.referenceFortran (String.ofList t) defs = PP.referenceNodes p.pnodes defs := by
    unfold Fortran.referenceFortran; rw [hpn]; rfl
  refine ⟨h1, ?_, ?_⟩
  · unfold Fortran.analyseFortran; rw [hpn]; rfl
  · intro j; rw [h1]; rfl

/-- **used_iff_reference_keeps_mixed.**  Under the hypotheses of `platform_sets_are_reference_mixed`, in the coverage record of
    every file (C-family or Fortran) a line is listed as USED iff it is a line of a node that some platform's reference
    preprocessor run does not skip. -/
theorem used_iff_reference_keeps_mixed (files : List SrcFile) (plats : List Plat) (fs : List FileRec)
    (h : analyseL files plats = .ok fs) (hnd : (files.map (·.path)).Nodup) (hacc : RefAcceptsAllL files plats) :
    List.Forall₂ (fun f r => ∃ p, parseSrcL f = .ok p ∧
      ∀ l, l ∈ (CbiVerif.Cov.split r.nodes).used ↔
        ∃ j nd, p.nodes[j]? = some nd ∧ l ∈ nd.lines ∧
          ∃ pl ∈ plats, ∃ e ∈ pl.entries, e.file = f.path ∧ refKeeps p.pnodes e.defs j = true) files fs := by
  obtain ⟨pr, hp⟩ := analyseG_records _ files plats fs h
  exact hp.imp fun f r ⟨p, hparse, hr, hplats⟩ => ⟨p, hparse, fun l => hr ▸ mkRec_used (hplats hnd hacc) l⟩

/-! ## per-line attribution against the specifications -/

/-- The grouping statement for Fortran files: a free-form Fortran text inside C17's guard is cut into nodes exactly as
    `Spec/FortranNodes.lean` groups the lines the C17 reference counts — one node per directive line, one per maximal run of
    counted lines between directive lines (the C analogue is `C05.nodes_of_ok`; `C17.lines_eq_ref` gives the equality of the
    concatenations).  Proved in `Props/C06FortranGroups.lean` (`C06.fortranGroupsAreReference`, from `C17.nodes_of_ok`).  It
    fails for the code before the repair of its defect F-C17-2 (a continuation line whose `#` opens the text of a statement that
    began with lone `&` lines was read as a preprocessor directive; `C17.F_C17_2_fixed`). -/
def FortranGroupsAreReference : Prop :=
  ∀ (t : List Char) (p : Parsed), fguard t = true → fParseSrc t = .ok p →
    p.nodes.map (fun nd => (nd.kind == CClean.NKind.directive, nd.lines)) = Fortran.refNodes (String.ofList t)

/-- FULL statement of the per-line attribution for mixed code bases: inside the guard of the file's language the per-line
    attribution of the record is the one written from the specifications alone -/
def LineAttributionIsReferenceMixed : Prop :=
  ∀ (files : List SrcFile) (plats : List Plat) (fs : List FileRec), analyseL files plats = .ok fs →
    (files.map (·.path)).Nodup → RefAcceptsAllL files plats →
    List.Forall₂ (fun (f : SrcFile) (r : FileRec) => ∃ p, parseSrcL f = .ok p ∧
      (guardL f = true → lineAttr r = specLineAttrL plats f p.pnodes)) files fs

/-- **line_attribution_is_reference_mixed_partial.**  For distinct file names and a configuration whose units the reference
    accepts: for every file whose nodes hold the lines the specification of its language groups together
    (`specNodesL`: `CLexRef.nodes` resp. `Fortran.refNodes`), the per-line attribution of the record (`SM.lineAttr`, the list
    `setmap_lines` / `specCount` count over) is EXACTLY the attribution written from the specifications alone
    (`specLineAttrL`): every counted line, once, with the platforms whose ISO C reference run keeps its group.  For a C-family
    file inside C05's guard the grouping hypothesis is discharged (`C05.nodes_of_ok`); for a Fortran file it is discharged in
    `Props/C06FortranGroups.lean` (`C06.line_attribution_is_reference_mixed`, and `LineAttributionIsReferenceMixed` itself is
    `C06.lineAttributionIsReferenceMixed`). -/
theorem line_attribution_is_reference_mixed_partial (files : List SrcFile) (plats : List Plat) (fs : List FileRec)
    (h : analyseL files plats = .ok fs) (hnd : (files.map (·.path)).Nodup) (hacc : RefAcceptsAllL files plats) :
    List.Forall₂ (fun (f : SrcFile) (r : FileRec) => ∃ p, parseSrcL f = .ok p ∧
        (p.nodes.map (·.lines) = (specNodesL f).map (·.2) → lineAttr r = specLineAttrL plats f p.pnodes) ∧
        (langOf f.path = .cFamily → guardL f = true → p.nodes.map (·.lines) = (specNodesL f).map (·.2))) files fs := by
  obtain ⟨pr, hp⟩ := analyseG_records _ files plats fs h
  exact hp.imp fun f r ⟨p, hparse, hr, hplats⟩ =>
    ⟨p, hparse, fun hgrp => hr ▸ lineAttr_mkRec (hplats hnd hacc) _ hgrp, fun _ => (parseSrcL_facts f p hparse).lines⟩

/-! ## non-vacuity (kernel-checked): a C file and a Fortran file, two platforms, four compile commands -/

def refAcceptsAllLb (files : List SrcFile) (plats : List Plat) : Bool :=
  files.all fun f =>
    match parseSrcL f with
    | .ok p => plats.all fun pl => pl.entries.all fun e => !(e.file == f.path) || refAccepts p.pnodes e.defs
    | .error _ => true

theorem refAcceptsAllL_of_b (files : List SrcFile) (plats : List Plat) (h : refAcceptsAllLb files plats = true) :
    RefAcceptsAllL files plats := by
  intro f hf p hp pl hpl e he hef
  unfold refAcceptsAllLb at h
  have h1 := List.all_eq_true.mp h f hf
  simp only [hp] at h1
  have h2 := List.all_eq_true.mp (List.all_eq_true.mp h1 pl hpl) e he
  simpa [hef] using h2

/-- `src/a.c`: comment on a code line, `#ifdef/#else` with a continued line; `src/solver.F90`: a statement continued over a
    comment line inside `#ifdef A`, a character literal holding `!`, a sentinel in the `#else` branch, an ordinary comment -/
def exSrcL : List SrcFile :=
  [⟨["src", "a.c"], "int a; /* c */\n#ifdef A\nint b;\n#else\nint c; \\\n  int d;\n#endif\n".toList⟩,
   ⟨["src", "solver.F90"],
     "x = 1 ! c\n#ifdef A\ny = 'a!b' // &\n  ! note\n  & 'c'\n#else\n!$omp parallel\n#endif\n! only a comment\nz = 2\n".toList⟩]

def exPlatsL : List Plat :=
  [⟨"cpu", [⟨["src", "a.c"], ["A"]⟩, ⟨["src", "solver.F90"], ["A=1"]⟩]⟩,
   ⟨"gpu", [⟨["src", "solver.F90"], []⟩, ⟨["src", "a.c"], ["A=1"]⟩]⟩]

/-- what the example below and the one in `Props/C06FortranGroups.lean` say about the sample code base, in one statement:
    the kernel then parses and analyses the two texts once for all conjuncts.  (The characters are read off the two string
    literals first: the kernel decodes a literal per character, at a cost far above that of the analysis itself.) -/
theorem exSrcL_facts :
    (((analyseL exSrcL exPlatsL).toOption.map fun fs => (getSetmap fs, (CbiVerif.Cov.compute fs).map fun x => (x.2.used, x.2.unused)))
      = some ([(["cpu", "gpu"], 10), ([], 2), (["cpu"], 2), (["gpu"], 1)],
              [([1, 2, 3, 4, 7], [5, 6]), ([1, 2, 3, 5, 6, 7, 8, 10], [])]) ∧
    (exSrcL.all guardL) = true ∧ (exSrcL.map (·.path)).Nodup ∧ refAcceptsAllLb exSrcL exPlatsL = true ∧
    exSrcL.map (fun f => langOf f.path) = [.cFamily, .fortranFree] ∧
    exSrcL.map countedL = [[1, 2, 3, 4, 5, 6, 7], [1, 2, 3, 5, 6, 7, 8, 10]] ∧
    (exSrcL.all fun f => match parseSrcL f with
      | .ok p => p.nodes.map (fun nd => (nd.kind == CClean.NKind.directive, nd.lines)) == specNodesL f
      | .error _ => false) = true) ∧
    (exSrcL.map fun f => (specNodesL f).map (·.2)) =
      [[[1], [2], [3], [4], [5, 6], [7]], [[1], [2], [3, 5], [6], [7], [8], [10]]] ∧
    ((analyseL exSrcL exPlatsL).toOption.map fun fs => fs.map fun r => (r.nodes.map (·.plats))) =
      some [[["cpu", "gpu"], ["cpu", "gpu"], ["cpu", "gpu"], ["cpu", "gpu"], [], ["cpu", "gpu"]],
            [["cpu", "gpu"], ["cpu", "gpu"], ["cpu"], ["cpu", "gpu"], ["gpu"], ["cpu", "gpu"], ["cpu", "gpu"]]] := by
  -- the Fortran side hands its text to C17's functions as a `String`: these calls are given the characters again
  unfold analyseL refAcceptsAllLb guardL countedL specNodesL parseSrcL fParseSrc fguard fcounted
  simp only [Fortran.fortranSource_ofList, Fortran.refText_ofList, Fortran.refNodes_ofList, Fortran.pnodeOf_eq]
  unfold exSrcL
  rw [String.toList_ofList, String.toList_ofList]
  decide +kernel

/-- the hypotheses of all theorems above hold on it (the analysis does not raise, both texts are inside the guard of their
    language, file names are distinct, the reference accepts all four units), the result is not trivial (four platform sets;
    lines 4 and 9 of the Fortran file are not counted, its `#ifdef` branch is cpu's, its `#else` branch gpu's), and the code
    base is NOT a C code base (so `mixed_eq_C_on_C_files` does not apply: the statements are not those of
    `Props/C06Compose.lean`) -/
example :
    ((analyseL exSrcL exPlatsL).toOption.map fun fs => (getSetmap fs, (CbiVerif.Cov.compute fs).map fun x => (x.2.used, x.2.unused)))
      = some ([(["cpu", "gpu"], 10), ([], 2), (["cpu"], 2), (["gpu"], 1)],
              [([1, 2, 3, 4, 7], [5, 6]), ([1, 2, 3, 5, 6, 7, 8, 10], [])]) ∧
    (exSrcL.all guardL) = true ∧ (exSrcL.map (·.path)).Nodup ∧ refAcceptsAllLb exSrcL exPlatsL = true ∧
    exSrcL.map (fun f => langOf f.path) = [.cFamily, .fortranFree] ∧
    exSrcL.map countedL = [[1, 2, 3, 4, 5, 6, 7], [1, 2, 3, 5, 6, 7, 8, 10]] ∧
    -- the grouping hypothesis of `line_attribution_is_reference_mixed_partial` holds for both files (an instance of
    -- `FortranGroupsAreReference` for the second)
    (exSrcL.all fun f => match parseSrcL f with
      | .ok p => p.nodes.map (fun nd => (nd.kind == CClean.NKind.directive, nd.lines)) == specNodesL f
      | .error _ => false) = true :=
  exSrcL_facts.1

end CbiVerif.C06
