import CbiVerif.Lemmas.FLoopRegen
import CbiVerif.Lemmas.FLoopRun
/-!
# C17 — the model of the `fortran_file_source` loop is the machine tabulated from the running loop

`Generated/FLoopTable.lean` is rewritten on every run by executing the checkout's `fortran_file_source`
(`tools/gen/cleaner.py`, `floop_tables`): from every loop configuration reachable from the start of a file
(cleaner state stack and `verify_continue` × pending logical line: empty / blank / code, with and without
`trailing_space`; reached by a real prefix text, closure computed by execution) every physical-line kind is read
(one line of every class of the regenerated step table of `fortran_cleaner.process`, directive lines, `#` behind
`&` or text, a logical line of two physical lines, a blank line), and the observed iteration is recorded: the
logical lines yielded while the kind is processed (their `lines` = which physical lines are counted, their text
and category), the cleaner configuration afterwards, what is flushed when the file ends there and whether that
raises, and what is yielded when a line `A` / blank `A` follows (which reveals the pending logical line exactly).
The theorems below are re-checked against that file on every run: a behavioural change of the loop (the directive
cut, the BLANK test, the `CONTINUING_FROM_SOL` test, what survives from one physical line to the next, the end
of the file) makes one of them fail to build; a refactoring that keeps the behaviour does not.
-/
namespace CbiVerif.C17
open CbiVerif.Fortran CbiVerif.Fortran.Regen

/-- **C17.floop_step_machine.**  The recursive loop model the C17 theorems are about (`fPass` = `fLoop` from the initial
    configuration, executed by the driver as part of `fortranSource`) is, for EVERY list of C-pass logical lines, the
    iteration of the one-step function `fStep` followed by the code after the loop (`fEndOut`: flush the pending
    logical line, `fEndOk`: raise unless the cleaner is at top level) — the functions the table theorems are about. -/
theorem floop_step_machine (cls : List CL) :
    fPass cls = if fEndOk (fRun {} cls).1 then .ok ((fRun {} cls).2 ++ fEndOut (fRun {} cls).1) else .error .notTop :=
  fPass_eq_run cls

/-- **C17.floop_source_machine.**  At text level: `fortranSource` — the function `C17.lines_eq_ref` and the `structural_*`
    theorems are about, and the one the driver executes for the correspondence — is the C pass followed by that machine.
    (`lines_eq_ref` assumes nothing about the loop: its only hypothesis is that the reference accepts the text.) -/
theorem floop_source_machine (text : String) (cls : List CL) (h : dPass (splitLines text) = .ok cls) :
    fortranSource text =
      if fEndOk (fRun {} cls).1 then .ok ((fRun {} cls).2 ++ fEndOut (fRun {} cls).1) else .error .notTop := by
  unfold fortranSource
  rw [h]
  exact fPass_eq_run cls

/-- the hypothesis is satisfiable: a continued statement, a comment line inside it, a directive that cuts it -/
example : (dPass (splitLines "x &\n ! c\n#A\n")).toOption =
    some [⟨[1], "x &".toList⟩, ⟨[2], " ! c".toList⟩, ⟨[3], "#A".toList⟩] := by decide +kernel

/-- the same from any configuration, one iteration at a time -/
theorem floop_step_machine_cons (k : LCfg) (cl : CL) (rest : List CL) :
    fLoop k.s k.cur k.lines (cl :: rest) =
      (fLoop (fStep k cl).1.s (fStep k cl).1.cur (fStep k cl).1.lines rest).map ((fStep k cl).2 ++ ·) :=
  fLoop_cons k cl rest

/-- **C17.floop_table_agrees.**  For every listed loop configuration (reached by executing the real loop on the recorded
    prefix) and every physical-line kind: the C pass's verdict "directive" on the logical lines it hands to the loop is
    the model's `isDirText`, and one iteration of the model (`fRun` = `fStep` on those logical lines, then `fEndOut` /
    `fEndOk`, then the two revealing follow-up lines) yields exactly the logical lines (`lines`, text, category), the
    cleaner configuration, the end-of-file flush and the end-of-file exception that the real `fortran_file_source`
    produced when it was executed. -/
theorem floop_table_agrees : ∀ c ∈ Gen.FLoopTable.configs, ∀ r ∈ c.2,
    (∀ y ∈ r.2.1, isDirText (chars y.2.1) = y.2.2) ∧
    r.2.2 = loopObs (cfgAfter c.1.2.1) (c.1.1.length + r.1.length) r.2.1 := by
  intro c hc r hr
  have h := List.all_eq_true.mp (List.all_eq_true.mp loopRows_ok c hc) r hr
  simp only [loopRowOK, Bool.and_eq_true, beq_iff_eq, List.all_eq_true] at h
  exact h

/-- **C17.floop_table_closed.**  The table starts at the start of a file (no prefix, initial configuration); the
    configuration recorded for every prefix — cleaner configuration, category / emptiness / `trailing_space` of the
    pending logical line, decoded from the real loop's output — is the model's configuration after that prefix; every
    configuration lists exactly the kinds announced for its cleaner configuration; and the configuration after every
    probe is again (in that abstraction) a listed one: no run of the loop leaves the table. -/
theorem floop_table_closed :
    Gen.FLoopTable.configs.head?.map (·.1) = some ([], [], (([0], []), 0, true, false)) ∧
    (∀ c ∈ Gen.FLoopTable.configs, absCfg (cfgAfter c.1.2.1) = c.1.2.2 ∧ some (c.2.map (·.1)) = kindsOf c.1.2.2.1) ∧
    (∀ c ∈ Gen.FLoopTable.configs, ∀ r ∈ c.2,
      r.2.2.1 = true ∨ absCfg (fRun (cfgAfter c.1.2.1) (r.2.1.map clOf)).1 ∈ keys) := by
  have hs := loopShape_ok
  have hc := loopClosed_ok
  simp only [loopShapeOK, Bool.and_eq_true, beq_iff_eq, List.all_eq_true] at hs
  simp only [loopClosedOK, List.all_eq_true, Bool.or_eq_true, List.contains_iff_mem] at hc
  exact ⟨hs.1, fun c h => ⟨(hs.2 c h).1.2, (hs.2 c h).2⟩, hc⟩

/-- **C17.floop_kinds_cover.**  The kinds probed from a cleaner configuration are complete with respect to the regenerated
    step table of `fortran_cleaner.process` (`C17.step_table_agrees`): for every line of that table that reaches the loop
    as it is (no backslash, not blank) some probed one-line kind has the same result as far as the loop can see it
    (configuration afterwards, buffer empty / its category / leading blank / `trailing_space`); and the kinds the C pass
    treats specially are probed: `#`, TAB `#`, `#A`, NUL `#`, `&#`, `&` TAB `#`, `&#&`, `A\` + `A`, the empty line. -/
theorem floop_kinds_cover : ∀ kc ∈ Gen.FLoopTable.kinds,
    ∃ row ∈ Gen.FCleanTable.lines, row.1 = kc.1 ∧
      (∀ p ∈ row.2, plainLine p.1 = true →
        ∃ l q, [l] ∈ kc.2 ∧ q ∈ row.2 ∧ q.1 = l ∧ loopShape q.2 = loopShape p.2) ∧
      (∀ s ∈ [[[35]], [[9, 35]], [[35, 65]], [[0, 35]], [[38, 35]], [[38, 9, 35]], [[38, 35, 38]], [[65, 92], [65]], [[]]], s ∈ kc.2) := by
  intro kc hkc
  have h := List.all_eq_true.mp kindsCover_ok kc hkc
  cases hf : Gen.FCleanTable.lines.find? (·.1 == kc.1) with
  | none => simp [hf] at h
  | some row =>
    simp only [hf, Bool.and_eq_true, List.all_eq_true] at h
    refine ⟨row, List.mem_of_find?_eq_some hf, by simpa using List.find?_some hf, ?_, ?_⟩
    · intro p hp hpl
      have h1 := h.1 p hp
      simp only [hpl, Bool.not_true, Bool.false_or, List.contains_iff_mem, kindShapes, List.mem_filterMap] at h1
      obtain ⟨kind, hk, hm⟩ := h1
      match kind, hk, hm with
      | [l], hk, hm =>
        cases hq : row.2.find? (·.1 == l) with
        | none => simp [hq] at hm
        | some q =>
          simp only [hq, Option.map_some, Option.some.injEq] at hm
          exact ⟨l, q, hk, List.mem_of_find?_eq_some hq, by simpa using List.find?_some hq, hm⟩
    · intro s hs
      have := h.2 s hs
      simpa only [List.contains_iff_mem] using this

/-! non-vacuity: 21 reachable loop configurations, 445 probes; e.g. from "x &" (pending `x `) the comment line ` ! c`
    is not counted, keeps the statement open and leaves the pending line alone; the directive line `#A` cuts it -/
example : Gen.FLoopTable.configs.length = 21 ∧ (Gen.FLoopTable.configs.map (·.2.length)).sum = 445 := by decide +kernel
example :
    (loopObs (cfgAfter [([1], [120, 32, 38], false)]) 2 [([2], [32, 33, 32, 99], false)]
      == (false, [], ([2, 0], []), [([1], [120, 32], false)], true,
          [([1, 3], [120, 32, 65], false)], [([1, 3], [120, 32, 65], false)])) = true ∧
    (loopObs (cfgAfter [([1], [120, 32, 38], false)]) 2 [([2], [35, 65], true)]).2.1
      = [([1], [120, 32], false), ([2], [35, 65], true)] := by decide +kernel

end CbiVerif.C17
