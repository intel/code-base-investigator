import CbiVerif.Props.C03
import CbiVerif.Lemmas.MacroStrSpec
/-! # C03 — `#` stringification after the repair of finding D10

The code (`Lexer.stringify`, `CharacterConstant.sanitized_str`, the `#` branch of `MacroFunction.replace`, the argument collection of
`MacroExpander.expand` for variadic macros) was repaired; the model (`PP.stringify`, `PP.sanitized`, `MX.strcatPass`, `MX.collectArgsV`)
follows it.  Model `M` = `CbiVerif.MX.cbiExpand`, spec `S` = `CbiVerif.Spec.Prosser.prosser` (`stringize`: C11 6.10.3.2p2).

* for every argument: `stringify_leading_white` (white space before the first token of the argument never reaches the spelling),
  `stringify_spelling` (the spelling is `strBody`: one blank exactly where a later token has `prev_white`), `stringify_empty`,
  `sanitized_chr` (a character constant keeps its quotes; `"` and `\` are escaped), `sanitized_other` (identifiers, numbers,
  operators, punctuators are spelled as they are), `hash_takes_white_of_operator` (the string literal takes the `prev_white` of the `#`);
* `D10_fixed_*`: model AND specification give the C result on the former D10 shapes (leading / trailing / repeated blanks, empty
  argument, character constants, string literals with escapes, nested calls that are not expanded because `#` takes the unexpanded
  argument, a `#` result stringified again, variable arguments with blanks before their commas);
* `D42_witness`, `full_fails`: what is still open — `C03.Full` stays false by finding D42. -/
namespace CbiVerif.C03
open CbiVerif.PP CbiVerif.MX

/-- the text between the quotes of `#param`: the spellings of the argument's tokens, one blank before every token but the first
    that is preceded by white space -/
def strBody : List Tok → String
  | [] => ""
  | f :: r => r.foldl (fun acc p => acc ++ (if p.pw then " " else "") ++ sanitized p) (sanitized f)

/-- **`Lexer.stringify`, every argument**: the token is what the lexer makes of `"` + `strBody` + `"` -/
theorem stringify_spelling (ts : List Tok) :
    stringify ts = (tokenizeOne ("\"" ++ strBody ts ++ "\"").toList false).map (·.1) := by
  cases ts <;> rfl

/-- **white space before the argument is deleted** (C11 6.10.3.2p2), for every argument: `prev_white` of the first token has no
    influence on the result -/
theorem stringify_leading_white (f : Tok) (r : List Tok) (b : Bool) :
    stringify ({ f with pw := b } :: r) = stringify (f :: r) := rfl

/-- the same for the spelling itself -/
theorem strBody_leading_white (f : Tok) (r : List Tok) (b : Bool) : strBody ({ f with pw := b } :: r) = strBody (f :: r) := rfl

/-- an empty argument gives `""` -/
theorem stringify_empty : stringify [] = some ⟨.str, "", false, true⟩ := by decide +kernel

/-- **a character constant keeps its quotes**; each `"` and `\` inside it is escaped (every text) -/
theorem sanitized_chr (s : String) (w x : Bool) :
    sanitized ⟨.chr, s, w, x⟩ = "'" ++ String.ofList (s.toList.flatMap fun c => if c == '\\' || c == '"' then ['\\', c] else [c]) ++ "'" := rfl

/-- identifiers, numbers, operators, punctuators and unknown characters are spelled as they are -/
theorem sanitized_other (t : Tok) (h1 : t.kind ≠ .str) (h2 : t.kind ≠ .chr) : sanitized t = t.text := by
  obtain ⟨k, s, w, x⟩ := t
  cases k <;> first | rfl | exact absurd rfl h1 | exact absurd rfl h2

/-- **the result of `#param` takes the `prev_white` of the `#`** (so that a later `#` applied to it spells the blank): one step of
    the `#` / `##` pass, every parameter list, argument list and context -/
theorem hash_takes_white_of_operator (params : List String) (ia : List Arg) (fuel : Nat) (h p : Tok) (rest : List Tok)
    (res : List (Tok × Bool)) (lc pm pmw : Bool) (i : Nat) (a : Arg) (t : Tok)
    (hh : h.text = "#") (hp : paramIdx params p = some i) (ha : ia[i]? = some a) (hs : stringify a.raw = some t) :
    strcatPass params ia (fuel + 1) (h :: p :: rest) res lc pm pmw
      = strcatPass params ia fuel rest (res ++ [({ t with pw := h.pw }, true)]) true false pmw := by
  rw [StrSpec.strcatPass_hash params ia fuel h p rest res lc pm pmw (by rw [hh]; decide) (by rw [hh]; decide)]
  simp only [hp, ha, hs]

example : ∃ (params : List String) (ia : List Arg) (h p : Tok) (i : Nat) (a : Arg) (t : Tok),
    h.text = "#" ∧ h.pw = true ∧ paramIdx params p = some i ∧ ia[i]? = some a ∧ stringify a.raw = some t ∧ t.text = "'q' + b" :=
  ⟨["x"], [⟨[⟨.chr, "q", true, true⟩, ⟨.op, "+", true, true⟩, ⟨.ident, "b", true, true⟩], none⟩], ⟨.op, "#", true, true⟩,
    ⟨.ident, "x", false, true⟩, 0, ⟨[⟨.chr, "q", true, true⟩, ⟨.op, "+", true, true⟩, ⟨.ident, "b", true, true⟩], none⟩,
    ⟨.str, "'q' + b", false, true⟩, rfl, rfl, by decide +kernel, rfl, by decide +kernel, rfl⟩

/-! ## the former D10 shapes: model = specification = C -/

/-- leading, trailing and repeated white space; the empty argument -/
theorem D10_fixed_white : expandText [] ["STR(x) #x"] "STR(  a   +  b ) STR() STR(a )" = .ok ["\"a + b\"", "\"\"", "\"a\""] ∧
    specText ["STR(x) #x"] "STR(  a   +  b ) STR() STR(a )" = some ["\"a + b\"", "\"\"", "\"a\""] :=
  ⟨(expandText_ofChars [] [_] _).trans (by decide +kernel), (specText_ofChars [_] _).trans (by decide +kernel)⟩

/-- character constants: quotes kept, `"` and `\` escaped -/
theorem D10_fixed_chars :
    expandText [] ["STR(x) #x"] "STR('\"') STR('\\\\') STR( '\\n' 'a')" = .ok ["\"'\\\"'\"", "\"'\\\\\\\\'\"", "\"'\\\\n' 'a'\""] ∧
    specText ["STR(x) #x"] "STR('\"') STR('\\\\') STR( '\\n' 'a')" = some ["\"'\\\"'\"", "\"'\\\\\\\\'\"", "\"'\\\\n' 'a'\""] :=
  ⟨(expandText_ofChars [] [_] _).trans (by decide +kernel), (specText_ofChars [_] _).trans (by decide +kernel)⟩

/-- string literals: quotes and backslashes escaped -/
theorem D10_fixed_strings :
    expandText [] ["STR(x) #x"] "STR(\"x\\n\") STR( \"a\\\"b\"  'c' )" = .ok ["\"\\\"x\\\\n\\\"\"", "\"\\\"a\\\\\\\"b\\\" 'c'\""] ∧
    specText ["STR(x) #x"] "STR(\"x\\n\") STR( \"a\\\"b\"  'c' )" = some ["\"\\\"x\\\\n\\\"\"", "\"\\\"a\\\\\\\"b\\\" 'c'\""] :=
  ⟨(expandText_ofChars [] [_] _).trans (by decide +kernel), (specText_ofChars [_] _).trans (by decide +kernel)⟩

/-- `#` takes the unexpanded argument: a nested call is spelled, not expanded; one level of indirection expands first -/
theorem D10_fixed_unexpanded :
    expandText [] ["STR(x) #x", "XSTR(x) STR(x)", "N 3"] "STR( STR( N ) ) XSTR( N )" = .ok ["\"STR( N )\"", "\"3\""] ∧
    specText ["STR(x) #x", "XSTR(x) STR(x)", "N 3"] "STR( STR( N ) ) XSTR( N )" = some ["\"STR( N )\"", "\"3\""] :=
  ⟨(expandText_ofChars [] [_, _, _] _).trans (by decide +kernel), (specText_ofChars [_, _, _] _).trans (by decide +kernel)⟩

/-- a `#` result that is stringified again: the blank in front of the inner `#` is spelled -/
theorem D10_fixed_nested_hash :
    expandText [] ["S(x) #x", "F(x) S(a #x)", "G(x) S(a#x)"] "F(1) G(1)" = .ok ["\"a \\\"1\\\"\"", "\"a\\\"1\\\"\""] ∧
    specText ["S(x) #x", "F(x) S(a #x)", "G(x) S(a#x)"] "F(1) G(1)" = some ["\"a \\\"1\\\"\"", "\"a\\\"1\\\"\""] :=
  ⟨(expandText_ofChars [] [_, _, _] _).trans (by decide +kernel), (specText_ofChars [_, _, _] _).trans (by decide +kernel)⟩

/-- variable arguments: the commas between them belong to the argument, with the white space in front of them (C11 6.10.3p12) -/
theorem D10_fixed_variadic : expandText [] ["V(...) #__VA_ARGS__"] "V( a , b,c )" = .ok ["\"a , b,c\""] ∧
    specText ["V(...) #__VA_ARGS__"] "V( a , b,c )" = some ["\"a , b,c\""] :=
  ⟨(expandText_ofChars [] [_] _).trans (by decide +kernel), (specText_ofChars [_] _).trans (by decide +kernel)⟩

/-! ## what is still open -/

/-- D42 (open): `#` and `##` are recognised by token text whatever the kind of the token, so a string literal whose content is
    `#` in a replacement list is taken for the stringification operator -/
theorem D42_witness : expandText [] ["F(x) \"#\" x"] "F(1)" = .ok ["\"1\""] ∧
    specText ["F(x) \"#\" x"] "F(1)" = some ["\"#\"", "1"] :=
  ⟨(expandText_ofChars [] [_] _).trans (by decide +kernel), (specText_ofChars [_] _).trans (by decide +kernel)⟩

/-- the full statement does not hold for the code as it is (the remaining finding D42 is a counterexample) -/
theorem full_fails : ¬ Full := by
  intro h
  obtain ⟨out, hp, ho⟩ := specText_eq_some D42_witness.2
  -- the model's one token against the specification's two
  have hm := (h [] _ _ out hp).symm.trans D42_witness.1
  rw [ho] at hm
  cases (List.cons.inj (TextResult.ok.inj hm)).2

end CbiVerif.C03
