import CbiVerif.Lemmas.FindChars
import CbiVerif.Props.C13
import CbiVerif.Lemmas.FindReach

/-!
# C13, closure — "only files named by entries, and what they include, are attributed to a platform"

`Props/C13.lean` proves the database layer's share (`only_named_files_partial`) relative to a hypothesis about the
analysis (`hfind`).  This file discharges that hypothesis for the executable multi-file model of `finder.find`
(`CbiVerif.Inc.find`, the model of C04: `Model/FindInc.lean`, `Model/MultiFile.lean`) and composes the two layers.

* `attributed_files_reachable` — for every file system, code base, configuration and include-depth bound: a file with a
  node attributed to platform `p` is (the real path of) the `file` of one of `p`'s entries, or of one of that entry's
  `-include` files, or is reached from one of those through `#include` directives that resolve - by the model's own
  resolution function, with that entry's search directories - to the next file (`Inc.Includes`, `Inc.Reach`).
* `only_named_files_forced` — the statement of C13 with the `-include` roots made explicit (the files named by
  `-include` ARE attributed, by the code and by the model; the statement in `Props/C13.lean`, which has the entry's
  file as only root, is therefore kept for commands without `-include`: `only_named_files_model_plain`).
* `only_named_files_model` — `only_named_files_forced` for the composed model: `load_database` (`DbPath.loadList`)
  followed by `finder.find` (`Inc.find`) on the loaded entries.

The include relation is the model's, not an abstract parameter: `includesModel` is `Inc.Includes` over `Inc.parseAll fs`
and `IncMemo.resolveM`, the definitions the driver executes (`findinc`, `reachinc`).
-/
namespace CbiVerif.C13
open CbiVerif.DbPath
open CbiVerif.Inc (FS parseAll Includes ForcedRoot)

/-! ## the analysis layer -/

/-- **attributed_files_reachable.**  In the model of `finder.find`, for every file system, code base, configuration and
fuel: every file that receives an attribution for platform `p` is (a) the `file` of one of `p`'s configuration entries,
(b) a forced include of such an entry, or (c) reached from one of those through a chain of include directives resolved
with that entry's search directories (files are identified by their real paths). -/
theorem attributed_files_reachable (fs : FS) (codebase : List String) (config : List (String × List CbiVerif.PP.Entry))
    (fuel : Nat) (f p : String) (h : f ∈ (Inc.find fs codebase config fuel).attributedTo p) :
    ∃ pe ∈ config, pe.1 = p ∧ ∃ e ∈ pe.2, ∃ root,
      (root = fs.realpath e.file ∨ ForcedRoot fs e.file e.includePaths e.includeFiles root) ∧
      Inc.Reach (Includes fs (parseAll fs) e.includePaths) root f := by
  simp only [Inc.PState.attributedTo, List.mem_map, List.mem_filter] at h
  obtain ⟨a, ⟨ha, hp⟩, rfl⟩ := h
  exact Inc.find_good fs codebase config fuel a ha p (by simpa using hp)

/-- the list the driver prints (`reachinc`: `attributedFiles`, repetitions removed) has the same members -/
theorem attributedFiles_mem (st : Inc.PState) (p f : String) : f ∈ st.attributedFiles p ↔ f ∈ st.attributedTo p := by
  simp [Inc.PState.attributedFiles]

/-- a platform without configuration entries is attributed nothing, whatever the code base contains -/
theorem no_entry_no_attribution (fs : FS) (codebase : List String) (config : List (String × List CbiVerif.PP.Entry))
    (fuel : Nat) (p : String) (h : ∀ pe ∈ config, pe.1 = p → pe.2 = []) :
    (Inc.find fs codebase config fuel).attributedTo p = [] := by
  apply List.eq_nil_iff_forall_not_mem.mpr
  intro f hf
  obtain ⟨pe, hpe, hp, e, he, _⟩ := attributed_files_reachable fs codebase config fuel f p hf
  rw [h pe hpe hp] at he
  cases he

/-- a file that no entry of `p` reaches is not attributed to `p` (contrapositive; this is what the decoy files of the
harness exercise) -/
theorem unreached_not_attributed (fs : FS) (codebase : List String) (config : List (String × List CbiVerif.PP.Entry))
    (fuel : Nat) (f p : String)
    (h : ∀ pe ∈ config, pe.1 = p → ∀ e ∈ pe.2, ¬ Inc.ReachE fs (parseAll fs) e f) :
    f ∉ (Inc.find fs codebase config fuel).attributedTo p := by
  intro hf
  obtain ⟨pe, hpe, hp, e, he, root, hr, hreach⟩ := attributed_files_reachable fs codebase config fuel f p hf
  exact h pe hpe hp e he ⟨root, hr, hreach⟩

/-! ## the composed model: `load_database`, then `finder.find` on what it returns -/

variable {α : Type}

/-- a loaded entry as `finder.find` receives it; `defs` / `forced` read the `-D` / `-include` values off the pass -/
def toEntry (defs forced : α → List String) (o : Out α) : CbiVerif.PP.Entry :=
  { file := String.ofList o.file, defines := defs o.pass,
    includePaths := o.includePaths.map String.ofList, includeFiles := forced o.pass }

/-- the files attributed to the platform by the model of `finder.find` run on the loaded entries -/
def attributedModel (fs : FS) (codebase : List String) (fuel : Nat) (pname : String) (defs forced : α → List String)
    (outs : List (Out α)) : List Str :=
  ((Inc.find fs codebase [(pname, outs.map (toEntry defs forced))] fuel).attributedTo pname).map String.toList

/-- the model's include relation (its own parse of the file, its own resolution function) -/
def includesModel (fs : FS) (incs : List Str) (f g : Str) : Prop :=
  Includes fs (parseAll fs) (incs.map String.ofList) (String.ofList f) (String.ofList g)

/-- `os.path.realpath` of the model's file system -/
def realModel (fs : FS) (p : Str) : Str := (fs.realpath (String.ofList p)).toList

/-- `r` is what a `-include` name of the pass resolves to (searched like a quote include of the entry's file) -/
def forcedRootModel (fs : FS) (forced : α → List String) (file : Str) (incs : List Str) (a : α) (r : Str) : Prop :=
  ForcedRoot fs (String.ofList file) (incs.map String.ofList) (forced a) (String.ofList r)

/-- **only_named_files_forced** — full statement, `-include` roots explicit.  Every attributed file is reached, with the
resolved include directories of one pass of a kept entry of the database, from the (real path of the) resolved `file`
of that entry or from a file that one of the pass's `-include` names resolves to. -/
def only_named_files_forced (attributed : List (Out α) → List Str) (includes : List Str → Str → Str → Prop)
    (real : Str → Str) (forcedRoot : Str → List Str → α → Str → Prop) : Prop :=
  ∀ (cwd root : Str) (ex : Str → Bool) (parse : List Str → List (α × List Str)) (db : List Cmd)
    (outs : List (Out α)) (logs : List Log),
    loadList cwd root ex parse db = .ok (outs, logs) →
    ∀ f ∈ attributed outs, ∃ c ∈ db, ∃ argv, Kept cwd root ex c argv ∧ ∃ p ∈ parse argv, ∃ r,
      (r = real (entryPath cwd root c) ∨
        forcedRoot (entryPath cwd root c) (p.2.map fun i => abspath cwd (join (filedir cwd root c.directory) i)) p.1 r) ∧
      Reach includes (p.2.map fun i => abspath cwd (join (filedir cwd root c.directory) i)) r f

/-- the database layer's share of `only_named_files_forced` (as `only_named_files_partial`, with forced roots) -/
theorem only_named_files_forced_of_find (attributed : List (Out α) → List Str) (includes : List Str → Str → Str → Prop)
    (real : Str → Str) (forcedRoot : Str → List Str → α → Str → Prop)
    (hfind : ∀ outs f, f ∈ attributed outs → ∃ o ∈ outs, ∃ r,
      (r = real o.file ∨ forcedRoot o.file o.includePaths o.pass r) ∧ Reach includes o.includePaths r f) :
    only_named_files_forced attributed includes real forcedRoot := by
  intro cwd root ex parse db outs logs h f hf
  obtain ⟨o, ho, r, hr, hreach⟩ := hfind outs f hf
  obtain ⟨c, hc, argv, hk, p, hp, rfl⟩ := outs_from_kept cwd root ex parse db outs logs h o ho
  exact ⟨c, hc, argv, hk, p, hp, r, hr, hreach⟩

theorem reach_toList (fs : FS) (incs : List Str) (root f : String)
    (h : Inc.Reach (Includes fs (parseAll fs) (incs.map String.ofList)) root f) :
    Reach (includesModel fs) incs root.toList f.toList := by
  induction h with
  | self => exact .self
  | step _ hg ih => exact .step ih (by simpa [includesModel] using hg)

/-- the hypothesis `hfind` of the database layer, discharged for the model of `finder.find` -/
theorem find_model_reach (fs : FS) (codebase : List String) (fuel : Nat) (pname : String) (defs forced : α → List String)
    (outs : List (Out α)) (f : Str) (hf : f ∈ attributedModel fs codebase fuel pname defs forced outs) :
    ∃ o ∈ outs, ∃ r, (r = realModel fs o.file ∨ forcedRootModel fs forced o.file o.includePaths o.pass r) ∧
      Reach (includesModel fs) o.includePaths r f := by
  simp only [attributedModel, List.mem_map] at hf
  obtain ⟨g, hg, rfl⟩ := hf
  obtain ⟨pe, hpe, _, e, he, root, hroot, hreach⟩ := attributed_files_reachable fs codebase _ fuel g pname hg
  simp only [List.mem_singleton] at hpe
  subst hpe
  simp only [List.mem_map] at he
  obtain ⟨o, ho, rfl⟩ := he
  refine ⟨o, ho, root.toList, ?_, reach_toList fs o.includePaths root g hreach⟩
  rcases hroot with rfl | hr
  · exact .inl rfl
  · exact .inr (by simpa [forcedRootModel, toEntry] using hr)

/-- **only_named_files_model.**  `only_named_files_forced` holds for the composed model - `load_database` followed by
`finder.find` on the entries it returns - for every file system, code base, include-depth bound, platform name and
every way of reading `-D` / `-include` values off a pass; no hypothesis is left. -/
theorem only_named_files_model (fs : FS) (codebase : List String) (fuel : Nat) (pname : String)
    (defs forced : α → List String) :
    only_named_files_forced (attributedModel fs codebase fuel pname defs forced) (includesModel fs) (realModel fs)
      (forcedRootModel fs forced) :=
  only_named_files_forced_of_find _ _ _ _ (find_model_reach fs codebase fuel pname defs forced)

/-- **only_named_files** (the statement of `Props/C13.lean`, entry's file as only root) for the composed model when
commands carry no `-include` and the tree has no symbolic links (real path = path). -/
theorem only_named_files_model_plain (fs : FS) (hl : fs.links = []) (codebase : List String) (fuel : Nat) (pname : String)
    (defs : α → List String) :
    only_named_files (attributedModel fs codebase fuel pname defs (fun _ => [])) (includesModel fs) :=
  only_named_files_partial _ _ fun outs f hf => by
    obtain ⟨o, ho, r, hr, hreach⟩ := find_model_reach fs codebase fuel pname defs (fun _ => []) outs f hf
    refine ⟨o, ho, ?_⟩
    rcases hr with rfl | ⟨inc, hinc, _⟩
    · have hreal : realModel fs o.file = o.file := by
        simp [realModel, Inc.realpath_id fs hl]
      rwa [hreal] at hreach
    · cases hinc

/-! ## non-vacuity (kernel-checked by evaluation of the definitions above) -/

/-- `/r/src/a.c` includes `<h.h>`, found through `-I inc`.  Decoys that no entry names and nothing reached includes:
a header in the `-I` directory, a header with the included header's base name beside the source file (not searched
for the angle form), a source file in the source's directory that itself includes a header, a header that is
only named by `-include` in the second example. -/
def fsD : FS := { files := [
  ("/r/src/a.c", "#include <h.h>\nint a;\n"),
  ("/r/inc/h.h", "int h;\n"),
  ("/r/inc/decoy.h", "int d;\n"),
  ("/r/src/h.h", "int other;\n"),
  ("/r/src/decoy.c", "#include \"h.h\"\nint z;\n"),
  ("/r/inc/pre.h", "int p;\n")] }
/-- all of them are in the code base (parsed, reported), so "unattributed" is not "unknown" -/
def cbD : List String := ["/r/src/a.c", "/r/inc/h.h", "/r/inc/decoy.h", "/r/src/h.h", "/r/src/decoy.c", "/r/inc/pre.h"]
def dbD : List Cmd :=
  [{ file := "src/a.c".toList, directory := some "/r".toList, command := some "gcc -I inc -c src/a.c".toList }]
def exD : Str → Bool := fun p => p == "/r/src/a.c".toList
/-- a stand-in argument parser: pass name, `-I` values; the pass `"forced"` carries `-include pre.h` -/
def parseD (pass : String) : List Str → List (String × List Str) := fun argv => [(pass, argv.filter (· == "inc".toList))]
def forcedD : String → List String := fun pass => if pass == "forced" then ["pre.h"] else []

deriving instance DecidableEq for CbiVerif.PP.PNode, Inc.Parsed, Except

/-- `parseAll fsD`, written out: the examples below evaluate the analysis over it, and each file is parsed once -/
def pfsD : Inc.ParsedFS :=
  let plain : Except CbiVerif.PP.Err Inc.Parsed := .ok ⟨#[⟨.code, [1], [], "", none⟩], [⟨0, .code, 0⟩], []⟩
  [("/r/src/a.c", .ok ⟨#[⟨.«include», [1], [⟨.op, "<", true, true⟩, ⟨.ident, "h", false, true⟩, ⟨.punct, ".", false, true⟩,
        ⟨.ident, "h", false, true⟩, ⟨.op, ">", false, true⟩], "", none⟩, ⟨.code, [2], [], "", none⟩],
      [⟨0, .other, 0⟩, ⟨1, .code, 0⟩], [⟨1, true, 7, "include", "#include <h.h>"⟩]⟩),
   ("/r/inc/h.h", plain), ("/r/inc/decoy.h", plain), ("/r/src/h.h", plain),
   ("/r/src/decoy.c", .ok ⟨#[⟨.«include», [1], [⟨.str, "h.h", true, true⟩], "", none⟩, ⟨.code, [2], [], "", none⟩],
      [⟨0, .other, 0⟩, ⟨1, .code, 0⟩], [⟨1, true, 3, "include", "#include \"h.h\""⟩]⟩),
   ("/r/inc/pre.h", plain)]

theorem parseAll_fsD : parseAll fsD = pfsD := by
  rw [fsD]
  repeat rw [Inc.parseAll_cons]
  decide +kernel

/-- the composed model on this tree: the entry's file and the header it includes through `-I` are attributed, none of
the decoys is (hypotheses of `only_named_files_model` / `only_named_files_model_plain`: none besides `fs.links = []`) -/
example : fsD.links = [] ∧
    (loadList "/w".toList "/r".toList exD (parseD "default") dbD).toOption.map (fun r =>
      (attributedModel fsD cbD 8 "p" (fun _ => []) (fun _ => []) r.1).eraseDups)
    = some ["/r/inc/h.h".toList, "/r/src/a.c".toList] := by
  simp only [attributedModel, Inc.find, Inc.findWith, parseAll_fsD]
  -- `"…".toList` of a literal becomes its list of characters here; the kernel would get it by decoding UTF-8
  unfold dbD exD parseD
  repeat rw [String.toList_ofList]
  decide +kernel

/-- with `-include pre.h` the forced header IS attributed although nothing includes it: the roots of
`only_named_files_forced` are needed, and the other decoys stay unattributed -/
example :
    (loadList "/w".toList "/r".toList exD (parseD "forced") dbD).toOption.map (fun r =>
      (attributedModel fsD cbD 8 "p" (fun _ => []) forcedD r.1).eraseDups)
    = some ["/r/inc/pre.h".toList, "/r/inc/h.h".toList, "/r/src/a.c".toList] := by
  simp only [attributedModel, Inc.find, Inc.findWith, parseAll_fsD]
  unfold dbD exD parseD
  repeat rw [String.toList_ofList]
  decide +kernel

theorem includes_a_h : Includes fsD (parseAll fsD) ["/r/inc"] "/r/src/a.c" "/r/inc/h.h" :=
  Inc.includes_of_check fsD (parseAll fsD) ["/r/inc"] "/r/src/a.c" 0 "/r/inc/h.h" (by rw [parseAll_fsD]; decide +kernel)

/-- the instantiated include relation holds between the two attributed files (so `Reach` has a non-trivial step), and the
forced root is a `ForcedRoot` -/
example : includesModel fsD ["/r/inc".toList] "/r/src/a.c".toList "/r/inc/h.h".toList := includes_a_h
example : Reach (includesModel fsD) ["/r/inc".toList] "/r/src/a.c".toList "/r/inc/h.h".toList :=
  .step .self includes_a_h
example : forcedRootModel fsD forcedD "/r/src/a.c".toList ["/r/inc".toList] "forced" "/r/inc/pre.h".toList :=
  ⟨"pre.h", by decide, "/r/inc/pre.h", by decide +kernel, by decide +kernel⟩

/-- `attributed_files_reachable` / `no_entry_no_attribution` on two platforms over the same tree: `q` has no entries and
gets nothing although every file is in the code base; `p` gets the two reached files -/
example :
    let st := Inc.find fsD cbD [("p", [⟨"/r/src/a.c", [], ["/r/inc"], []⟩]), ("q", [])] 8
    (st.attributedFiles "p", st.attributedFiles "q", st.inserted.length) = (["/r/inc/h.h", "/r/src/a.c"], [], 6) := by
  simp only [Inc.find, Inc.findWith, parseAll_fsD]
  decide +kernel

end CbiVerif.C13
