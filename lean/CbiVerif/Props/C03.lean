import CbiVerif.Lemmas.MacroObjTop
import CbiVerif.Lemmas.MacroBackstop
import CbiVerif.Lemmas.MacroDefinedList
import CbiVerif.Lemmas.MacroDefine
import CbiVerif.Lemmas.MacroObjSpec
import CbiVerif.Lemmas.MacroPlainCheck
import CbiVerif.Spec.Prosser
import CbiVerif.Lemmas.SpecLexChars
import CbiVerif.Lemmas.MacroFunSpecC
import CbiVerif.Lemmas.LexLiteral
/-! # C03 — macro definition and expansion conform to the C standard

Model `M` = `CbiVerif.MX.cbiExpand` (the step machine the driver executes), spec `S` = `CbiVerif.Spec.Prosser.prosser`.

* `Full` — the full-strength statement (**false** for the code: `full_fails` in `Props/C03Stringify.lean`, by the remaining
  finding D42; `D42_witness` (same file), `D12_witness_small` pin the findings that are still open, each is replayed on the real code by the
  harness);
* repaired findings as positive statements: `D9_fixed`, `D9_chain_fixed`, `D10_fixed` (`#`: white space, character constants,
  escapes; details in `Props/C03Stringify.lean`), `D11_fixed` (+ `D11_regression`: what the machine
  did before the repair), `D35_fixed`, `D36_fixed`, `D37_fixed`, `D43_fixed`, `D44_fixed`, `literals_not_substituted`, `D40_fixed`, `D41_fixed`, `argument_tokens_not_substituted`;
* `object_like_partial` (model = recursive reference `E` started with nothing disabled), `object_like_conforms_partial` (model =
  `Spec.Prosser` itself on object-like tables without `##`/`defined`; macros named `None` included), `terminates_objlike_partial`,
  `no_backstop_objlike` — proved part of `Full`/termination;
* `backstop` — every table: never more than `max_level` nested streams; `backstop_result` — what the backstop returns;
* `defined_operator_plain/_paren`, `defined_never_expands` — every table;
* `cmdline_define_equiv_*` — `-DNAME`, `-DNAME=v`, `-D'NAME(args)=v'` ≡ the `#define` line (token lists).

Function-like macros without `#` / `##` / variadic parameters: `Props/C03FunLike.lean` (`funlike_partial`: model = recursive
reference `Ref` on the decidable fragment `fitsb`; `terminates_funlike_partial`, `no_backstop_funlike`; `FunLikeFull` = what
remains open) and `Props/C03FunConf.lean` (`funlike_conforms_partial`, `funlike_simple_conforms_partial`: model = `Spec.Prosser` itself
where calls have exact arity and call arguments hold no macro name; `ref_vs_prosser_witness`: why not on all of `fitsb`;
`D44_fixed` below: literals spelled `,` `(` `)` in calls).

Macros with `#` / `##`: `Props/C03Strcat.lean` (`strcat_partial`: model = the recursive reference `RefS` built on the model of
`MacroFunction.replace`; `StrcatConformsFull` = what remains open against the specification).

Not proved (covered by correspondence + Prosser spec + gcc oracle only): `#`, `##` against the specification, variadic parameters; function-like calls
completed by tokens outside the token list that holds the macro name; the function-like reference against `Spec.Prosser` for
calls whose arguments hold macro names;
termination outside the proved fragments (the model is total by fuel, the real code is observed under a time limit). -/
namespace CbiVerif.C03
open CbiVerif.PP CbiVerif.MX

/-! ## the full statement -/

/-- **C03 at full strength**: whenever the specification (Prosser's algorithm = ISO C 6.10.3) assigns a token sequence to
    (command-line definitions, `#define` lines, text), the model of CBI's expander returns the same spellings. -/
def Full : Prop :=
  ∀ (cmd defs : List String) (text : String) (out : List CbiVerif.Spec.Prosser.T),
    CbiVerif.Spec.Prosser.prosser (cmd.map CbiVerif.Spec.Prosser.cmdlineToDefine ++ defs) text = .ok out →
    expandText cmd defs text = .ok (out.map (·.text))

/-- the nesting limit the code documents ("cpp has been implemented to handle 200") -/
theorem maxLevel_documented : CbiVerif.Gen.maxLevel = 200 := by decide

/-! ## object-like tables (any size, self- and mutually recursive definitions included) -/

/-- **object-like fragment of `Full`** (model side): for every table of object-like macros (`TblOK`: no parameters, keyed by
    their own name, no `defined` in bodies) with `|tbl| + 2 < max_level` and every text without `defined`, the stack machine
    returns exactly the recursive hide-set expansion `E` with nesting budget `|tbl| + 1`, started with no name disabled —
    no error, no backstop, fuel not exhausted. -/
theorem object_like_partial (tbl : Table) (ts : List Tok) (hT : TblOK tbl) (hnd : NoDef ts)
    (hsz : tbl.length + 2 < CbiVerif.Gen.maxLevel) :
    cbiExpand tbl ts = .ok (E tbl (tbl.length + 1) [] ts) :=
  cbiExpand_obj tbl hT ts hnd hsz

/-- the hypotheses are satisfiable by a self- and mutually-recursive table; the result is the C standard's -/
example :
    let tbl : Table := [("AA", ⟨"AA", none, false, false, [], [⟨.ident, "BB", false, true⟩]⟩),
                        ("BB", ⟨"BB", none, false, false, [], [⟨.ident, "AA", false, true⟩, ⟨.ident, "CC", true, true⟩]⟩),
                        ("CC", ⟨"CC", none, false, false, [], [⟨.ident, "AA", false, true⟩, ⟨.ident, "CC", true, true⟩]⟩)]
    TblOK tbl ∧ NoDef [⟨.ident, "AA", false, true⟩] ∧ tbl.length + 2 < CbiVerif.Gen.maxLevel ∧
      (match cbiExpand tbl [⟨.ident, "AA", false, true⟩] with | .ok r => r.map (·.text) | _ => []) = ["AA", "AA", "CC"] := by
  refine ⟨tblOK_of_check _ (by decide +kernel), noDef_of_check _ (by decide +kernel), by decide, by decide +kernel⟩

/-- **object-like fragment of `Full`, against the specification itself**: for every table of object-like macros whose
    replacement lists contain no `##` and no `defined`, every such text, `|tbl| + 2 < max_level`, and as long as the
    specification's own fuel covers the expansion, the model of CBI's expander and Prosser's hide-set algorithm
    (`Spec.Prosser.expand`) produce the same spellings — self- and mutually recursive definitions included, and (finding D35
    being repaired) macros and identifiers named `None` included. -/
theorem object_like_conforms_partial (tbl : Table) (ts : List Tok) (hT : PlainTbl tbl) (hts : ∀ t ∈ ts, PlainTok t) (hnd : NoDef ts)
    (hsz : tbl.length + 2 < CbiVerif.Gen.maxLevel)
    (hfuel : ts.length * Cb (bodyMax tbl) (tbl.length + 1) < CbiVerif.Spec.Prosser.defaultFuel) :
    ∃ r out, cbiExpand tbl ts = .ok r ∧
      CbiVerif.Spec.Prosser.prosserToks (specTable tbl) (ts.map (toSpec [])) = .ok out ∧
      r.map spellTok = out.map (·.text) := by
  obtain ⟨out, ho, he⟩ := E_eq_prosser tbl hT ts hts hfuel
  exact ⟨_, out, object_like_partial tbl ts hT.ok hnd hsz, ho, he.symm⟩

/-- the hypotheses hold for the C standard's own example of mutual recursion (C11 6.10.3.4) -/
example :
    let tbl : Table := [("AA", ⟨"AA", none, false, false, [], [⟨.ident, "BB", false, true⟩]⟩),
                        ("BB", ⟨"BB", none, false, false, [], [⟨.ident, "AA", false, true⟩, ⟨.ident, "CC", true, true⟩]⟩),
                        ("CC", ⟨"CC", none, false, false, [], [⟨.ident, "AA", false, true⟩, ⟨.ident, "CC", true, true⟩]⟩)]
    let ts : List Tok := [⟨.ident, "AA", false, true⟩]
    plainTblb tbl = true ∧ ts.all plainTokb = true ∧ ts.length * Cb (bodyMax tbl) (tbl.length + 1) < CbiVerif.Spec.Prosser.defaultFuel := by
  decide +kernel

/-- … and for a table that defines and uses a macro named `None` (finding D35) -/
example :
    let tbl : Table := [("None", ⟨"None", none, false, false, [], [⟨.num, "1", false, true⟩, ⟨.ident, "None", true, true⟩]⟩)]
    let ts : List Tok := [⟨.ident, "None", false, true⟩]
    plainTblb tbl = true ∧ ts.all plainTokb = true ∧ ts.length * Cb (bodyMax tbl) (tbl.length + 1) < CbiVerif.Spec.Prosser.defaultFuel ∧
      (match cbiExpand tbl ts with | .ok r => r.map (·.text) | _ => []) = ["1", "None"] := by
  decide +kernel

/-- **termination (object-like)**: the fuel `fuelFor tbl ts` granted by `cbiExpand` suffices -/
theorem terminates_objlike_partial (tbl : Table) (ts : List Tok) (hT : TblOK tbl) (hnd : NoDef ts)
    (hsz : tbl.length + 2 < CbiVerif.Gen.maxLevel) : cbiExpand tbl ts ≠ .fuel := by
  rw [object_like_partial tbl ts hT hnd hsz]; exact fun h => XR.noConfusion h

/-- **no backstop (object-like)**: the run with nesting limit `|tbl| + 3` gives the same result as the real limit: the
    200-level backstop plays no role for object-like tables with `|tbl| + 2 < max_level` -/
theorem no_backstop_objlike (tbl : Table) (ts : List Tok) (hT : TblOK tbl) (hnd : NoDef ts)
    (hsz : tbl.length + 2 < CbiVerif.Gen.maxLevel) :
    cbiExpand tbl ts = expandWith { lim := tbl.length + 3 } tbl (fuelFor tbl ts) ts := by
  rw [object_like_partial tbl ts hT hnd hsz]
  exact (expandWith_obj { lim := tbl.length + 3 } tbl hT ts hnd (by simp) (fuelFor tbl ts)
    (by unfold fuelFor; omega)).symm

/-! ## every table: the backstop -/

/-- **backstop**: for *every* table (function-like macros, `#`, `##`, recursion of any kind) and every text, no state
    reachable by the loop has more than `max_level` nested token streams -/
theorem backstop (tbl : Table) (ts : List Tok) (k : Nat) (s : MS)
    (h : runK realCfg tbl k (initState ts) = some s) : s.stack.length ≤ CbiVerif.Gen.maxLevel := by
  have h0 : (initState ts).stack.length ≤ realCfg.lim := by
    simp only [initState, List.length_cons, List.length_nil, realCfg]; rw [maxLevel_documented]; omega
  exact runK_inv realCfg tbl k _ s h0 h

/-- **what the backstop returns** (finding D12): when an enabled object-like macro name is met while `max_level - 1` streams
    are already nested (no suspended argument pre-expansion), the whole expansion is replaced by the single token `0` -/
theorem backstop_result (c : Cfg) (tbl : Table) (P R : List (Option Tok)) (t : Tok) (m : Macro) (pr : Bool) (S : List MX.Helper)
    (D : NoExp) (n : Nat)
    (hk : t.kind = .ident) (hd : t.text ≠ "defined") (he : t.expandable = true) (hD : D.contains (some t.text) = false)
    (hm : tbl.get t.text = some m) (ho : m.args = none) (hdeep : S.length + 2 ≥ c.lim) :
    run c tbl (n + 2) ⟨⟨P ++ some t :: R, P.length, pr⟩ :: S, D, [], none⟩ = .ok [zeroTok] := by
  have hq : (!t.expandable || D.contains (some t.text)) = false := by rw [he, hD]; rfl
  have h1 : step c tbl ⟨⟨P ++ some t :: R, P.length, pr⟩ :: S, D, [], none⟩ = .cont (overflowState []) := by
    rw [step_object c tbl P R pr S D [] t hk hd hq m hm ho, if_pos hdeep]
  have h2 : step c tbl (overflowState []) = .done [zeroTok] := step_ret c tbl [] [] [] [zeroTok]
  have e : n + 2 = (n + 1) + 1 := by omega
  rw [e]; simp only [run, h1, h2]

example : ∃ (c : Cfg) (tbl : Table) (t : Tok) (m : Macro) (S : List MX.Helper),
    t.kind = .ident ∧ t.text ≠ "defined" ∧ t.expandable = true ∧ tbl.get t.text = some m ∧ m.args = none ∧ S.length + 2 ≥ c.lim :=
  ⟨⟨2, true⟩, [("A", ⟨"A", none, false, false, [], []⟩)], ⟨.ident, "A", false, true⟩, ⟨"A", none, false, false, [], []⟩, [],
    rfl, by decide, rfl, rfl, rfl, by decide⟩

/-! ## `defined` -/

/-- **`defined X`**: for every table, every context (prefix, rest of the stream, lower streams, disabled names, suspended
    calls) one iteration replaces the two tokens by the number `1`/`0` read from the table and moves past it: `X` is consumed,
    never looked up for expansion -/
theorem defined_operator_plain (c : Cfg) (tbl : Table) (P R : List (Option Tok)) (S : List MX.Helper) (D : NoExp) (F : List Frame)
    (pr : Bool) (dt x : Tok) (hd : dt.kind = .ident) (hdt : dt.text = "defined") (hx : x.kind = .ident) (hxp : x.text ≠ "(") :
    step c tbl ⟨⟨P ++ some dt :: some x :: R, P.length, pr⟩ :: S, D, F, none⟩
      = .cont ⟨⟨P ++ none :: some (numTok (if (tbl.get x.text).isSome then "1" else "0") x.pw) :: R, P.length + 2, pr⟩ :: S, D, F, none⟩ :=
  step_defined_plain c tbl P R S D F pr dt x hd hdt hx hxp

/-- **`defined ( X )`** -/
theorem defined_operator_paren (c : Cfg) (tbl : Table) (P R : List (Option Tok)) (S : List MX.Helper) (D : NoExp) (F : List Frame)
    (pr : Bool) (dt lp x rp : Tok) (hd : dt.kind = .ident) (hdt : dt.text = "defined") (hlp : lp.text = "(") (hx : x.kind = .ident)
    (hrp : rp.text = ")") :
    step c tbl ⟨⟨P ++ some dt :: some lp :: some x :: some rp :: R, P.length, pr⟩ :: S, D, F, none⟩
      = .cont ⟨⟨P ++ none :: none :: none :: some (numTok (if (tbl.get x.text).isSome then "1" else "0") x.pw) :: R, P.length + 4, pr⟩ :: S, D, F, none⟩ :=
  step_defined_paren c tbl P R S D F pr dt lp x rp hd hdt hlp hx hrp

/-- top-level corollary: `#if defined X` never expands `X`, whatever `X` is defined as (object-like, function-like,
    recursive, …): the result is the single number token -/
theorem defined_never_expands (tbl : Table) (dt x : Tok) (hd : dt.kind = .ident) (hdt : dt.text = "defined") (hx : x.kind = .ident)
    (hxp : x.text ≠ "(") :
    cbiExpand tbl [dt, x] = .ok [numTok (if (tbl.get x.text).isSome then "1" else "0") x.pw] :=
  cbiExpand_defined_plain tbl dt x hd hdt hx hxp

example : ∃ dt x : Tok, dt.kind = .ident ∧ dt.text = "defined" ∧ x.kind = .ident ∧ x.text ≠ "(" :=
  ⟨⟨.ident, "defined", false, true⟩, ⟨.ident, "X", true, true⟩, rfl, rfl, rfl, by decide⟩

/-! ## command-line definitions ≡ `#define` lines (token lists; both go through `macroDefinition` and `makeMacro`) -/

/-- `-DNAME` ≡ `#define NAME 1` -/
theorem cmdline_define_equiv_flag (nm : Tok) (hn : nm.kind = .ident) (w w' : Bool) :
    macroFromDefinitionToks [nm] = defineFromToks [hashTok, defineTok, { nm with pw := w }, { oneTok with pw := w' }] := by
  have hn' : ({ nm with pw := w } : Tok).kind = .ident := hn
  rw [macroFromDefinitionToks_flag (macroDefinition_single nm hn),
    defineFromToks_eq, macroDefinition_obj _ _ _ hn' (by simp [oneTok])]
  exact (makeMacro_pw nm.text none oneTok [] w').symm

/-- `-DNAME=` ≡ `#define NAME` (empty replacement list) -/
theorem cmdline_define_equiv_empty (nm : Tok) (hn : nm.kind = .ident) (w : Bool) :
    macroFromDefinitionToks [nm, eqTok] = defineFromToks [hashTok, defineTok, { nm with pw := w }] := by
  have hn' : ({ nm with pw := w } : Tok).kind = .ident := hn
  rw [macroFromDefinitionToks_value (macroDefinition_obj nm eqTok [] hn (by simp [eqTok])),
    defineFromToks_eq, macroDefinition_single _ hn']

/-- `-DNAME=v` ≡ `#define NAME v` for every non-empty token list `v` (white space before `v` is irrelevant) -/
theorem cmdline_define_equiv_value (nm b : Tok) (bs : List Tok) (hn : nm.kind = .ident) (w : Bool) :
    macroFromDefinitionToks (nm :: eqTok :: b :: bs)
      = defineFromToks (hashTok :: defineTok :: { nm with pw := w } :: { b with pw := true } :: bs) := by
  have hn' : ({ nm with pw := w } : Tok).kind = .ident := hn
  rw [macroFromDefinitionToks_value (macroDefinition_obj nm eqTok (b :: bs) hn (by simp [eqTok])),
    defineFromToks_eq, macroDefinition_obj _ _ _ hn' (by simp)]
  exact (makeMacro_pw nm.text none b bs true).symm

/-- `-D'NAME(args)=v'` ≡ `#define NAME(args) v`: `A` = the tokens between the parentheses, accepted by the parameter-list
    parser as `args` whatever follows the closing parenthesis -/
theorem cmdline_define_equiv_function (nm b : Tok) (A bs : List Tok) (args : List String) (hn : nm.kind = .ident) (w : Bool)
    (hA : ∀ r, parseArgList (A ++ rparenTok :: r) = (args, rparenTok :: r)) :
    macroFromDefinitionToks (nm :: lparenTok :: (A ++ rparenTok :: eqTok :: b :: bs))
      = defineFromToks (hashTok :: defineTok :: { nm with pw := w } :: lparenTok :: (A ++ rparenTok :: { b with pw := true } :: bs)) := by
  have hn' : ({ nm with pw := w } : Tok).kind = .ident := hn
  rw [macroFromDefinitionToks_value (macroDefinition_fun nm A args _ hn (hA _)),
    defineFromToks_eq, macroDefinition_fun _ A args _ hn' (hA _)]
  exact (makeMacro_pw nm.text (some args) b bs true).symm

/-- `-D'NAME(args)'` ≡ `#define NAME(args) 1` -/
theorem cmdline_define_equiv_function_flag (nm : Tok) (A : List Tok) (args : List String) (hn : nm.kind = .ident) (w w' : Bool)
    (hA : ∀ r, parseArgList (A ++ rparenTok :: r) = (args, rparenTok :: r)) :
    macroFromDefinitionToks (nm :: lparenTok :: (A ++ [rparenTok]))
      = defineFromToks (hashTok :: defineTok :: { nm with pw := w } :: lparenTok :: (A ++ [rparenTok, { oneTok with pw := w' }])) := by
  have hn' : ({ nm with pw := w } : Tok).kind = .ident := hn
  rw [macroFromDefinitionToks_flag (macroDefinition_fun nm A args [] hn (hA _)),
    defineFromToks_eq, macroDefinition_fun _ A args [_] hn' (hA _)]
  exact (makeMacro_pw nm.text (some args) oneTok [] w').symm

/-- the parameter-list hypothesis holds, e.g., for `x, y` -/
example : ∀ r, parseArgList ([⟨.ident, "x", false, true⟩, ⟨.punct, ",", false, true⟩, ⟨.ident, "y", true, true⟩] ++ rparenTok :: r)
    = (["x", "y"], rparenTok :: r) := by
  have e1 : ("x".endsWith "...") = false := by decide +kernel
  have e2 : ("y".endsWith "...") = false := by decide +kernel
  intro r
  rcases r with _ | ⟨b, _ | ⟨c, r⟩⟩ <;> simp [parseArgList, parseArg, parseArgList.go, rparenTok, e1, e2]

/-- on concrete texts (lexer included): the three forms of the property text -/
example : (defineCmdline "NAME").toOption.map (·.replacement) = (defineLine "#define NAME 1").toOption.map (·.replacement) := by
  rw [defineCmdline, defineLine, tokenize_ofList, tokenize_ofList]
  decide +kernel
example : (defineCmdline "F(x,y)=x+y*2").toOption.map (fun m => (m.name, m.args, m.needsExp, m.replacement))
    = (defineLine "#define F(x,y) x+y*2").toOption.map (fun m => (m.name, m.args, m.needsExp, m.replacement)) := by
  rw [defineCmdline, defineLine, tokenize_ofList, tokenize_ofList]
  decide +kernel

/-! ## findings: repaired ones as positive statements (model = spec on the former witnesses), open ones as witnesses of
   model ≠ spec (each is replayed on the real code by the harness) -/

open CbiVerif.Spec.Prosser in
/-- spellings the specification assigns (`none` = outside well-formedness) -/
def specText (defs : List String) (text : String) : Option (List String) :=
  match prosser defs text with
  | .ok out => some (out.map (·.text))
  | .error _ => none

section
open CbiVerif.Spec.Prosser

theorem specText_eq_some {defs : List String} {text : String} {l : List String} (h : specText defs text = some l) :
    ∃ out, prosser defs text = .ok out ∧ out.map (·.text) = l := by
  unfold specText at h
  cases hp : prosser defs text with
  | error e => rw [hp] at h; cases h
  | ok out => rw [hp] at h; exact ⟨out, rfl, Option.some.inj h⟩

/-- `parseDefine` on the tokens of the line -/
def parseDefineToks (ts : List T) : Except Unspec CbiVerif.Spec.Prosser.Macro :=
  match ts with
  | n :: r => do
    if n.kind != .id then throw (.badDefine "name")
    if n.text == "defined" then throw (.badDefine "defined cannot be a macro name")
    match r with
    | p :: r2 =>
      if isP p "(" && !p.ws then
        let (params, variadic, body) ← parseParams (r2.length + 1) r2 []
        checkBody (some params) variadic body
        pure ⟨n.text, some params, variadic, body⟩
      else
        checkBody none false r
        pure ⟨n.text, none, false, r⟩
    | [] => pure ⟨n.text, none, false, []⟩
  | [] => throw (.badDefine "name")

/-- the specification's `buildTable` on definitions already parsed -/
def buildFrom : List (Except Unspec CbiVerif.Spec.Prosser.Macro) → Macros → Except Unspec Macros
  | [], acc => .ok acc
  | .error e :: _, _ => .error e
  | .ok m :: r, acc => if (acc.get m.name).isSome then .error (.badDefine "redefinition") else buildFrom r (acc ++ [m])

theorem buildTable_eq (ds : List String) (acc : Macros) :
    CbiVerif.Spec.Prosser.buildTable ds acc = buildFrom (ds.map fun d => lex d >>= parseDefineToks) acc := by
  induction ds generalizing acc with
  | nil => rfl
  | cons d r ih =>
    have hd : parseDefine d = (lex d >>= parseDefineToks) := rfl
    rw [CbiVerif.Spec.Prosser.buildTable, hd, List.map_cons]
    cases lex d >>= parseDefineToks with
    | error e => rfl
    | ok m => simp only [buildFrom, ih]

/-- the specification on definitions and a text given by their characters (cf. `expandText_ofChars`) -/
theorem specText_ofChars (defs : List (List Char)) (text : List Char) :
    specText (defs.map String.ofList) (String.ofList text) =
      match (do let ms ← buildFrom (defs.map fun (d : List Char) => lexL (d.length + 1) d [] >>= parseDefineToks) []
                let ts ← lexL (text.length + 1) text []
                expand ms defaultFuel true ts [] : Except Unspec (List T)) with
      | .ok out => some (out.map (·.text))
      | .error _ => none := by
  simp only [specText, prosser, buildTable_eq, List.map_map, Function.comp_def, lex_ofList]

end

/-- D9 (repaired): an empty argument as an operand of `##` is a placemarker -/
theorem D9_fixed : expandText [] ["CAT(a,b) a##b"] "CAT(x,) CAT(,y) CAT(,) CAT(x,y)" = .ok ["x", "y", "xy"] ∧
    specText ["CAT(a,b) a##b"] "CAT(x,) CAT(,y) CAT(,) CAT(x,y)" = some ["x", "y", "xy"] :=
  ⟨(expandText_ofChars [] [_] _).trans (by decide +kernel), (specText_ofChars [_] _).trans (by decide +kernel)⟩

/-- D9 (repaired), chains: two empty operands give a placemarker, which is the left operand of the next `##` — not the token in
    front of the chain -/
theorem D9_chain_fixed : expandText [] ["CAT3(a,b,c) q a##b##c"] "CAT3(,,z) CAT3(x,,z) CAT3(,,)" = .ok ["q", "z", "q", "xz", "q"] ∧
    specText ["CAT3(a,b,c) q a##b##c"] "CAT3(,,z) CAT3(x,,z) CAT3(,,)" = some ["q", "z", "q", "xz", "q"] :=
  ⟨(expandText_ofChars [] [_] _).trans (by decide +kernel), (specText_ofChars [_] _).trans (by decide +kernel)⟩

/-- D10 (repaired): `#` deletes white space before the first and after the last token of the argument and keeps the quotes of
    a character constant (C11 6.10.3.2p2); the general statements are in `Props/C03Stringify.lean` -/
theorem D10_fixed : expandText [] ["STR(x) #x"] "STR( a ) STR('a')" = .ok ["\"a\"", "\"'a'\""] ∧
    specText ["STR(x) #x"] "STR( a ) STR('a')" = some ["\"a\"", "\"'a'\""] :=
  ⟨(expandText_ofChars [] [_] _).trans (by decide +kernel), (specText_ofChars [_] _).trans (by decide +kernel)⟩

/-- D11 (repaired): `f(a) a*g`, `g(a) f(a)`: the call `g(9)` is completed by the tokens that follow `f(2)` -/
theorem D11_fixed : expandText [] ["f(a) a*g", "g(a) f(a)"] "f(2)(9)" = .ok ["2", "*", "9", "*", "g"] ∧
    specText ["f(a) a*g", "g(a) f(a)"] "f(2)(9)" = some ["2", "*", "9", "*", "g"] :=
  ⟨(expandText_ofChars [] [_, _] _).trans (by decide +kernel), (specText_ofChars [_, _] _).trans (by decide +kernel)⟩

/-- what D11 was: the same machine with `splice` leaving the read position before the spliced-in tokens (`adv := false`)
    swallows the replacement's own tokens and expands `f(2)(9)` to nothing -/
theorem D11_regression :
    (match buildTable [] ["f(a) a*g", "g(a) f(a)"] with
     | .ok tbl => (match expandWith { lim := CbiVerif.Gen.maxLevel, adv := false } tbl 1000 (tokenize "f(2)(9)") with
        | .ok r => some (r.map spellTok) | _ => none)
     | .error _ => none) = some [] := by lex_decide

/-- D35 (repaired): a macro named `None` is an ordinary macro (the general statement is `object_like_conforms_partial`, which
    covers the name) -/
theorem D35_fixed : expandText ["None=1"] [] "None" = .ok ["1"] ∧ specText ["None 1"] "None" = some ["1"] :=
  ⟨(expandText_ofChars _ [] _).trans (by decide +kernel), (specText_ofChars [_] _).trans (by decide +kernel)⟩

/-- D36 (repaired): a variadic macro that does not name its variadic parameter can be called -/
theorem D36_fixed : expandText [] ["V(...) 1"] "V(2) V() V(1,2)" = .ok ["1", "1", "1"] ∧
    specText ["V(...) 1"] "V(2) V() V(1,2)" = some ["1", "1", "1"] :=
  ⟨(expandText_ofChars [] [_] _).trans (by decide +kernel), (specText_ofChars [_] _).trans (by decide +kernel)⟩

/-- D43 (repaired): the arguments beyond the named parameters of a variadic macro belong to `__VA_ARGS__`: when the
    replacement list does not use it they are not macro-expanded, so a call in them that could not be expanded (`H()` for a
    two-parameter `H`) does no harm, exactly as for an unused named parameter -/
theorem D43_fixed : expandText [] ["V(x,...) x", "H(a,b) 1"] "V(2, 3, H())" = .ok ["2"] ∧
    specText ["V(x,...) x", "H(a,b) 1"] "V(2, 3, H())" = some ["2"] :=
  ⟨(expandText_ofChars [] [_, _] _).trans (by decide +kernel), (specText_ofChars [_, _] _).trans (by decide +kernel)⟩

/-- D44 (repaired): only punctuators delimit the arguments of a call; a string or character literal spelled `,` `(` `)` is an
    ordinary argument token (the general statement is `funlike_conforms_partial`, whose token condition `CTok` admits
    such literals) -/
theorem D44_fixed : expandText [] ["F(x,y) x+y"] "F(\",\",2) F(\"(\",2) F(')',2)" = .ok ["\",\"", "+", "2", "\"(\"", "+", "2", "')'", "+", "2"] ∧
    specText ["F(x,y) x+y"] "F(\",\",2) F(\"(\",2) F(')',2)" = some ["\",\"", "+", "2", "\"(\"", "+", "2", "')'", "+", "2"] :=
  ⟨(expandText_ofChars [] [_] _).trans (by decide +kernel), (specText_ofChars [_] _).trans (by decide +kernel)⟩

/-- D37 (repaired): a string literal whose content is a parameter name is not a parameter -/
theorem D37_fixed : expandText [] ["F(x) \"x\" x"] "F(1)" = .ok ["\"x\"", "1"] ∧ specText ["F(x) \"x\" x"] "F(1)" = some ["\"x\"", "1"] :=
  ⟨(expandText_ofChars [] [_] _).trans (by decide +kernel), (specText_ofChars [_] _).trans (by decide +kernel)⟩

/-- D37 (repaired), for every parameter list and every argument list: the final substitution loop copies a token that is not
    an identifier, whatever its text -/
theorem literals_not_substituted (params : List String) (ia : List Arg) (t : Tok) (b : Bool) (rest : List (Tok × Bool)) (h : t.kind ≠ .ident) :
    substArgs params ia ((t, b) :: rest) = (match substArgs params ia rest with | .ok r => .ok (t :: r) | .error x => .error x) := by
  have hk : (t.kind == TKind.ident) = false := by simpa using h
  simp only [substArgs, paramIdx, hk, Bool.false_eq_true, if_false, ite_self]
  cases substArgs params ia rest <;> rfl

/-- D41 (repaired), for every parameter list and every argument list: a token that `#`/`##` produced from the arguments
    (marked `is_arg`) is copied by the final substitution loop even if it is spelled like a parameter -/
theorem argument_tokens_not_substituted (params : List String) (ia : List Arg) (t : Tok) (rest : List (Tok × Bool)) :
    substArgs params ia ((t, true) :: rest) = (match substArgs params ia rest with | .ok r => .ok (t :: r) | .error x => .error x) := by
  simp only [substArgs, if_true]
  cases substArgs params ia rest <;> rfl

/-- D41 (repaired) on the former witness -/
theorem D41_fixed : expandText [] ["F(x,y) 1 ## y x"] "F(2, _ x)" = .ok ["1_", "x", "2"] ∧
    specText ["F(x,y) 1 ## y x"] "F(2, _ x)" = some ["1_", "x", "2"] :=
  ⟨(expandText_ofChars [] [_] _).trans (by decide +kernel), (specText_ofChars [_] _).trans (by decide +kernel)⟩

/-- D40 (repaired): an argument that is only the operand of `#` is not macro-expanded, so a call inside it is not evaluated -/
theorem D40_fixed : expandText [] ["S(x, y) #y", "T(a, b) a b"] "S(1, T(2))" = .ok ["\"T(2)\""] ∧
    specText ["S(x, y) #y", "T(a, b) a b"] "S(1, T(2))" = some ["\"T(2)\""] :=
  ⟨(expandText_ofChars [] [_, _] _).trans (by decide +kernel), (specText_ofChars [_, _] _).trans (by decide +kernel)⟩

example : ∃ t : Tok, t.kind ≠ .ident ∧ t.text = "x" := ⟨⟨.str, "x", false, true⟩, by decide, rfl⟩

/-- D12 on a small instance of the same machine: with nesting limit 3 the chain `A → B → C → 7` is cut to `0`
    (the harness replays the 200-level instance on the real code; `backstop_result` is the general statement) -/
theorem D12_witness_small :
    (match buildTable [] ["A B", "B C", "C 7"] with
     | .ok tbl => (match expandWith { lim := 3 } tbl 1000 (tokenize "A") with
        | .ok r => some (r.map spellTok) | _ => none)
     | .error _ => none) = some ["0"] ∧ specText ["A B", "B C", "C 7"] "A" = some ["7"] :=
  ⟨by lex_decide, (specText_ofChars [_, _, _] _).trans (by decide +kernel)⟩

end CbiVerif.C03
