import CbiVerif.Lemmas.WarnMsgInj
import CbiVerif.Model.WarnMsgDir
/-! # C18, message layer — every warning NAMES what could not be honoured, exactly as the code prints it.

Model: `WarnMsg.renderX` (`Model/WarnMsg.lean`) interprets the message templates regenerated from the
`log.warning(f"…")` call sites (`tools/gen/warnmsg.py` → `Generated/WarnMsg.lean`); the driver op `warnmsg`
executes it and the harness compares its output byte for byte with the records of the `codebasin` logger and
with `cbi.log`.  The statements below are about the templates *as they are in the code now*: the checks on the
templates are evaluated by the kernel (on the characters of the literals, read off as the head of `Lemmas/Warn.lean`
says), everything about field values is proved for all strings. -/
namespace CbiVerif.C18Msg
open CbiVerif.Warn CbiVerif.WarnMsg CbiVerif.WarnTmpl

/-! ## message_names_event -/

/-- **Every rendered message names its event**, for all field values: a source-level include warning begins
`file:line:`, contains the category phrase of the form used (quote ↦ "user include", angle ↦ "system include"),
the requested name in quotes and the directive as written (which shows `"…"` / `<…>`); an unknown-directive warning
begins `file:line:col:` and contains the directive as written (as Python prints the list); a database-level warning
contains the path / compiler / arguments / database it is about. -/
theorem message_names_event (e : Event) : namesEvent (renderX e) e = true := by
  -- each text demanded is the rendering of a small template; that its characters and placeholders occur in the template
  -- of the call site is evaluated
  have hinc : ∀ e : Event, namesInclude (renderT Gen.tmplInclude e) e = true := by
    intro e
    simp only [namesInclude, Bool.and_eq_true]
    exact ⟨⟨⟨starts_block [.arg .file 0, .lit ":", .arg .line 0, .lit ":"] e (by simp [renderT]) (by decide +kernel),
      contains_block [.arg .kind 0] e (by simp [renderT]) (syms_infix (by decide +kernel))⟩,
      contains_block [.lit "'", .arg .name 0, .lit "'"] e (by simp [renderT]) (by decide +kernel)⟩,
      contains_block [.arg .spelling 0] e (by simp [renderT]) (syms_infix (by decide +kernel))⟩
  unfold namesEvent renderX
  cases hk : e.kind with
  | userInclude | systemInclude => exact hinc e
  | unknownDirective =>
    simp only [namesDirective, Bool.and_eq_true, template]
    exact ⟨starts_block [.arg .file 0, .lit ":", .arg .line 0, .lit ":", .arg .col 0, .lit ":"] e (by simp [renderT])
        (by decide +kernel),
      contains_block [.arg .spellingList 0] e (by simp [renderT]) (syms_infix (by decide +kernel))⟩
  | missingFile | unknownCompiler | unknownArgs | noFiles =>
    exact contains_block [.arg .name 0] e (by simp [renderT]) (syms_infix (by decide +kernel))

theorem form_phrases_differ : kindPhrase .userInclude ≠ kindPhrase .systemInclude := by decide

/-- **the message of a missing `-include` file** (its own call site in `finder.find`) names the event by which the
model represents it (`forcedEvent`: user form, the source file, line 0, the directive `-include NAME`): it begins
`file:0:`, contains the user-include phrase, the requested name in quotes and `-include NAME` — for all strings -/
theorem forced_message_names_event (src name : String) :
    namesEvent (renderForced (forcedEvent src name)) (forcedEvent src name) = true := by
  show namesInclude (renderT Gen.tmplForced (forcedEvent src name)) (forcedEvent src name) = true
  simp only [namesInclude, Bool.and_eq_true]
  exact ⟨⟨⟨starts_block [.arg .file 0, .lit ":0:"] _ (by simp [renderT, forcedEvent]; decide) (by decide +kernel),
    contains_block [.lit (kindPhrase .userInclude)] _ (by simp [renderT, forcedEvent]) (by decide +kernel)⟩,
    contains_block [.lit "'", .arg .name 0, .lit "'"] _ (by simp [renderT]) (by decide +kernel)⟩,
    contains_block [.lit "-include ", .arg .name 0] _ (by simp [renderT, forcedEvent, String.toList_append]) (by decide +kernel)⟩

/-- the unrecognised arguments are joined by the separator the model of the database events uses -/
theorem args_joiner_is_space : Gen.argsJoiner = " " := rfl

/-! ## category_of_rendered -/

/-- whether the fixed text of the message of each kind of event contains a category phrase: only the include
warning of the quote form contains "user include", only that of the angle form "system include"
(evaluated on the regenerated templates and phrases) -/
theorem literal_table (k : Kind) :
    literalHitK Gen.includeKindUser k = (k == .userInclude) ∧
    literalHitK Gen.includeKindSystem k = (k == .systemInclude) := by
  cases k
  all_goals
    -- unfold down to the literals of the template, read off their characters, evaluate
    simp only [literalHitK, literalHit, eventSegs, template, Gen.tmplInclude, Gen.tmplDirective, Gen.tmplArgs, Gen.tmplMissing,
      Gen.tmplCompiler, Gen.tmplNofiles, atoms, List.flatMap_cons, List.flatMap_nil, pieceAtoms, argText, kindPhrase,
      Gen.includeKindUser, Gen.includeKindSystem]
    repeat rw [String.toList_ofList]
    decide +kernel

/-- **Which meta-warning counts a rendered message — for ALL field values.**  Under the D30 side condition for a
phrase (`fieldsFree`: no stretch of the message around a field — the field with the literal characters next to it up
to the nearest character that cannot belong to the phrase — contains the phrase) the search for "user include"
succeeds exactly on the include warnings of the quote form and the search for "system include" exactly on those of
the angle form; the pattern `"."` counts every message.  Without the side condition an include warning is still
always counted in its own category. -/
theorem category_of_rendered (e : Event) :
    (fieldsFree Gen.includeKindUser e = true →
      matchesRegex Gen.includeKindUser (renderX e) = (e.kind == .userInclude)) ∧
    (fieldsFree Gen.includeKindSystem e = true →
      matchesRegex Gen.includeKindSystem (renderX e) = (e.kind == .systemInclude)) ∧
    matchesRegex "." (renderX e) = true ∧
    (e.kind = .userInclude → matchesRegex Gen.includeKindUser (renderX e) = true) ∧
    (e.kind = .systemInclude → matchesRegex Gen.includeKindSystem (renderX e) = true) := by
  have own : ∀ k, e.kind = k → [.arg .kind 0] <:+: template k →
      containsSub (renderT (template e.kind) e) (kindPhrase k).toList = true := by
    intro k hk hin
    subst hk
    exact contains_block [.arg .kind 0] e (by simp [renderT]) (syms_infix hin)
  refine ⟨fun h => ?_, fun h => ?_, ?_, fun hk => ?_, fun hk => ?_⟩
  · rw [matchesRegex_phrase user_phrase_ne_dot, search_eq_literalHit _ (by decide) e h, literalHit_kind,
      (literal_table e.kind).1]
  · rw [matchesRegex_phrase system_phrase_ne_dot, search_eq_literalHit _ (by decide) e h, literalHit_kind,
      (literal_table e.kind).2]
  · rw [matchesRegex_dot]
    exact render_visible _ e (by cases e.kind <;> decide +kernel)
  · rw [matchesRegex_phrase user_phrase_ne_dot]
    exact own .userInclude hk (by decide)
  · rw [matchesRegex_phrase system_phrase_ne_dot]
    exact own .systemInclude hk (by decide)

/-- hence the two forms are never rendered alike (under the side condition) -/
theorem forms_render_differently (e1 e2 : Event) (h1 : e1.kind = .userInclude) (h2 : e2.kind = .systemInclude)
    (hf : fieldsFree Gen.includeKindUser e2 = true) : renderX e1 ≠ renderX e2 := by
  intro h
  have a := (category_of_rendered e1).2.2.2.1 h1
  have b := (category_of_rendered e2).1 hf
  rw [h, b, h2] at a
  exact absurd a (by decide)

/-- non-vacuity of the side condition (checked by evaluation): usual paths, names and directives satisfy it — also a
directory called "my include", a path "user/include.c", a directive spelled `# include` -/
def evsEx : List Event :=
  [{ kind := .userInclude, file := "/r/a.c", line := 3, name := "x.h", spelling := "#include \"x.h\"" },
   { kind := .systemInclude, file := "/r/my include/a.c", line := 4, name := "sys/y.h", spelling := "# include <sys/y.h>" },
   { kind := .unknownDirective, file := "/r/a.c", line := 5, col := 1, name := "foo", spelling := " #foo 'x' \"y\"" },
   { kind := .unknownArgs, name := "-Wall -frob" }, { kind := .missingFile, name := "/r/user/include.c" },
   { kind := .unknownCompiler, name := "mycc" }, { kind := .noFiles, name := "/r/db.json" }]

theorem evsEx_free : ∀ e ∈ evsEx, fieldsFree Gen.includeKindUser e = true ∧ fieldsFree Gen.includeKindSystem e = true := by
  simp only [evsEx, List.forall_mem_cons, List.not_mem_nil, false_imp_iff, implies_true, and_true, fieldsFree, eventSegs,
    template, Gen.tmplInclude, Gen.tmplDirective, Gen.tmplArgs, Gen.tmplMissing, Gen.tmplCompiler, Gen.tmplNofiles, atoms,
    List.flatMap_cons, List.flatMap_nil, pieceAtoms, argText, kindPhrase, Gen.includeKindUser, Gen.includeKindSystem]
  repeat rw [String.toList_ofList]
  decide +kernel

example : ∀ e ∈ evsEx, fieldsFree Gen.includeKindUser e = true ∧ fieldsFree Gen.includeKindSystem e = true := evsEx_free

/-! ## totals_eq_counts over the rendered messages -/

/-- **Printed totals = numbers of warnings issued per category**, for every list of issued events whose fields
satisfy the D30 side condition: the counters the aggregator reaches on the exact messages are (all, quote form,
angle form). -/
theorem totals_eq_counts_rendered (es : List Event)
    (hU : ∀ e ∈ es, fieldsFree Gen.includeKindUser e = true)
    (hS : ∀ e ∈ es, fieldsFree Gen.includeKindSystem e = true) :
    counts (recordsOfX es) =
      [es.length, (es.filter fun e => e.kind == .userInclude).length, (es.filter fun e => e.kind == .systemInclude).length] :=
  counts_of_categories renderX es (fun e _ => (category_of_rendered e).2.2.1)
    (fun e he => (category_of_rendered e).1 (hU e he)) (fun e he => (category_of_rendered e).2.1 (hS e he))

example : counts (recordsOfX evsEx) = [7, 1, 1] :=
  totals_eq_counts_rendered evsEx (fun e he => (evsEx_free e he).1) (fun e he => (evsEx_free e he).2)

/-- **Finding D30** on the exact messages (the complement of the side condition): the user-include warning for a
file under a directory called "system include" violates `fieldsFree` and is counted in the system total too -/
theorem d30_witness_rendered :
    ∃ e : Event, fieldsFree Gen.includeKindSystem e = false ∧ e.kind = .userInclude ∧
      counts (recordsOfX [e]) = [1, 1, 1] :=
  ⟨{ kind := .userInclude, file := "/r/system include/a.c", line := 1, name := "x.h", spelling := "#include \"x.h\"" },
   by decide +kernel, rfl, by decide +kernel⟩

/-! ## render_injective_on_fields -/

/-- the fields of an event its message is meant to identify -/
def keyFields (e : Event) : String × Nat × Nat × String :=
  match e.kind with
  | .userInclude | .systemInclude => (e.file, e.line, 0, e.name)
  | .unknownDirective => (e.file, e.line, e.col, "")
  | _ => ("", 0, 0, e.name)

/-- **Two events of the same kind with different (file, line, column, name) are rendered differently**, under the
decidable side condition `fieldsPlain` (the file holds no `:`, the requested name no `'`: the characters that end
those fields in the message).  Together with `forms_render_differently` (quote vs angle form) no two distinct
source-level occurrences share a message. -/
theorem render_injective_on_fields (e1 e2 : Event) (hk : e1.kind = e2.kind)
    (hp1 : fieldsPlain e1 = true) (hp2 : fieldsPlain e2 = true) (h : renderX e1 = renderX e2) :
    keyFields e1 = keyFields e2 := by
  -- where the placeholder of a field stands in the template of the kind is evaluated: among the pieces `sepPrefixLen` counts
  -- (up to the literal after the last placeholder whose end is recognisable), or as all that follows them (`missingFile`)
  have key := inj_arg e1 e2 hk hp1 hp2 h _ rfl
  unfold keyFields
  rw [← hk]
  cases hk1 : e1.kind with rw [hk1] at key
  | userInclude | systemInclude =>
    rw [String.toList_injective (key .file (by decide +kernel)), natL_inj _ _ (key .line (by decide +kernel)),
      String.toList_injective (key .name (by decide +kernel))]
  | unknownDirective =>
    rw [String.toList_injective (key .file (by decide +kernel)), natL_inj _ _ (key .line (by decide +kernel)),
      natL_inj _ _ (key .col (by decide +kernel))]
  | missingFile | unknownCompiler | unknownArgs | noFiles => rw [String.toList_injective (key .name (by decide +kernel))]

/-- non-vacuity: ordinary events satisfy the side condition; a header name with an apostrophe does not -/
example : ∀ e ∈ evsEx, fieldsPlain e = true := by decide +kernel
example : fieldsPlain { kind := .userInclude, file := "/r/a.c", line := 1, name := "it's.h" } = false := by decide

/-! ## the column of the unknown-directive warning -/

/-- the directive events with the column attached are the directive events of `Model/FindInc.lean` (the ones
`C18.unknown_directive_once_per_file` counts): attaching the column changes neither which lines are reported nor
line, name and spelling -/
theorem directives_with_col_agree (text : String) :
    (directivesOfTextC text).map (·.1) = CbiVerif.Inc.directivesOfText text := by
  unfold directivesOfTextC CbiVerif.Inc.directivesOfText
  cases hc : CbiVerif.PP.cFileSource text with
  | error _ => rfl
  | ok r =>
    obtain ⟨lls, _, _⟩ := r
    simp only [List.map_filterMap]
    congr 1
    funext ll
    split <;> simp [Option.map_map, Function.comp_def]

end CbiVerif.C18Msg
