import CbiVerif.Lemmas.CCleanRegen
/-!
# C05 — the `c_cleaner` model is the machine tabulated from the running code

`Generated/CCleanTable.lean` is rewritten on every run from the checkout's `c_cleaner.process`,
`logical_newline`, `c_file_source` and `one_space_line` (by execution on every cell, see
`tools/gen/cleaner.py`).  The theorems below are re-checked against that file on every run: a change of
the code's behaviour in any cell makes one of them fail to build.  Together with `table_closed` they say
that on every stack the cleaner can reach, `CClean.step` / `CClean.logicalNewline` — the functions the
unbounded theorems of `Props/C05.lean` are about — *are* the tabulated transition function.
-/
namespace CbiVerif.C05
open CbiVerif.CClean CbiVerif.CClean.Regen CbiVerif.CText

/-- **C05.step_table_agrees.**  For every stack `c_cleaner` can reach (each is a row of the regenerated
    table), both buffer categories and all nine model classes: one character through the model's `step`
    (put-back included) gives exactly the successor stack and the buffer effects that the real
    `process()` produced when it was executed on that cell (a raised exception = the model's `err`). -/
theorem step_table_agrees : ∀ row ∈ Gen.CCleanTable.step, ∀ (b : Bool) (k : Cls),
    encode (decode row.1) = row.1 ∧
    lookup row.2 b k = some (entryOf k (step (decode row.1) b k)) := by
  intro row hrow b k
  have h := List.all_eq_true.mp stepRows_ok row hrow
  simp only [rowOK, Bool.and_eq_true, beq_iff_eq, List.all_eq_true] at h
  exact ⟨h.1, h.2 b (by cases b <;> simp) k (mem_allCls k)⟩

/-- **C05.newline_table_agrees.**  The same for `logical_newline` on every reachable stack. -/
theorem newline_table_agrees : ∀ row ∈ Gen.CCleanTable.newline,
    encode (decode row.1) = row.1 ∧ row.2 = entryOf .other (logicalNewline (decode row.1)) := by
  intro row hrow
  have h := List.all_eq_true.mp newlineRows_ok row hrow
  simpa only [nlRowOK, Bool.and_eq_true, beq_iff_eq] using h

/-- **C05.classes_agree.**  The character partition is the regenerated one: all 128 ASCII characters
    (and the probed non-ASCII blanks and letters) are listed, and the model's `classify` puts each into the
    class in which the running code's behaviour puts it (`process()` itself does not separate the blank from
    the other white space; `one_space_line.category/join` do, see `buffer_table_agrees`); the code has nine
    states and eight behaviour classes whose smallest members are NUL, TAB, `"`, `#`, `'`, `*`, `/`, `\`. -/
theorem classes_agree :
    (∀ p ∈ Gen.CCleanTable.charClass, clsIdx (classify (Char.ofNat p.1)) = p.2) ∧
    (Gen.CCleanTable.charClass.take 128).map (·.1) = List.range 128 ∧
    Gen.CCleanTable.stateNames.length = 9 ∧ Gen.CCleanTable.classReps = [0, 9, 34, 35, 39, 42, 47, 92] := by
  refine ⟨?_, ascii_listed, shape_ok⟩
  intro p hp
  have h := List.all_eq_true.mp classes_ok p hp
  simpa only [classOK, beq_iff_eq] using h

/-- **C05.table_closed.**  The table starts at `[TOPLEVEL]` and every successor stack (after a character or
    after `logical_newline`) that is not an exception is again a row: no run of the cleaner leaves the table. -/
theorem table_closed :
    [0] ∈ keys ∧ Gen.CCleanTable.newline.map (·.1) = keys ∧
    (∀ row ∈ Gen.CCleanTable.step, ∀ es ∈ row.2, ∀ e ∈ es, e.1 = true ∨ e.2.1 ∈ keys) ∧
    (∀ row ∈ Gen.CCleanTable.newline, row.2.1 = true ∨ row.2.2.1 ∈ keys) := by
  have h := closed_ok
  simp only [closedOK, Bool.and_eq_true, List.contains_iff_mem, beq_iff_eq, List.all_eq_true, Bool.or_eq_true] at h
  exact ⟨h.1.1.1, h.1.1.2, h.1.2, h.2⟩

/-- **C05.line_table_agrees.**  The per-line code of `c_file_source` around the cleaner — continuation
    detection (`toPLine`), `process`, when `logical_newline` is called, the BLANK test that decides whether
    the physical line is counted, and whether the logical line ends (`procLine`) — executed on one physical
    line (nothing / one character of every class / the same followed by a backslash) from every reachable
    stack, gives what the model gives: stack afterwards, counted, logical line ended, text of the buffer. -/
theorem line_table_agrees :
    Gen.CCleanTable.lines.map (·.1) = keys ∧
    ∀ row ∈ Gen.CCleanTable.lines, ∀ p ∈ row.2, p.2 = lineObs (decode row.1) (chars p.1) := by
  have hs := lineShape_ok
  simp only [lineShapeOK, Bool.and_eq_true, beq_iff_eq] at hs
  refine ⟨hs.1, ?_⟩
  intro row hrow p hp
  have h := List.all_eq_true.mp lineRows_ok row hrow
  simp only [lineRowOK, Bool.and_eq_true, beq_iff_eq, List.all_eq_true] at h
  exact h.2 p hp

/-- **C05.buffer_table_agrees.**  `one_space_line.category` on every part list of length ≤ 3 over
    {blank, TAB, `#`, `x`} and `one_space_line.join` on small operands, executed, equal `catOf` / `Buf.join`. -/
theorem buffer_table_agrees :
    (∀ p ∈ Gen.CCleanTable.category, catCode (catOf ((chars p.1).map classify)) = p.2) ∧
    (∀ p ∈ Gen.CCleanTable.join,
      (Buf.join ⟨(chars p.1).map pchar, p.2.1⟩ ⟨(chars p.2.2.1).map pchar, p.2.2.2.1⟩).text.map Char.toNat = p.2.2.2.2.1 ∧
      (Buf.join ⟨(chars p.1).map pchar, p.2.1⟩ ⟨(chars p.2.2.1).map pchar, p.2.2.2.1⟩).trailing = p.2.2.2.2.2) := by
  constructor
  · intro p hp
    have h := List.all_eq_true.mp catRows_ok p hp
    simpa only [catRowOK, beq_iff_eq] using h
  · intro p hp
    have h := List.all_eq_true.mp joinRows_ok p hp
    simpa only [joinRowOK, Bool.and_eq_true, beq_iff_eq] using h

/-! non-vacuity: the table has the 28 reachable stacks, 8 classes; e.g. the row of `[FOUND_SLASH, TOPLEVEL]` -/
example : Gen.CCleanTable.step.length = 28 ∧ keys.contains [4, 0] = true ∧
    decode [4, 0] = [.slash, .top] := by decide +kernel

end CbiVerif.C05
