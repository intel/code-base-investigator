import CbiVerif.Props.C11
/-! # C11 — `-U NAME`: the definitions in force

With `-U` an option the argument parser knows (`_UndefineAction`, fix of finding F-C01-2) the property's "exactly the
macro definitions given with -D, in command-line order" is read as a compiler reads the command line: the
definitions in force after processing `-D` / `-U` left to right (`Spec/Extract.lean`).  `-U` in both spellings is
inside `Extract.Tame`, so `C11.main`, `C11Full.main_full`, `full_refines_lr`, `unknown_ignored`,
`attached_eq_separate` (stated for every flag, hence also `-UX` = `-U X`), `positionals_never_disturb` cover it.
This file adds what is specific to `-U`. -/
namespace CbiVerif.C11
open CbiVerif.Argparse CbiVerif.Extract CbiVerif.ArgvLemmas CbiVerif.ExtractLemmas

/-- what `-U n` alone says -/
theorem lists_undef (n : List Char) : lists [Flag.U.text, n] = { undefs := [n] } := by
  simp [lists, scan, reading_sep, Lists.add, nil_surviving]

theorem complete_undef (n : List Char) : Complete [Flag.U.text, n] := by
  simp [Complete, completeFrom, reading_sep]

/-- the lists of `xs -U n ys`, the `-U` read with what follows it -/
theorem lists_undef_middle (xs ys : Argv) (n : List Char) (hc : Complete xs) :
    lists (xs ++ [Flag.U.text, n] ++ ys) = (lists xs).append (Lists.append { undefs := [n] } (lists ys)) := by
  rw [List.append_assoc, lists_append xs _ hc, lists_append _ ys (complete_undef n), lists_undef]

/-- **undefine_exact** — the definitions of `xs -U n ys`: those of `xs` that neither this `-U` nor a `-U` in `ys`
names, followed by those of `ys`; every other list is untouched by the `-U`. -/
theorem undefine_exact (xs ys : Argv) (n : List Char) (hc : Complete xs) :
    (extract (xs ++ [Flag.U.text, n] ++ ys)).defines =
      surviving (lists xs).defines (n :: (lists ys).undefs) ++ (lists ys).defines ∧
    (extract (xs ++ [Flag.U.text, n] ++ ys)).includePaths = (extract (xs ++ ys)).includePaths ∧
    (extract (xs ++ [Flag.U.text, n] ++ ys)).includeFiles = (extract (xs ++ ys)).includeFiles := by
  unfold extract
  rw [lists_undef_middle xs ys n hc, lists_append xs ys hc]
  exact ⟨by simp [Lists.result, Lists.append, nil_surviving], rfl, rfl⟩

/-- **undefine_cancels** — after `… -D X[=v] … -U X …`: (1) a definition of `X` that is in force at the end was
made *after* the `-U X` (so with no later `-D X`, `X` is not among the defines, whatever came before); (2) every
definition in force in the part after the `-U X` — in particular a later `-D X=w` — is in force at the end
(a later `-D` re-defines). -/
theorem undefine_cancels (xs ys : Argv) (n : List Char) (hc : Complete xs) :
    (∀ d ∈ (extract (xs ++ [Flag.U.text, n] ++ ys)).defines, Extract.macroName d = n → d ∈ (extract ys).defines) ∧
    (∀ d ∈ (extract ys).defines, d ∈ (extract (xs ++ [Flag.U.text, n] ++ ys)).defines) := by
  rw [(undefine_exact xs ys n hc).1]
  constructor
  · intro d hd hn
    rcases List.mem_append.mp hd with h | h
    · exact absurd (hn ▸ List.mem_cons_self) (mem_surviving.mp h).2
    · exact h
  · intro d hd
    exact List.mem_append.mpr (Or.inr hd)

/-- with no `-D X` after it, `-U X` leaves `X` undefined -/
theorem undefine_cancels_all (xs ys : Argv) (n : List Char) (hc : Complete xs)
    (hys : ∀ d ∈ (extract ys).defines, Extract.macroName d ≠ n) :
    ∀ d ∈ (extract (xs ++ [Flag.U.text, n] ++ ys)).defines, Extract.macroName d ≠ n := by
  intro d hd hn
  exact hys d ((undefine_cancels xs ys n hc).1 d hd hn) hn

/-- non-vacuity, and the three orders the compilers distinguish: `-DX -UX` (undefined), `-UX -DX` (defined),
`-DX=1 -UX -DX=2` (`X=2`), in both spellings, other definitions untouched -/
example :
    Complete ["-DX".toList, "-D".toList, "Y=1".toList] ∧
    extract (["-DX".toList, "-D".toList, "Y=1".toList] ++ [Flag.U.text, "X".toList] ++ ["-O2".toList]) =
      ⟨["Y=1".toList], [], []⟩ ∧
    extract ["-UX".toList, "-DX".toList] = ⟨["X".toList], [], []⟩ ∧
    extract ["-DX=1".toList, "-UX".toList, "-DX=2".toList] = ⟨["X=2".toList], [], []⟩ ∧
    extract ["-DX(a)=a".toList, "-DXY".toList, "-U".toList, "X".toList] = ⟨["XY".toList], [], []⟩ ∧
    Tame ["-DX=1".toList, "-UX".toList, "-D".toList, "X=2".toList, "-U".toList, "Z".toList] := by decide +kernel

/-- **undefine_of_undefined_is_noop** — `-U X` where no definition of `X` is in force changes nothing (in
particular `-U X` before the first `-D X`, or for a macro never defined). -/
theorem undefine_of_undefined_is_noop (xs ys : Argv) (n : List Char) (hc : Complete xs)
    (hn : ∀ d ∈ (lists xs).defines, Extract.macroName d ≠ n) :
    extract (xs ++ [Flag.U.text, n] ++ ys) = extract (xs ++ ys) := by
  have hs : surviving (lists xs).defines [n] = (lists xs).defines := by
    simp only [surviving, List.filter_eq_self, List.contains_cons, List.contains_nil, Bool.or_false, Bool.not_eq_true',
      beq_eq_false_iff_ne]
    exact hn
  unfold extract
  rw [lists_undef_middle xs ys n hc, lists_append xs ys hc, ← Lists.append_assoc]
  simp [Lists.result, Lists.append, hs]

example : Complete ["-UX".toList, "-DY".toList] ∧ (∀ d ∈ (lists ["-UX".toList, "-DY".toList]).defines, Extract.macroName d ≠ "X".toList) ∧
    extract (["-UX".toList, "-DY".toList] ++ [Flag.U.text, "X".toList] ++ ["-DX".toList]) = ⟨["Y".toList, "X".toList], [], []⟩ := by
  decide +kernel

/-- the hypothesis is needed: when a definition of `X` is in force, `-U X` removes it -/
example : extract (["-DX".toList] ++ [Flag.U.text, "X".toList] ++ []) ≠ extract (["-DX".toList] ++ []) := by decide +kernel

/-! ### the same for the parser model (= the code, by the correspondence check) -/

/-- **undefine_cancels_model** — on a tame command line `xs -U n ys` the parser model returns a configuration whose
defines contain no definition of `n` made before the `-U n`, and every definition in force in `ys`. -/
theorem undefine_cancels_model (xs ys : Argv) (n : List Char) (hc : Complete xs)
    (ht : Tame (xs ++ [Flag.U.text, n] ++ ys)) :
    ∃ r, argparseModel (xs ++ [Flag.U.text, n] ++ ys) = .ok r ∧
      (∀ d, Val.str d ∈ r.defines → Extract.macroName d = n → d ∈ (extract ys).defines) ∧
      (∀ d ∈ (extract ys).defines, Val.str d ∈ r.defines) ∧ Val.emptyList ∉ r.defines := by
  refine ⟨_, main _ ht, ?_, ?_, ?_⟩
  · intro d hd hn
    simp only [toModel, List.mem_map, Val.str.injEq, exists_eq_right] at hd
    exact (undefine_cancels xs ys n hc).1 d hd hn
  · intro d hd
    simp only [toModel, List.mem_map, Val.str.injEq, exists_eq_right]
    exact (undefine_cancels xs ys n hc).2 d hd
  · simp [toModel]

theorem undefine_of_undefined_is_noop_model (xs ys : Argv) (n : List Char) (hc : Complete xs)
    (hn : ∀ d ∈ (lists xs).defines, Extract.macroName d ≠ n)
    (h1 : Tame (xs ++ [Flag.U.text, n] ++ ys)) (h2 : Tame (xs ++ ys)) :
    argparseModel (xs ++ [Flag.U.text, n] ++ ys) = argparseModel (xs ++ ys) :=
  model_eq_of_extract_eq h1 h2 (undefine_of_undefined_is_noop xs ys n hc hn)

example : Tame (["-UX".toList, "-DY".toList] ++ [Flag.U.text, "X".toList] ++ ["-DX".toList]) ∧
    Tame (["-UX".toList, "-DY".toList] ++ ["-DX".toList]) := by decide +kernel

/-- `-UX` and `-U X` mean the same (instance of `attached_eq_separate`, which is stated for every flag) -/
theorem undefine_attached_eq_separate (xs ys : Argv) (n : List Char) (hn : n ≠ []) (hc : Complete xs) :
    extract (xs ++ [Flag.U.text ++ n] ++ ys) = extract (xs ++ [Flag.U.text, n] ++ ys) :=
  attached_eq_separate xs ys .U n hn hc

/-! ### where the code leaves the compilers' reading of `-U` (the shapes stay outside `Tame`) -/

/-- D36 for `-U`: `-U=X` undefines `X` (argparse drops the `=`); D23 for `-U`: `-U--` hands the action an empty list
(no definition is cancelled); and `_UndefineAction` raises `TypeError` on the `[]` that `-D--` stores -/
theorem witness_undef_shapes :
    (Tag.D36 ∈ classes ["-DX".toList, "-U=X".toList] ∧ argparseModel ["-DX".toList, "-U=X".toList] = .ok ⟨[], [], []⟩) ∧
    (Tag.D23 ∈ classes ["-DX".toList, "-U--".toList] ∧
      argparseModel ["-DX".toList, "-U--".toList] = .ok ⟨[.str "X".toList], [], []⟩) ∧
    (Tag.D23 ∈ classes ["-D--".toList, "-UX".toList] ∧ argparseModel ["-D--".toList, "-UX".toList] = .error .typeError) := by
  decide +kernel

end CbiVerif.C11
