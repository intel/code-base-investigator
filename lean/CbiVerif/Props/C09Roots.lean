import CbiVerif.Props.C09

/-!
# C09 / C15 — overlapping code-base directories (repair of F-C09-NEST = F-C15-ROOTS)

`CodeBase.__iter__` walks of the listed (resolved) directories only `CB.walkRoots`: a directory that equals an
earlier one (listed twice, e.g. under its own name and through a symbolic link) or that lies inside another
listed one is skipped.  Property theorems only (helper lemmas: `Lemmas/WalkRoots.lean`, `Lemmas/CodeBase.lean`):
what is walked, that the walked directories never overlap and cover every listed one, that neither the order of
the list nor listing a directory again matters, and what the repair changed — repetitions, nothing else.
`C09.iter_exact`, `C09.iter_nodup` and `C15.counted_once` (no hypothesis on the list of directories)
are in `Props/C09.lean`, `Props/C15.lean`.
-/
namespace CbiVerif.C09
open CbiVerif.Path CbiVerif.FS CbiVerif.CB

/-! ## which of the listed directories are walked -/

/-- a directory is walked iff it is listed and no OTHER listed directory is a prefix of it -/
theorem walked_iff (roots : List Comps) (w : Comps) :
    w ∈ walkRoots roots ↔ w ∈ roots ∧ ∀ o ∈ roots, o <+: w → o = w := by
  rw [mem_walkRoots, insideAnother_false_iff]

/-- no directory is walked twice, and of two walked directories none lies inside the other -/
theorem walked_no_overlap (roots : List Comps) :
    (walkRoots roots).Nodup ∧ (walkRoots roots).Pairwise (fun a b => ¬ a <+: b ∧ ¬ b <+: a) :=
  ⟨walkRoots_nodup roots, walkRoots_pairwise roots⟩

/-- every listed directory is a walked one or lies inside a walked one -/
theorem walked_covers (roots : List Comps) (r : Comps) (hr : r ∈ roots) :
    ∃ w ∈ walkRoots roots, w <+: r :=
  exists_walkRoot hr

/-- the walked directories are the same, up to order, in whichever order the directories are listed;
so are the entries tested for membership -/
theorem walked_order_independent (fs : FS) (r₁ r₂ : List Comps) (h : r₁.Perm r₂) :
    (walkRoots r₁).Perm (walkRoots r₂) ∧ (candidates fs r₁).Perm (candidates fs r₂) :=
  ⟨walkRoots_perm h, candidates_perm fs h⟩

/-- listing a directory again (under any spelling: the list holds resolved paths), or listing a directory
inside one that is listed already, does not change what is walked -/
theorem relisting_irrelevant (roots : List Comps) (d : Comps) (h : ∃ o ∈ roots, o <+: d) :
    (walkRoots (roots ++ [d])).Perm (walkRoots roots) := by
  apply (List.perm_ext_iff_of_nodup (walkRoots_nodup _) (walkRoots_nodup _)).mpr
  intro a
  obtain ⟨o, ho, hod⟩ := h
  rw [walked_iff, walked_iff]
  constructor
  · rintro ⟨ha, hi⟩
    refine ⟨?_, fun o' ho' hp => hi o' (List.mem_append_left _ ho') hp⟩
    rcases List.mem_append.mp ha with ha | ha
    · exact ha
    · obtain rfl := List.mem_singleton.mp ha
      exact hi o (List.mem_append_left _ ho) hod ▸ ho
  · rintro ⟨ha, hi⟩
    refine ⟨List.mem_append_left _ ha, fun o' ho' hp => ?_⟩
    rcases List.mem_append.mp ho' with ho' | ho'
    · exact hi o' ho' hp
    · obtain rfl := List.mem_singleton.mp ho'
      -- `o <+: o' <+: a` with `o` listed, so `o = a`; then `a <+: o' <+: a`
      obtain rfl := hi o ho (hod.trans hp)
      exact hp.eq_of_length (Nat.le_antisymm hp.length_le hod.length_le)

/-- on a list without overlap every listed directory is walked, in the listed order -/
theorem walked_of_disjoint (roots : List Comps) (h : roots.Pairwise (fun a b => ¬ a <+: b ∧ ¬ b <+: a)) :
    walkRoots roots = roots :=
  walkRoots_of_disjoint h

/-! ## the enumeration and the order of the list -/

/-- `__contains__` consults the list of directories only through `accepted` (first listed directory around the
resolved path, exclude patterns relative to it) -/
theorem contains_congr (cfg : Cfg) (fs : FS) (n : Nat) (r₁ r₂ : List Comps) (cwd : Comps) (p : P)
    (hacc : ∀ c, accepted cfg r₁ c = accepted cfg r₂ c) :
    contains cfg fs n r₁ cwd p = contains cfg fs n r₂ cwd p := by
  unfold contains
  rw [funext hacc]

/-- two orders of the same directories that give every path the same verdict (e.g. because no path lies in two
listed directories with different exclude verdicts) enumerate the same paths, each equally often -/
theorem iter_order_independent (cfg : Cfg) (fs : FS) (n : Nat) (r₁ r₂ l₁ l₂ : List Comps)
    (hp : r₁.Perm r₂) (hacc : ∀ c, accepted cfg r₁ c = accepted cfg r₂ c)
    (h₁ : iter cfg fs n r₁ = .ok l₁) (h₂ : iter cfg fs n r₂ = .ok l₂) : l₁.Perm l₂ := by
  rw [iter_ok h₁, iter_ok h₂]
  simp only [contains_congr cfg fs n r₁ r₂ [] _ hacc]
  exact (candidates_perm fs hp).filter _

/-- without exclude patterns the verdict does not depend on the order of the list … -/
theorem accepted_perm_of_no_excludes (cfg : Cfg) (hign : ∀ rel, cfg.ignored rel = false)
    (r₁ r₂ : List Comps) (hp : r₁.Perm r₂) (c : Comps) : accepted cfg r₁ c = accepted cfg r₂ c := by
  have key : ∀ (r : List Comps), accepted cfg r c = (recognised (name c) && r.any (fun d => isRelativeTo c d)) := by
    intro r
    have hany : r.any (fun d => isRelativeTo c d) = (r.find? fun d => isRelativeTo c d).isSome := by
      rw [Bool.eq_iff_iff]; simp
    rw [accepted, hany]
    cases r.find? (fun d => isRelativeTo c d) <;> simp [hign]
  rw [key r₁, key r₂, hp.any_eq]

/-- … so `list(CodeBase(d₁, …, dₖ))` is the same up to order for every order of `d₁ … dₖ` -/
theorem iter_order_independent_no_excludes (cfg : Cfg) (hign : ∀ rel, cfg.ignored rel = false)
    (fs : FS) (n : Nat) (r₁ r₂ l₁ l₂ : List Comps) (hp : r₁.Perm r₂)
    (h₁ : iter cfg fs n r₁ = .ok l₁) (h₂ : iter cfg fs n r₂ = .ok l₂) : l₁.Perm l₂ :=
  iter_order_independent cfg fs n r₁ r₂ l₁ l₂ hp (accepted_perm_of_no_excludes cfg hign r₁ r₂ hp) h₁ h₂

/-! ## what the repair changed -/

/-- the enumeration as it was before the repair (every listed directory walked in full) raises in the same
cases and, when it does not, yields the same paths — the repaired one yields each of them once -/
theorem repair_conservative (cfg : Cfg) (fs : FS) (n : Nat) (roots : List Comps) (hwf : wf fs = true) :
    ((∃ e, iter cfg fs n roots = .error e) ↔ (∃ e, iterUnrepaired cfg fs n roots = .error e)) ∧
    (∀ l, iter cfg fs n roots = .ok l →
        ∃ l', iterUnrepaired cfg fs n roots = .ok l' ∧ (∀ x, x ∈ l ↔ x ∈ l') ∧ l.Nodup) := by
  have hmem := mem_candidates_iff hwf roots
  have hany : (candidates fs roots).any (fun x => isErr (contains cfg fs n roots [] ⟨true, x⟩))
      = (candidatesUnrepaired fs roots).any (fun x => isErr (contains cfg fs n roots [] ⟨true, x⟩)) := by
    rw [Bool.eq_iff_iff]; simp only [List.any_eq_true, hmem]
  unfold iter iterUnrepaired
  simp only [hany]
  split
  · exact ⟨⟨fun _ => ⟨_, rfl⟩, fun _ => ⟨_, rfl⟩⟩, fun l h => by cases h⟩
  · refine ⟨by simp, fun l h => ?_⟩
    cases h
    exact ⟨_, rfl, fun x => by simp only [List.mem_filter, hmem], (candidates_nodup hwf roots).filter _⟩

/-- on a list of directories without overlap (the domain on which the enumeration was exact before) the
repair changes nothing at all -/
theorem repair_identity_on_disjoint (cfg : Cfg) (fs : FS) (n : Nat) (roots : List Comps)
    (h : roots.Pairwise (fun a b => ¬ a <+: b ∧ ¬ b <+: a)) :
    iter cfg fs n roots = iterUnrepaired cfg fs n roots := by
  unfold iter iterUnrepaired candidates candidatesUnrepaired
  rw [walkRoots_of_disjoint h]

/-! ## non-vacuity and witnesses (`exFS`, `exCfg` of `Props/C09.lean`: `/t/dl -> sub`) -/

/-- `CodeBase("sub", "..", "/out", "../dl")` made in `/t/sub` … -/
example : mkRoots exFS 20 ["t", "sub"] [⟨false, []⟩, ⟨false, [".."]⟩, ⟨true, ["out"]⟩, ⟨false, ["..", "dl"]⟩]
    = .ok [["t", "sub"], ["t"], ["out"], ["t", "sub"]] := by decide +kernel
/-- … walks `/t` and `/out` -/
example : walkRoots [["t", "sub"], ["t"], ["out"], ["t", "sub"]] = [["t"], ["out"]] := by decide +kernel
/-- hypothesis of `relisting_irrelevant` -/
example : ∃ o ∈ ([["t", "sub"], ["t"], ["out"]] : List Comps), o <+: ["t", "sub"] := ⟨["t"], by decide +kernel, by decide +kernel⟩
/-- hypotheses of `walked_of_disjoint` / `repair_identity_on_disjoint` -/
example : ([["t", "sub"], ["out"]] : List Comps).Pairwise (fun a b => ¬ a <+: b ∧ ¬ b <+: a) := by decide +kernel
/-- a sibling whose NAME has a listed directory's name as a string prefix is not inside it (components, not characters) -/
example : walkRoots [["t", "sub"], ["t", "subway"], ["t", "su"]] = [["t", "sub"], ["t", "subway"], ["t", "su"]] := by decide +kernel
/-- hypothesis `hacc` of `iter_order_independent` can fail: with `exCfg` (`sub/x.c` excluded) the verdict on
`/t/sub/x.c` depends on which of `/t`, `/t/sub` is listed first ("that directory" = the first listed one around the file) -/
example : accepted exCfg [["t"], ["t", "sub"]] ["t", "sub", "x.c"] = false ∧
    accepted exCfg [["t", "sub"], ["t"]] ["t", "sub", "x.c"] = true := by decide +kernel
/-- hypotheses of `iter_order_independent_no_excludes` -/
example : ([["t", "sub"], ["t"], ["out"]] : List Comps).Perm [["out"], ["t"], ["t", "sub"]] := by decide +kernel
example : iter { exCfg with ignored := fun _ => false } exFS 20 [["out"], ["t"], ["t", "sub"]]
    = .ok [["out", "o.c"], ["t", "a.c"], ["t", "sub", "b.h"], ["t", "la.c"], ["t", "lo.c"], ["t", "sub", "x.c"]] := by decide +kernel

/-- the directory listed three times (once through the link `/t/dl`): before the repair every member below it came three times -/
theorem relisted_roots_witness :
    iterUnrepaired exCfg exFS 20 [["t", "sub"], ["t", "sub"], ["out"], ["t", "sub"]]
      = .ok [["t", "sub", "b.h"], ["t", "sub", "x.c"], ["t", "sub", "b.h"], ["t", "sub", "x.c"], ["out", "o.c"],
             ["t", "sub", "b.h"], ["t", "sub", "x.c"]] ∧
    iter exCfg exFS 20 [["t", "sub"], ["t", "sub"], ["out"], ["t", "sub"]]
      = .ok [["t", "sub", "b.h"], ["t", "sub", "x.c"], ["out", "o.c"]] := by
  decide +kernel

end CbiVerif.C09
