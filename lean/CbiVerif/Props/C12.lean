import CbiVerif.Lemmas.Compilers
import CbiVerif.Lemmas.Forall2Facts
import CbiVerif.Props.C12Regex  -- built (and re-checked against the regenerated table) together with this module
import CbiVerif.Generated.Compilers
/-!
# C12 — compiler emulation: aliases, implicit options, modes and passes

Theorems about `CbiVerif.Compilers` (Model/Compilers.lean) — the definitions the native driver executes
against `codebasin/config.py` — and about the table `CbiVerif.Gen.Compilers.builtinFiles`, regenerated from
`codebasin/compilers/*.toml` on every run.
-/
namespace CbiVerif.C12
open CbiVerif.Compilers CbiVerif.Compilers.Spec CbiVerif.Gen.Compilers

/-! ## aliases -/

/-- For every compiler table and every name the alias walk returns (it is a total function: it cannot
diverge or crash) and its answer is justified: `found d` — following `alias_of` links from the name for
fewer than |table| steps ends in the non-alias compiler `d`; `unknownTarget a` — the chain reaches an alias
of `a`, which is not in the table; `loop` — the chain reaches an alias of a name already on the chain;
`notRecognized` — the name itself is not in the table.  The fuel `|table| + 1` is never what stops the walk. -/
theorem alias_terminates_and_resolves (cs : CompilerMap) (name : String) :
    Outcome cs name (resolve cs name) :=
  resolve_outcome cs name

/-- … and it is the *only* justified answer: the four situations exclude one another (alias links are
functional), so whenever the table justifies an answer, that is the answer of the walk — in particular a chain
that has a non-alias end is never reported as a loop or as dangling, and vice versa. -/
theorem alias_resolution_complete (cs : CompilerMap) (name : String) (r : Resolved) (h : Outcome cs name r) :
    resolve cs name = r :=
  Fate.unique (fate_of_outcome (resolve_outcome cs name)) (fate_of_outcome h)

/-- the compiler handed to `parse_args` is never an alias -/
theorem resolved_not_alias (cs : CompilerMap) (name : String) (d : Compiler) (h : resolve cs name = .found d) :
    aliasTarget d = none := by
  have := alias_terminates_and_resolves cs name
  rw [h] at this
  obtain ⟨_, _, _, _, _, h4⟩ := this
  exact h4

/-- the built-in table, as regenerated from the *.toml files -/
def builtinMap : CompilerMap := (loadCompilers builtinFiles .absent).1

/-- it loads completely: every shipped file is schema-valid -/
theorem builtin_valid : (loadBuiltin builtinFiles []).2 = true := by decide +kernel

/-- every built-in name resolves to a non-alias compiler: no loop, no dangling alias in the shipped files -/
theorem builtin_aliases_resolve :
    (builtinMap.map (·.1)).all (fun n => match resolve builtinMap n with | .found _ => true | _ => false) = true := by
  decide +kernel

/-! A literal table for the non-vacuity examples of this file (a copy of the shapes the shipped files use), so that an
edit of the shipped `*.toml` files re-checks the table theorems above but cannot break an example; the same examples
on the regenerated table itself are in `Props/C12Builtin.lean`. -/
def exIcx : Definition :=
  { parser := some [{ flags := ["-fopenmp"], action := "append_const", dest := some "modes", const := some "openmp" },
                    { flags := ["-fsycl"], action := "append_const", dest := some "modes", const := some "sycl" },
                    { flags := ["-fsycl-targets"], action := "store_split", dest := some "passes", sep := some ",", format := some "sycl-$value", default := some (DefaultV.list ["sycl-spir64"]) }],
    modes := some [{ name := "sycl", defines := ["SYCL_LANGUAGE_VERSION"] }, { name := "openmp", defines := ["_OPENMP"] }],
    passes := some [{ name := "sycl-spir64", defines := ["__SYCL_DEVICE_ONLY__", "__SPIR__", "__SPIRV__"], modes := ["sycl"] },
                    { name := "sycl-spir64_gen", defines := ["__SYCL_DEVICE_ONLY__", "__SPIR__", "__SPIRV__"], modes := ["sycl"] },
                    { name := "sycl-nvptx64-nvidia-cuda", defines := ["__SYCL_DEVICE_ONLY__", "__NVPTX__"], modes := ["sycl"] }] }
def exNvcc : Definition :=
  { options := some ["-D__NVCC__", "-D__CUDACC__"],
    parser := some [{ flags := ["-fopenmp"], action := "append_const", dest := some "modes", const := some "openmp" },
                    { flags := ["--gpu-architecture", "--gpu-code", "-gencode"], action := "extend_match", dest := some "passes", format := some "sm_$value", pattern := some "(?:sm_|compute_)(\\d+)", default := some (DefaultV.list ["sm_70"]), override := some true }],
    modes := some [{ name := "openmp", defines := ["_OPENMP"] }],
    passes := some [{ name := "sm_70", defines := ["__CUDA_ARCH__=700"] }, { name := "sm_80", defines := ["__CUDA_ARCH__=800"] }] }
def exGcc : Definition :=
  { parser := some [{ flags := ["-fopenmp"], action := "append_const", dest := some "modes", const := some "openmp" }],
    modes := some [{ name := "openmp", defines := ["_OPENMP"] }] }
def exFiles : List (List (String × Definition)) :=
  [[("gcc", exGcc), ("g++", { aliasOf := some "gcc" })], [("icx", exIcx), ("icpx", { aliasOf := some "icx" })], [("nvcc", exNvcc)]]
def exMap : CompilerMap := (loadCompilers exFiles .absent).1

/-! ## implicit options -/

/-- Implicit options behave exactly as if appended to the command line: a compiler with options `O`
on `argv` gives what the same compiler without options gives on `argv ++ O` — configurations, reports
and errors alike. -/
theorem implicit_eq_explicit (c : Compiler) (mt : Matches) (argv O : List String) :
    parseArgs { c with options := O } mt argv = parseArgs { c with options := [] } mt (argv ++ O) :=
  parseArgs_options { c with options := O } c rfl rfl rfl mt argv

/-- the same through name resolution: replacing the resolved compiler's options by explicit arguments -/
theorem implicit_eq_explicit_resolved (cs : CompilerMap) (mt : Matches) (name : String) (argv : List String) :
    emulate cs mt name argv =
      (match parseArgs { (resolve cs name).compiler with options := [] } mt (argv ++ (resolve cs name).compiler.options) with
       | .error e => .error e
       | .ok (cfgs, l) => .ok (cfgs, (resolve cs name).logs name ++ l)) := by
  simp only [emulate]
  rw [parseArgs_options (resolve cs name).compiler (resolve cs name).compiler rfl rfl rfl mt argv]
  rfl

example : parseArgs { (fromToml {}) with options := ["-DA", "-I", "inc"] } {} ["-DB", "x.c"] =
    .ok ([⟨"default", ["B", "A"], ["inc"], []⟩], []) := by decide +kernel

/-! ## passes and modes -/

/-- every command yields one configuration for the default pass plus one per selected (declared) pass, and
each is exactly: the command line's lists, then the lists declared for the pass, then the lists declared for
each of its modes (for `default`: the modes enabled on the command line) — nothing else, in that order.
Undeclared passes / modes contribute nothing and are reported. -/
theorem pass_composition (c : Compiler) (st : PState) :
    compose c st =
      ((selectedPasses st).filterMap (specConfig c (baseConfig st) (activeModes st)),
       (selectedPasses st).flatMap (specLogs c (activeModes st))) :=
  compose_eq c st

/-- the default pass is always among the selected ones, no pass is selected twice -/
theorem default_selected (st : PState) : "default" ∈ selectedPasses st ∧ (selectedPasses st).Nodup := by
  refine ⟨?_, nodup_dedup _⟩
  unfold selectedPasses
  rw [mem_dedup]
  simp

/-- one configuration per pass: the pass names of the result are the selected passes that are `default` or
declared, each once, in selection order; `default` is always there -/
theorem one_config_per_pass (c : Compiler) (st : PState) :
    (compose c st).1.map (·.passName) = (selectedPasses st).filter (fun p => p == "default" || hasKey c.passes p) ∧
    ((compose c st).1.map (·.passName)).Nodup ∧
    "default" ∈ (compose c st).1.map (·.passName) := by
  rw [pass_composition]
  simp only [map_filterMap_eq_filter _ _ (specConfig_passName c _ _), specConfig_isSome, true_and]
  exact ⟨List.Nodup.sublist List.filter_sublist (default_selected st).2,
    List.mem_filter.mpr ⟨(default_selected st).1, by simp⟩⟩

/-- the configuration of the default pass in closed form -/
theorem default_config (c : Compiler) (st : PState) :
    configOf "default" (baseConfig st) none (declaredModes c (activeModes st)) ∈ (compose c st).1 := by
  rw [pass_composition]
  simp only [List.mem_filterMap]
  exact ⟨"default", (default_selected st).1, by simp [specConfig]⟩

/-- the configuration of a selected, declared pass in closed form -/
theorem selected_pass_config (c : Compiler) (st : PState) (p : String) (pd : PassDef)
    (hsel : p ∈ selectedPasses st) (hne : p ≠ "default") (hdecl : lookup c.passes p = some pd) :
    configOf p (baseConfig st) (some pd.toModeDef) (declaredModes c pd.modes) ∈ (compose c st).1 := by
  rw [pass_composition]
  simp only [List.mem_filterMap]
  refine ⟨p, hsel, ?_⟩
  have : (p == "default") = false := by simpa using hne
  simp [specConfig, this, hdecl]

/-! ## what a flag contributes (single steps of the argument loop, context free) -/

/-- A flag that enables a mode (or appends any constant): the exact spelling `f` of an `append_const` rule, at
any position of any command line and in any parser state, appends exactly its constant to its destination,
consumes nothing else and leaves the rest of the command line to be read as before. -/
theorem const_flag_contributes (t : List Opt) (mt : Matches) (f : String) (flags : List String) (dest const : String)
    (c : Char) (r : List Char) (hf : f.toList = '-' :: c :: r)
    (ho : findOpt t f = some ⟨flags, .zero, .appendConst dest const⟩) (rest : List String) (st : PState) :
    runArgs t mt (f :: rest) false st = runArgs t mt rest false ({ st with absorbing := false }.appendTo dest const) := by
  rw [runArgs.eq_def]
  simp only [Bool.false_eq_true, if_false, classify_exact t f _ c r hf ho]
  simp [consumeOpt, takeAction, Except.map]

/-- `flag=value` for a rule taking a value: exactly the rule's action on `value`, nothing else consumed -/
theorem value_flag_eq_contributes (t : List Opt) (mt : Matches) (fl vl : List Char) (o : Opt) (c : Char) (r : List Char)
    (hf : fl = '-' :: c :: r) (hne : '=' ∉ fl)
    (hnone : findOpt t (String.ofList (fl ++ '=' :: vl)) = none)
    (ho : findOpt t (String.ofList fl) = some o) (hn : o.nargs = .one) (rest : List String) (st : PState) :
    runArgs t mt (String.ofList (fl ++ '=' :: vl) :: rest) false st =
      (match takeAction mt { st with absorbing := false } (String.ofList fl) o (some (String.ofList vl)) with
       | .error e => .error e
       | .ok st1 => runArgs t mt rest false st1) := by
  rw [runArgs.eq_def]
  simp only [Bool.false_eq_true, if_false, classify_eq t fl vl o c r hf hne hnone ho]
  simp only [consumeOpt, hn, Option.map_some, String.toList_ofList]
  cases takeAction mt { st with absorbing := false } (String.ofList fl) o (some (String.ofList vl)) <;> simp [Except.map]

/-- `flag value` (value not option-like): the same action, exactly the two arguments consumed -/
theorem value_flag_sep_contributes (t : List Opt) (mt : Matches) (f b : String) (o : Opt) (c : Char) (r : List Char)
    (hf : f.toList = '-' :: c :: r) (ho : findOpt t f = some o) (hn : o.nargs = .one)
    (hb : isPositional t b = true) (rest : List String) (st : PState) :
    runArgs t mt (f :: b :: rest) false st =
      (match takeAction mt { st with absorbing := false } f o (some b) with
       | .error e => .error e
       | .ok st1 => runArgs t mt rest false st1) := by
  rw [runArgs.eq_def]
  simp only [Bool.false_eq_true, if_false, classify_exact t f _ c r hf ho]
  simp only [consumeOpt, hn, hb, if_true, Option.map_none]
  cases takeAction mt { st with absorbing := false } f o (some b) with
  | error e => simp [Except.map]
  | ok s =>
    -- the value is skipped by the next round of the loop
    simp only [Except.map]
    rw [runArgs.eq_def]
    simp

/-- a `store_split` rule selecting passes stores the split, formatted values under the rule's first spelling
(`flags.headD f`), where the rule's default lives, whichever spelling `f` was used (keyed by the spelling used, the
default survived a use of the second spelling: finding D31, repaired in the tree the model mirrors) -/
theorem store_split_selects (mt : Matches) (st : PState) (f : String) (flags : List String) (sep fmt : Option String)
    (v : String) (parts vs : List String) (h1 : pySplit v sep = .ok parts) (h2 : mapM' (substitute fmt) parts = .ok vs) :
    takeAction mt st f ⟨flags, .one, .storeSplit "passes" sep fmt⟩ (some v) =
      .ok { st with passesByFlag := dictSet st.passesByFlag (flags.headD f) vs } := by
  simp [takeAction, h1, h2]

/-- the hypotheses are satisfiable: `-fopenmp` and `-fsycl-targets=…` of the `icx` definition -/
def icxTable : List Opt := match addRules (match lookup exMap "icx" with | some c => c.parser | none => []) baseTable with
  | .ok t => t | .error _ => []
example : "-fopenmp".toList = '-' :: 'f' :: "openmp".toList ∧
    findOpt icxTable "-fopenmp" = some ⟨["-fopenmp"], .zero, .appendConst "modes" "openmp"⟩ := by decide +kernel
example : '=' ∉ "-fsycl-targets".toList ∧ findOpt icxTable "-fsycl-targets=spir64" = none ∧
    (findOpt icxTable "-fsycl-targets").map (·.nargs) = some .one := by decide +kernel
example : pySplit "spir64,spir64_gen" (some ",") = .ok ["spir64", "spir64_gen"] ∧
    mapM' (substitute (some "sycl-$value")) ["spir64", "spir64_gen"] = .ok ["sycl-spir64", "sycl-spir64_gen"] := by decide +kernel

/-! ## the user file extends the built-in table -/

/-- `_load_compilers` with a schema-valid `.cbi/config` whose tables have distinct names (TOML guarantees it):
* a compiler the user file does not name is exactly as built in;
* a name that is new is defined by the user's table;
* a table with `alias_of` (re)defines the name as that alias;
* a table without `alias_of` for a known, non-alias compiler *extends* it: implicit options and parser rules
  are appended to the built-in ones, modes and passes are added or replaced by name, everything else stays;
  for a name that was an alias the alias is dropped and only the user's table remains. -/
theorem user_extends_builtin (builtin : List (List (String × Definition))) (l : List (String × Definition))
    (hb : (loadBuiltin builtin []).2 = true) (hv : l.all (·.2.valid) = true) (hnd : (l.map (·.1)).Nodup) :
    let cs := (loadBuiltin builtin []).1
    let cs' := (loadCompilers builtin (.defs l)).1
    (∀ k, k ∉ l.map (·.1) → lookup cs' k = lookup cs k) ∧
    (∀ name d, (name, d) ∈ l → lookup cs name = none → lookup cs' name = some (fromToml d)) ∧
    (∀ name d a, (name, d) ∈ l → d.aliasOf = some a → lookup cs' name = some (fromToml d)) ∧
    (∀ name d c, (name, d) ∈ l → d.aliasOf = none → lookup cs name = some c →
        ∃ c', lookup cs' name = some c' ∧ Extends { c with aliasOf := none } d c') := by
  intro cs cs'
  have hlk : ∀ k, (k ∉ l.map (·.1) → lookup cs' k = lookup cs k) ∧
      ∀ d, (k, d) ∈ l → lookup cs' k = some (mergedDef (lookup cs k) d) := lookup_loadCompilers builtin l hb hv hnd
  refine ⟨fun k => (hlk k).1, fun name d h hnone => ?_, fun name d a h ha => ?_, fun name d c h ha hl => ?_⟩
  · rw [(hlk name).2 d h, hnone]; rfl
  · rw [(hlk name).2 d h, mergedDef_alias _ ha]
  · exact ⟨_, by rw [(hlk name).2 d h, hl, mergedDef_extend c ha], extendCompiler_extends _ d⟩

/-- consequence for behaviour: a user table that only adds implicit options to a built-in compiler makes every
command line behave as the built-in compiler on `argv ++ user options` (after the built-in implicit options) -/
theorem user_options_appended (c c' : Compiler) (d : Definition) (mt : Matches) (argv : List String)
    (h : Extends c d c') (hp : d.parser = none) (hm : c'.modes = c.modes) (hps : c'.passes = c.passes) :
    parseArgs c' mt argv = parseArgs { c with options := [], aliasOf := none } mt (argv ++ c.options ++ d.options.getD []) := by
  have h3 := h.parser
  simp only [hp, Option.getD_none, List.append_nil] at h3
  rw [parseArgs_options c' { c with aliasOf := none } h3 hm hps mt argv, h.options, List.append_assoc]

/-! ## attribution -/

/-- `finder.find` over the entries `load_database` produced: a node is attributed to a platform iff some entry
of that platform uses it (`uses` = the associator reaches the node under that entry's configuration) -/
theorem any_entry_attributes {Node} (uses : Entry → Node → Bool) (nodes : List Node)
    (config : List (String × List Entry)) (n : Node) (p : String) :
    (n, p) ∈ attributeAll uses nodes config ↔
      n ∈ nodes ∧ ∃ es, (p, es) ∈ config ∧ ∃ e ∈ es, uses e n = true := by
  simp only [attributeAll_eq, List.mem_flatMap, List.mem_map, List.mem_filter, Prod.mk.injEq, Prod.exists]
  constructor
  · rintro ⟨p', es, hmem, e, he, n', ⟨hn, hu⟩, rfl, rfl⟩
    exact ⟨hn, es, hmem, e, he, hu⟩
  · rintro ⟨hn, es, hmem, e, he, hu⟩
    exact ⟨p, es, hmem, e, he, n, ⟨hn, hu⟩, rfl, rfl⟩

/-- "A line is attributed to a platform if any pass of any of its commands uses it": with the entries of each
platform produced by `load_database` from its commands, `(n, p)` is in the result iff some command of `p`
has some pass configuration (one of `emulate`'s results for that command) under which `n` is used. -/
theorem any_pass_attributes {Node} (uses : Entry → Node → Bool) (nodes : List Node) (cs : CompilerMap) (mt : Matches)
    (platforms : List (String × List Command)) (config : List (String × List Entry))
    (hcfg : List.Forall₂ (fun pc pe => pc.1 = pe.1 ∧ ∃ logs, loadDatabase cs mt pc.2 = .ok (pe.2, logs)) platforms config)
    (n : Node) (p : String) :
    (n, p) ∈ attributeAll uses nodes config ↔
      n ∈ nodes ∧ ∃ cmds, (p, cmds) ∈ platforms ∧ ∃ cmd ∈ cmds, ∃ cfgs l,
        emulate cs mt cmd.argv0 cmd.argv = .ok (cfgs, l) ∧ ∃ e ∈ entriesOf cmd cfgs, uses e n = true := by
  rw [any_entry_attributes]
  constructor
  · rintro ⟨hn, es, hmem, e, he, hu⟩
    obtain ⟨⟨p', cmds⟩, hpc, hname, logs, hload⟩ := ListFacts.forall₂_right hcfg _ hmem
    obtain rfl : p' = p := hname
    obtain ⟨cmd, hc, cfgs, l, hem, hin⟩ := (mem_loadDatabase cs mt cmds es logs hload e).mp he
    exact ⟨hn, cmds, hpc, cmd, hc, cfgs, l, hem, e, hin, hu⟩
  · rintro ⟨hn, cmds, hmem, cmd, hc, cfgs, l, hem, e, hin, hu⟩
    obtain ⟨⟨p', es⟩, hpe, hname, logs, hload⟩ := ListFacts.forall₂_left hcfg _ hmem
    obtain rfl : p = p' := hname
    exact ⟨hn, es, hpe, e, (mem_loadDatabase cs mt cmds es logs hload e).mpr ⟨cmd, hc, cfgs, l, hem, hin⟩, hu⟩

/-! ## the regenerated tables agree with what the model assumes -/

/-- the fixed options read from `parse_args`' `add_argument` calls are the model's `baseTable` -/
theorem baseTable_matches :
    fixedOptions = baseTable.map (fun o =>
      (o.flags, (match o.nargs with | .one => "one" | .opt => "opt" | .zero => "zero"),
       (match o.act with | .append d => "append:" ++ d | .undefine d => "undefine:" ++ d | .ignore => "ignore" | _ => "?"))) := by decide +kernel

/-- the schema still has the two alternatives `Definition.valid` models, and the rule keys `Rule` has -/
theorem schema_shape :
    schemaAlternatives = [["modes", "options", "parser", "passes"], ["alias_of"]] ∧
    schemaRuleKeys = ["action", "const", "default", "dest", "flags", "format", "override", "pattern", "sep"] :=
  ⟨rfl, rfl⟩

/-- every action used by a built-in rule is one the model implements -/
theorem builtin_actions_supported :
    (builtinMap.all fun nc => nc.2.parser.all fun r => match ruleOpt r with | .ok _ => true | .error _ => false) = true := by
  decide +kernel

/-! ## non-vacuity (literal table; the same on the regenerated table: Props/C12Builtin.lean) -/

/-- `icpx -fsycl -fopenmp`: `icpx` resolves through its alias to `icx`; two configurations — the default pass
with both modes, the default SYCL device pass with the pass's defines and its `sycl` mode -/
example : emulate exMap {} "icpx" ["-fsycl", "-fopenmp", "-DX", "a.cpp"] =
    .ok ([⟨"sycl-spir64", ["X", "__SYCL_DEVICE_ONLY__", "__SPIR__", "__SPIRV__", "SYCL_LANGUAGE_VERSION"], [], []⟩,
          ⟨"default", ["X", "SYCL_LANGUAGE_VERSION", "_OPENMP"], [], []⟩], []) := by decide +kernel

/-- `-fsycl-targets=` replaces the default device pass by the listed ones (store_split with format) -/
example : (emulate exMap {} "icx" ["-fsycl-targets=spir64_gen,nvptx64-nvidia-cuda", "a.cpp"]).toOption.map
      (fun r => r.1.map (·.passName)) = some ["sycl-spir64_gen", "sycl-nvptx64-nvidia-cuda", "default"] := by decide +kernel

/-- `nvcc`: implicit `-D__NVCC__ -D__CUDACC__`, default pass `sm_70`; `--gpu-architecture` overrides it
(regex results supplied as a table), an undeclared architecture is reported and yields no configuration -/
example : emulate exMap {} "nvcc" ["x.cu"] =
    .ok ([⟨"sm_70", ["__NVCC__", "__CUDACC__", "__CUDA_ARCH__=700"], [], []⟩,
          ⟨"default", ["__NVCC__", "__CUDACC__"], [], []⟩], []) := by decide +kernel

example : emulate exMap { table := [(("--gpu-architecture", "sm_80,sm_60"), ["80", "60"])] } "nvcc"
      ["--gpu-architecture=sm_80,sm_60", "-fopenmp", "x.cu"] =
    .ok ([⟨"sm_80", ["__NVCC__", "__CUDACC__", "__CUDA_ARCH__=800"], [], []⟩,
          ⟨"default", ["__NVCC__", "__CUDACC__", "_OPENMP"], [], []⟩], [.badPass "sm_60"]) := by decide +kernel

/-- alias outcomes on a table extended by a user file: chain through a built-in alias, loop, dangling target -/
def userAliases : UserFile := .defs [("c++", { aliasOf := some "g++" }), ("a", { aliasOf := some "b" }),
  ("b", { aliasOf := some "c" }), ("c", { aliasOf := some "b" }), ("d", { aliasOf := some "nope" })]

example : (match resolve (loadCompilers exFiles userAliases).1 "c++" with | .found c => c.parser.map (·.flags) | _ => []) =
    [["-fopenmp"]] := by decide +kernel
example : resolve (loadCompilers exFiles userAliases).1 "a" = .loop := by decide +kernel
example : resolve (loadCompilers exFiles userAliases).1 "d" = .unknownTarget "nope" := by decide +kernel
example : resolve (loadCompilers exFiles userAliases).1 "cl" = .notRecognized := by decide +kernel

/-- the hypotheses of `user_extends_builtin` hold for the built-in table and a user file that extends `nvcc`
and adds a compiler; the extended `nvcc` keeps its rules and passes and gains the option -/
def userExt : List (String × Definition) :=
  [("nvcc", { options := some ["-DEXTRA"] }), ("mycc", { options := some ["-DMY"] })]
example : (loadBuiltin exFiles []).2 = true ∧ userExt.all (·.2.valid) = true ∧ (userExt.map (·.1)).Nodup := by decide +kernel
example : (emulate (loadCompilers exFiles (.defs userExt)).1 {} "nvcc" ["x.cu"]).toOption.map (fun r => r.1.map (·.defines)) =
    some [["__NVCC__", "__CUDACC__", "EXTRA", "__CUDA_ARCH__=700"], ["__NVCC__", "__CUDACC__", "EXTRA"]] := by decide +kernel

/-- the witness of finding D31 (a `store_split` rule used through its second spelling kept the default pass of the
first), replayed by the harness: after the repair both spellings replace the default `p1` -/
def d31Rule : Rule :=
  { flags := ["-ftargets", "--targets"], action := "store_split", dest := some "passes", sep := some ",", default := some (DefaultV.list ["p1"]) }
def d31 : Compiler := fromToml { parser := some [d31Rule], passes := some [{ name := "p1" }, { name := "p2" }] }
example : (parseArgs d31 {} ["--targets=p2"]).toOption.map (fun r => r.1.map (·.passName)) = some ["p2", "default"] := by decide +kernel
example : (parseArgs d31 {} ["-ftargets=p2"]).toOption.map (fun r => r.1.map (·.passName)) = some ["p2", "default"] := by decide +kernel

end CbiVerif.C12
