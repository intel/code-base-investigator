import CbiVerif.Lemmas.Argv
import CbiVerif.Lemmas.Shlex
import CbiVerif.Lemmas.Extract
/-! # C11 — the options `-D`, `-I`, `-isystem`, `-include` are extracted from any command line, robustly

Objects:
* `Argparse.argparseModel` — the model of `config.ArgumentParser(<compiler>).parse_args(argv)`
  (CPython 3.12 `argparse` subset, driven by `Generated/ArgTable.lean`); the driver op `c11` runs it
  against the real code;
* `Extract.extract` — the property-level extractor (left-to-right scan);
* `Extract.Tame` — decidable: the command line is complete and shows none of the recorded shapes
  D21 / D22 / D23 / D36 (`Extract.classes argv = []`);
* `Shlex.commandArguments`, `ShellQuote.shellJoin` — `shlex.split` and `shlex.join`.
-/
namespace CbiVerif.C11
open CbiVerif.Argparse CbiVerif.Extract CbiVerif.ArgvLemmas CbiVerif.ExtractLemmas

abbrev Argv := List (List Char)

/-- The table / constructor keywords / parse call / `PreprocessorConfiguration` assembly / `shlex.split` call
re-extracted from the code on this run (including the `-U` row with CBI's `_UndefineAction` and the characters that end
a macro name there) are the ones all theorems below are about. -/
theorem table_generated :
    Argparse.table = ArgvLemmas.T ∧ Argparse.settingsOK = true ∧ Shlex.splitOK = true ∧
    Gen.ArgTable.definesSrc = [['d','e','f','i','n','e','s']] ∧
    Gen.ArgTable.includePathsSrc = [['i','n','c','l','u','d','e','_','p','a','t','h','s'],
      ['s','y','s','t','e','m','_','i','n','c','l','u','d','e','_','p','a','t','h','s']] ∧
    Gen.ArgTable.includeFilesSrc = [['i','n','c','l','u','d','e','_','f','i','l','e','s']] ∧
    Gen.ArgTable.undefineStops = ['=', '('] :=
  ⟨table_eq, settings_ok, ShlexLemmas.split_ok, rfl, rfl, rfl, rfl⟩

/-- **C11.main** — on every tame command line (any length, any mixture of modelled and unmodelled
arguments) the parser model does not abort and returns exactly the lists of the property-level
extractor: same values, same order, nothing else. -/
theorem main (argv : Argv) (h : Tame argv) : argparseModel argv = .ok (toModel (extract argv)) := by
  rw [argparseModel_eq, parseKnown_tame argv h]
  exact congrArg Except.ok (assemble_toCfg (lists argv))

/-- so on tame command lines the parser model depends on the command line only through what is extracted -/
theorem model_eq_of_extract_eq {a b : Argv} (ha : Tame a) (hb : Tame b) (e : extract a = extract b) :
    argparseModel a = argparseModel b := by
  rw [main a ha, main b hb, e]

/-- non-vacuity of `main`: a realistic command line (unmodelled flags with and without arguments, both
spellings of every modelled flag, values with `=`, quotes, blanks) is tame, and its result is not trivial -/
example :
    let argv : Argv := ["gcc-arg".toList, "-O2".toList, "-g3".toList, "-Wall".toList, "-std=c++17".toList,
      "-DA=1".toList, "-D".toList, "B=\"x y\"".toList, "-MF".toList, "x.d".toList, "-I".toList, "inc dir".toList,
      "-isystem".toList, "/sys".toList, "-Iother".toList, "-include".toList, "pre.h".toList, "-fPIC".toList,
      "-ccbin".toList, "g++".toList, "-c".toList, "file.c".toList, "-o".toList, "out.o".toList]
    Tame argv ∧ extract argv = ⟨["A=1".toList, "B=\"x y\"".toList],
      ["inc dir".toList, "other".toList, "/sys".toList], ["pre.h".toList]⟩ := by decide +kernel

/-- the analysis is not aborted on a tame command line -/
theorem no_abort (argv : Argv) (h : Tame argv) : ∃ r, argparseModel argv = .ok r := ⟨_, main argv h⟩

/-- `Tame` is exactly the complement of the recorded classes (plus incompleteness) -/
theorem tame_iff_no_class (argv : Argv) : Tame argv ↔ ∀ t : Tag, t ∉ classes argv := by
  unfold Tame
  constructor
  · intro h t; rw [h]; simp
  · intro h; exact List.eq_nil_iff_forall_not_mem.mpr h

/-! ### order -/

/-- **order_preserved** — a command line built from items (modelled flag in separate or attached spelling,
or unmodelled argument), in any interleaving: for each modelled flag other than `-D` the extracted list is exactly
the sequence of that flag's values *in command-line order* (for `-U`: the names).
`-D` is left out because of `-U`: the extracted definitions are the ones *in force* (`defines_in_force`), which is
all `-D` values in command-line order whenever the command line has no `-U` (`order_preserved_defines`). -/
theorem order_preserved (items : List Item) (h : ∀ it ∈ items, it.WF) (g : Flag) (hg : g ≠ .D) :
    (lists (renderAll items)).get g = items.filterMap (Item.value? g) :=
  (lists_items items h).2.1 g hg

/-- **defines_in_force** — the extracted definitions are exactly the `-D` values that no later `-U` names, in
command-line order (`Extract.inForce`; membership: `ExtractLemmas.mem_inForce`, order: `inForce_sublist`). -/
theorem defines_in_force (items : List Item) (h : ∀ it ∈ items, it.WF) :
    (lists (renderAll items)).defines = inForce items :=
  (lists_items items h).2.2

/-- `order_preserved` for `-D`: without `-U` the definitions are all `-D` values in command-line order -/
theorem order_preserved_defines (items : List Item) (h : ∀ it ∈ items, it.WF) (hu : ∀ it ∈ items, it.value? .U = none) :
    (lists (renderAll items)).get .D = items.filterMap (Item.value? .D) := by
  show (lists (renderAll items)).defines = _
  rw [defines_in_force items h, inForce_no_undef items hu]

/-- in general the definitions are a subsequence of the `-D` values: nothing is invented, the order is kept -/
theorem defines_sublist (items : List Item) (h : ∀ it ∈ items, it.WF) :
    ((lists (renderAll items)).defines).Sublist (items.filterMap (Item.value? .D)) := by
  rw [defines_in_force items h]; exact inForce_sublist items

/-- the same for the parser model on tame command lines; the search path is all `-I` directories followed by
all `-isystem` directories -/
theorem order_preserved_model (items : List Item) (h : ∀ it ∈ items, it.WF) (ht : Tame (renderAll items)) :
    argparseModel (renderAll items) = .ok (toModel
      ⟨inForce items,
       items.filterMap (Item.value? .I) ++ items.filterMap (Item.value? .isystem),
       items.filterMap (Item.value? .include)⟩) := by
  rw [main _ ht]
  have e := fun g hg => order_preserved items h g hg
  have e1 := defines_in_force items h
  have e2 := e .I (by decide); have e3 := e .isystem (by decide); have e4 := e .include (by decide)
  simp only [Lists.get] at e2 e3 e4
  simp only [extract, Lists.result, e1, e2, e3, e4]

example : (∀ it ∈ [Item.other "-Wall".toList, .att .D "A".toList, .sep .isystem "s".toList, .sep .I "i".toList,
      .att .D "B=2".toList, .att .U "A".toList], it.WF) ∧
    Tame (renderAll [Item.other "-Wall".toList, .att .D "A".toList, .sep .isystem "s".toList, .sep .I "i".toList,
      .att .D "B=2".toList, .att .U "A".toList]) ∧
    inForce [Item.other "-Wall".toList, .att .D "A".toList, .sep .isystem "s".toList, .sep .I "i".toList,
      .att .D "B=2".toList, .att .U "A".toList] = ["B=2".toList] := by
  refine ⟨?_, by decide +kernel, by decide +kernel⟩
  intro it hit
  simp only [List.mem_cons, List.not_mem_nil, or_false] at hit
  rcases hit with rfl | rfl | rfl | rfl | rfl | rfl <;> simp [Item.WF] <;> decide

/-! ### unmodelled options are ignored -/

theorem extract_middle (xs m m' ys : Argv) (hc : Complete xs) (e : lists (m ++ ys) = lists (m' ++ ys)) :
    extract (xs ++ m ++ ys) = extract (xs ++ m' ++ ys) := by
  unfold extract
  rw [List.append_assoc, List.append_assoc, lists_append xs _ hc, lists_append xs _ hc, e]

/-- **unknown_ignored** — inserting an argument the property does not model after a complete prefix does not
change what is extracted -/
theorem unknown_ignored (xs ys : Argv) (u : List Char) (hc : Complete xs) (hu : reading u = .other) :
    extract (xs ++ [u] ++ ys) = extract (xs ++ ys) := by
  simpa using extract_middle xs [u] [] ys hc (by simp [lists, scan, hu])

/-- the same for the parser model, when both command lines are tame -/
theorem unknown_ignored_model (xs ys : Argv) (u : List Char) (hc : Complete xs) (hu : reading u = .other)
    (h1 : Tame (xs ++ [u] ++ ys)) (h2 : Tame (xs ++ ys)) :
    argparseModel (xs ++ [u] ++ ys) = argparseModel (xs ++ ys) :=
  model_eq_of_extract_eq h1 h2 (unknown_ignored xs ys u hc hu)

example : Complete ["-DA".toList, "-I".toList, "x".toList] ∧ reading "-march=native".toList = .other ∧
    Tame (["-DA".toList, "-I".toList, "x".toList] ++ ["-march=native".toList] ++ ["-DB".toList]) ∧
    Tame (["-DA".toList, "-I".toList, "x".toList] ++ ["-DB".toList]) := by decide +kernel

/-- an unmodelled option that takes a separate argument (`-MF x`, `-x c++`, `-ccbin g++`) is ignored together
with its argument -/
theorem unknown_pair_ignored (xs ys : Argv) (u x : List Char) (hc : Complete xs) (hu : reading u = .other)
    (hx : reading x = .other) : extract (xs ++ [u, x] ++ ys) = extract (xs ++ ys) := by
  simpa using extract_middle xs [u, x] [] ys hc (by simp [lists, scan, hu, hx])

/-! ### attached and separate spelling -/

/-- **attached_eq_separate** — `-DX` and `-D X` (likewise `-I`, `-isystem`, `-include`) mean the same -/
theorem attached_eq_separate (xs ys : Argv) (f : Flag) (v : List Char) (hv : v ≠ []) (hc : Complete xs) :
    extract (xs ++ [f.text ++ v] ++ ys) = extract (xs ++ [f.text, v] ++ ys) :=
  extract_middle xs _ _ ys hc (by simp [lists, scan, reading_att f v hv, reading_sep])

theorem attached_eq_separate_model (xs ys : Argv) (f : Flag) (v : List Char) (hv : v ≠ []) (hc : Complete xs)
    (h1 : Tame (xs ++ [f.text ++ v] ++ ys)) (h2 : Tame (xs ++ [f.text, v] ++ ys)) :
    argparseModel (xs ++ [f.text ++ v] ++ ys) = argparseModel (xs ++ [f.text, v] ++ ys) :=
  model_eq_of_extract_eq h1 h2 (attached_eq_separate xs ys f v hv hc)

example : Complete ["-O2".toList] ∧
    Tame (["-O2".toList] ++ [Flag.D.text ++ "N=\"a b\"".toList] ++ ["x.c".toList]) ∧
    Tame (["-O2".toList] ++ [Flag.D.text, "N=\"a b\"".toList] ++ ["x.c".toList]) := by decide +kernel

/-! ### `command` string ≙ `arguments` array -/

/-- **command_eq_arguments** — for every argument vector (any characters, including quotes, blanks,
backslashes, newlines, NUL, and empty arguments) splitting the shell-quoted command string with the model of
`CompileCommand.arguments` gives back the argument vector -/
theorem command_eq_arguments (argv : Argv) :
    Shlex.commandArguments (ShellQuote.shellJoin argv) = .ok argv := by
  unfold Shlex.commandArguments Shlex.shlexSplit
  rw [ShlexLemmas.split_ok]
  simpa using ShlexLemmas.go_join argv []

/-- hence the configuration extracted from the `command` form is the one extracted from the `arguments` form -/
theorem command_form_same_configuration (argv : Argv) (h : Tame argv) :
    (Shlex.commandArguments (ShellQuote.shellJoin argv)).toOption.map argparseModel
      = some (.ok (toModel (extract argv))) := by
  rw [command_eq_arguments, ← main argv h]; rfl

/-! ### witnesses: on each recorded class the model (= the code) really leaves the property -/

/-- D21: `-isystemDIR` / `-includeFILE` are not recognised -/
theorem witness_D21 : ∃ argv : Argv, Tag.D21 ∈ classes argv ∧ argparseModel argv ≠ .ok (toModel (extract argv)) :=
  ⟨["-isystem/usr/inc".toList], by decide +kernel⟩

/-- D22 (dash value): a separate-form value with a leading dash aborts -/
theorem witness_D22dash : ∃ argv : Argv, Tag.D22dash ∈ classes argv ∧ argparseModel argv = .error .argumentError :=
  ⟨["-D".toList, "-x".toList], by decide +kernel⟩

/-- D22 (abbreviation): `-i` exits, `-inc x` is taken for `-include x` -/
theorem witness_D22abbrev :
    (∃ argv : Argv, Tag.D22abbrev ∈ classes argv ∧ argparseModel argv = .error .systemExit) ∧
    (∃ argv : Argv, Tag.D22abbrev ∈ classes argv ∧ argparseModel argv ≠ .ok (toModel (extract argv))) :=
  ⟨⟨["-i".toList], by decide +kernel⟩, ⟨["-inc".toList, "x".toList], by decide +kernel⟩⟩

/-- D23: `--` swallows later options; an attached value `--` is stored as an empty list -/
theorem witness_D23 :
    (∃ argv : Argv, Tag.D23 ∈ classes argv ∧ argparseModel argv ≠ .ok (toModel (extract argv))) ∧
    argparseModel ["-D--".toList] = .ok ⟨[.emptyList], [], []⟩ :=
  ⟨⟨["--".toList, "-DA".toList], by decide +kernel⟩, by decide +kernel⟩

/-- D36: the leading `=` of an attached value is dropped -/
theorem witness_D36 : ∃ argv : Argv, Tag.D36 ∈ classes argv ∧ argparseModel argv ≠ .ok (toModel (extract argv)) :=
  ⟨["-I=sub".toList], by decide +kernel⟩

/-- a dangling flag is rejected by the model (as by every compiler) -/
theorem witness_dangling : ∃ argv : Argv, Tag.dangling ∈ classes argv ∧ argparseModel argv = .error .argumentError :=
  ⟨["-DA".toList, "-I".toList], by decide +kernel⟩

end CbiVerif.C11
