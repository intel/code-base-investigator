import CbiVerif.Props.C17
import CbiVerif.Lemmas.FGroups
import CbiVerif.Spec.FortranNodes
/-!
# C17 — the NODES of a free-form Fortran file (the Fortran analogue of `C05.nodes_of_ok`)

`C17.lines_eq_ref` says which physical lines are counted; `nodes_eq_ref` says how `FileParser` groups them: one node per
directive line, one per maximal run of counted lines between directive lines (`Spec/FortranNodes.lean`; a `#` line whose first
token is `##` is counted text, not a directive: `Fortran.isPasteLine`, and `Fortran.lineOut_dir` for what the C pass makes of
it), every node holding at least one line.  The proof follows the reference run line by line (`Lemmas/FGroups.lean`).  Before
the repair of F-C17-2 the statement needed the hypothesis "no continuation line whose `#` opens the text of a statement that
began with lone `&` lines": the code classified a logical line by the first character of its JOINED buffer; since the repair
text assembled from statement lines is never a directive (`F_C17_2_fixed`).
-/
namespace CbiVerif.C17
open CbiVerif CbiVerif.Fortran

/-- What `nodes_eq_ref` and the last clause of `lines_eq_ref` say, about the logical lines a caller already holds (the form of
    `C05.nodes_lines` / `C05.nodes_of_ok` on the C side); that `fortran_file_source` does not raise on such a text is
    `lines_eq_ref`. -/
theorem nodes_of_ok (text : String) (r : List (Bool × Bool)) (h : refText text = some r)
    (hk : ∀ x ∈ r, x.2 = false) (lls : List LL) (hs : fortranSource text = .ok lls) :
    countedOf lls = countedLines r ∧ (group lls).map nview = refNodes text ∧
      ∀ nd ∈ group lls, nd.numLines = nd.lines.length ∧ 1 ≤ nd.numLines := by
  obtain ⟨lls', _, hs', _, _, hc⟩ := lines_eq_ref text r h
  obtain rfl := Except.ok.inj (hs'.symm.trans hs)
  have hg := groups_of_ok text r h hk lls' hs
  refine ⟨hc hk, hg, fun nd hnd => ?_⟩
  have hn := (structural_nodes lls').2 nd hnd
  exact ⟨hn, hn ▸ List.length_pos_iff.mpr (refNodes_nonempty text _ (hg ▸ List.mem_map_of_mem hnd))⟩

/-- **C17.nodes_eq_ref.**  For every text the reference scanner accepts, with no line of finding class F-C17-1:
    `fortran_file_source` does not raise and the node list `FileParser` builds from it is the
    specification's — every preprocessor directive line is a node of its own, maximal runs of counted lines between directive
    lines form the code nodes (so a continued statement, its interleaved comment lines left out, is never cut and never read
    as a directive), and `num_lines = len(lines) ≥ 1` for every node. -/
theorem nodes_eq_ref (text : String) (r : List (Bool × Bool)) (h : refText text = some r)
    (hk : ∀ x ∈ r, x.2 = false) :
    ∃ lls, fortranSource text = .ok lls ∧
      (group lls).map (fun nd => (nd.isDir, nd.lines)) = refNodes text ∧
      ∀ nd ∈ group lls, nd.numLines = nd.lines.length ∧ 1 ≤ nd.numLines :=
  let ⟨lls, _, hs, _⟩ := lines_eq_ref text r h
  ⟨lls, hs, (nodes_of_ok text r h hk lls hs).2⟩

/-- the hypotheses are satisfiable by a non-trivial text: trailing comment, sentinel, `#ifdef/#else/#endif`, a statement
    continued over a blank and a comment line inside a character literal, a statement that BEGINS with a lone `&` line (F2018
    forbids it, the reference accepts it) and a `#` as statement text on a continuation line;
    and the conclusion is not trivial: three directive nodes, three code nodes, lines 5, 6 and 12 in no node -/
example :
    (let text := "x = 1 ! c\n!$omp do\n#ifdef A\ny = 'a!&''b&\n\n  ! c\n  &c' // &\n  z\n#else\n&\n  & w = 2 + &\n  ! note\n  & #3\n#endif\n"
     (refText text).map (fun r => r.all fun x => !x.2) = some true ∧
     refNodes text = [(false, [1, 2]), (true, [3]), (false, [4, 7, 8]), (true, [9]), (false, [11, 13]), (true, [14])] ∧
     (fortranSource text).toOption.map (fun lls => (group lls).map fun nd => (nd.isDir, nd.lines)) = some (refNodes text)) := by
  intro text
  rw [show text = String.ofList _ from rfl, refNodes_ofList, refText_ofList, fortranSource_ofList]
  decide +kernel

/-- `#` lines whose first token is `##` (the paste operator) are counted like every `#` line but are NOT directives: inside the
    reference's `WF` — specification and code (after the repair of F-C05-3, `FileParser.is_directive`) put
    them into the run of counted lines around them -/
example :
    (let text := "x = 1\n## a\ny = 2\n  ## b\n#define A\nz = 3\n# # c\n"
     (refText text).map (fun r => r.all fun x => !x.2) = some true ∧
     refNodes text = [(false, [1, 2, 3, 4]), (true, [5]), (false, [6]), (true, [7])] ∧
     (fortranSource text).toOption.map (fun lls => (group lls).map fun nd => (nd.isDir, nd.lines)) = some (refNodes text)) := by
  intro text
  rw [show text = String.ofList _ from rfl, refNodes_ofList, refText_ofList, fortranSource_ofList]
  decide +kernel

/-! ## repaired finding F-C17-2 -/

def witnessF2 : String := "x = 1\n&\n&#define A\ny = 2\n"

/-- **F_C17_2_fixed.**  The former finding class F-C17-2 — a continuation line whose `#` opens the text of a statement that
    began with lines holding only `&` was read as a preprocessor directive (three nodes, `#define A` taking effect), because
    `one_space_line.category()` looks at the first character of the joined buffer — is repaired: on the former witness the
    model of the repaired code counts lines 1, 3 and 4 as ONE code node, as the reference groups them (line 3 is a continuation
    line, its `#` is statement text, `gfortran -cpp -E` leaves it alone); likewise with leading blanks, an interleaved comment
    and a further continuation. -/
theorem F_C17_2_fixed :
    (refText witnessF2).map countedLines = some [1, 3, 4] ∧ (refText witnessF2).map kLines = some [] ∧
    refNodes witnessF2 = [(false, [1, 3, 4])] ∧
    (fortranSource witnessF2).toOption.map (fun lls => (group lls).map fun nd => (nd.isDir, nd.lines))
      = some [(false, [1, 3, 4])] ∧
    (fortranSource "& ! c\n  ! note\n& &\n  & #undef A &\n  & 1\n#define A\n").toOption.map
        (fun lls => (group lls).map fun nd => (nd.isDir, nd.lines))
      = some [(false, [4, 5]), (true, [6])] := by
  unfold witnessF2
  rw [refNodes_ofList, refText_ofList, fortranSource_ofList, fortranSource_ofList]
  decide +kernel

end CbiVerif.C17
