import CbiVerif.Props.C14Metrics
/-!
# C14 / C07 — the metric lines of `Model/Order.lean` over exact rationals ARE C07's definitions

`Order.metricLines` (law-free floats, the definitions the order-independence theorems are about) instantiated by the exact
rational operations `Drv.Order.ratOps` (NaN = `none`; the instance the driver executes) gives the values of `Model/Metrics.lean`
(C07: `coverage`, `distance`).  Together with `metrics_of_texts_are_definitions` the coverage line and every distance of
`metricsOfTexts ratOps` / `distanceMatrixOfTexts ratOps` are C07's definitions on the reference attribution.
-/
namespace CbiVerif.C14.Text
open CbiVerif.SM CbiVerif.C06C CbiVerif.C14C CbiVerif.Metrics CbiVerif.Drv.Order

/-! ## the operations of `ratOps` -/

theorem div_ofNat (x : Rat) {n : Nat} (hn : n ≠ 0) : ratOps.div (some x) (ratOps.ofNat n) = some (x / n) :=
  if_neg (Nat.cast_ne_zero.mpr hn)

/-- NaN absorbs every further summand -/
theorem foldl_add_none {α : Type} (f : α → Option Rat) (l : List α) :
    l.foldl (fun acc x => ratOps.add acc (f x)) none = none := by
  induction l with
  | nil => rfl
  | cons x l ih => exact ih

/-- a sum with NaN is defined iff every summand is -/
theorem foldl_add_ite {α : Type} (c : α → Prop) [DecidablePred c] (v : α → Rat) (l : List α) (a : Rat) :
    l.foldl (fun acc x => ratOps.add acc (if c x then none else some (v x))) (some a) =
      if l.all (fun x => !decide (c x)) then some (a + (l.map v).sum) else none := by
  induction l generalizing a with
  | nil => simp only [List.foldl_nil, List.all_nil, List.map_nil, List.sum_nil, add_zero, if_true]
  | cons x l ih =>
    rw [List.foldl_cons, List.all_cons, List.map_cons, List.sum_cons]
    by_cases hx : c x
    · rw [if_pos hx, decide_eq_true hx]
      exact foldl_add_none _ l
    · rw [if_neg hx, decide_eq_false hx, ← add_assoc]
      exact ih _

theorem div_zero_count (a : Option Rat) : ratOps.div a (ratOps.ofNat 0) = none := by
  cases a <;> rfl

/-- a quotient by a count is NaN if the count is `0` or the dividend is NaN -/
theorem div_ite_ofNat (d : Bool) (s : Rat) (n : Nat) :
    ratOps.div (if d then some s else none) (ratOps.ofNat n) = if n = 0 ∨ d = false then none else some (s / n) := by
  cases d with
  | false => rw [if_pos (Or.inr rfl)]; rfl
  | true =>
    by_cases hn : n = 0
    · rw [if_pos (Or.inl hn), hn]; exact div_zero_count _
    · rw [if_neg (not_or.mpr ⟨hn, Bool.noConfusion⟩)]; exact div_ofNat _ hn

/-- both models list the same platforms, `Model/Order.lean` sorted, C07 in first-occurrence order -/
theorem platformsSorted_perm_platformsOf (sm : SM.Setmap) : (CbiVerif.Order.platformsSorted sm).Perm (platformsOf sm) := by
  unfold CbiVerif.Order.platformsSorted
  rw [List.perm_ext_iff_of_nodup (CbiVerif.Order.sorted_canon _).nodup (nodup_platformsOf _)]
  intro p
  rw [CbiVerif.Order.mem_canon, mem_platformsOf, List.mem_flatMap]

theorem coverageOf_rat (sm : SM.Setmap) (ps : List String) :
    CbiVerif.Order.coverageOf ratOps sm ps = if Metrics.total sm = 0 then none else some (coverage0 sm ps) := by
  show (if Metrics.total sm = 0 then none else _) = _
  split
  · rfl
  · next h0 => exact congrArg (ratOps.mul · ratOps.hundred) (div_ofNat _ h0)

/-- the coverage line over exact rationals is `report.coverage(setmap)` of C07 -/
theorem coverage_rat_is_definition (sm : SM.Setmap) :
    CbiVerif.Order.coverage ratOps sm = Metrics.coverage sm [] := by
  unfold CbiVerif.Order.coverage
  rw [coverageOf_rat, coverage_eq, selected_nil, coverage0_set sm fun _ => (platformsSorted_perm_platformsOf sm).mem_iff]

/-- every distance over exact rationals is `report.distance` of C07 -/
theorem distance_rat_is_definition (sm : SM.Setmap) (p q : String) :
    CbiVerif.Order.distance ratOps sm p q = Metrics.distance sm p q := by
  show (if Metrics.unionCount sm p q = 0 then none else _) = if _ then _ else _
  split
  · rfl
  · next h0 => exact div_ofNat _ h0

theorem averageCoverageOn_rat (sm : SM.Setmap) (l : List String) :
    CbiVerif.Order.averageCoverageOn ratOps sm l = avgOn sm l := by
  unfold CbiVerif.Order.averageCoverageOn avgOn
  rw [List.foldl_map]
  simp only [coverageOf_rat]
  rw [show ratOps.zero = some 0 from rfl, foldl_add_ite, zero_add]
  by_cases hl : l.length = 0
  · rw [if_pos hl, if_pos (Or.inl hl)]; rfl
  · rw [if_neg hl]
    by_cases h0 : Metrics.total sm = 0
    · -- the first summand is NaN
      obtain ⟨x, l', rfl⟩ := List.exists_cons_of_ne_nil fun h => hl (congrArg List.length h)
      rw [if_pos (Or.inr h0), List.all_cons, decide_eq_true h0]; rfl
    · rw [if_neg (not_or.mpr ⟨hl, h0⟩), if_pos (List.all_eq_true.mpr fun _ _ => by rw [decide_eq_false h0]; rfl)]
      exact div_ofNat _ hl

/-- the average-coverage line over exact rationals is `report.average_coverage(setmap)` of C07 -/
theorem average_coverage_rat_is_definition (sm : SM.Setmap) :
    CbiVerif.Order.averageCoverage ratOps sm (platformSet sm) = Metrics.averageCoverage sm [] := by
  rw [averageCoverage_eq, selected_nil, ← avgOn_perm_list sm (platformsSorted_perm_platformsOf sm)]
  exact averageCoverageOn_rat sm _

/-! ## divergence -/

theorem divergenceOn_rat (sm : SM.Setmap) (l : List String) :
    CbiVerif.Order.divergenceOn ratOps sm l = Metrics.divergenceOn sm l := by
  -- the guard on an empty list of pairs is the division by the count `0`
  have hg : CbiVerif.Order.divergenceOn ratOps sm l =
      ratOps.div ((CbiVerif.Order.pairs l).foldl (fun acc pq => ratOps.add acc (CbiVerif.Order.distance ratOps sm pq.1 pq.2)) (some 0))
        (ratOps.ofNat (CbiVerif.Order.pairs l).length) := by
    unfold CbiVerif.Order.divergenceOn
    cases CbiVerif.Order.pairs l with
    | nil => exact (div_zero_count _).symm
    | cons _ _ => rfl
  simp only [hg, distance_rat_is_definition, Metrics.distance]
  rw [foldl_add_ite, zero_add, div_ite_ofNat, pairs_length, pairs_sum (distance0 sm), Metrics.divergenceOn, ← pairs_all]
  rfl

/-- the divergence line over exact rationals is `report.divergence(setmap)` of C07 -/
theorem divergence_rat_is_definition (sm : SM.Setmap) :
    CbiVerif.Order.divergence ratOps sm = Metrics.divergence sm := by
  unfold CbiVerif.Order.divergence Metrics.divergence
  rw [divergenceOn_rat]
  exact divergenceOn_perm_list sm (platformsSorted_perm_platformsOf sm)

/-! ## the metric lines of the texts, over exact rationals, are C07's definitions on the reference attribution -/

/-- **metric_lines_rat_are_definitions.**  For every dict: the four metric lines computed by the definitions the order-independence
    theorems are about (`Order.metricLines`, law-free operations) instantiated with exact rationals are `report.divergence`,
    `report.coverage`, `report.average_coverage` of C07's model and the total; every cell of the distance matrix is C07's
    `distance`. -/
theorem metric_lines_rat_are_definitions (sm : SM.Setmap) :
    (metricsOf ratOps sm).divergence = Metrics.divergence sm ∧
    (metricsOf ratOps sm).coverage = Metrics.coverage sm [] ∧
    (metricsOf ratOps sm).avgCoverage = Metrics.averageCoverage sm [] ∧
    (metricsOf ratOps sm).totalSloc = Metrics.total sm ∧
    (CbiVerif.Order.distanceMatrix ratOps sm).2 =
      (CbiVerif.Order.platformsSorted sm).map fun p => (CbiVerif.Order.platformsSorted sm).map fun q => Metrics.distance sm p q :=
  ⟨divergence_rat_is_definition sm, coverage_rat_is_definition sm, average_coverage_rat_is_definition sm, rfl, by
    unfold CbiVerif.Order.distanceMatrix
    simp only [distance_rat_is_definition]⟩

/-- **metrics_of_texts_rat_are_reference_definitions.**  Under the hypotheses of `metrics_of_texts_are_definitions` the metric
    lines the composed pipeline prints — `metricsOfTexts ratOps`, the reading the order-independence theorems of this property
    are about — are C07's definitions applied to the reference attribution read line by line, and the total is the number of
    lines the C05 specification counts. -/
theorem metrics_of_texts_rat_are_reference_definitions (files : List SrcFile) (plats : List Plat) (fs : List FileRec)
    (h : analyse files plats = .ok fs) (hnd : (files.map (·.path)).Nodup) (hacc : CbiVerif.C06.RefAcceptsAll files plats)
    (hg : ∀ f ∈ files, C06C.guard f.text = true) :
    ∃ ps m, List.Forall₂ (fun (f : SrcFile) (p : Parsed) => parseSrc f.text = .ok p) files ps ∧
      metricsOfTexts ratOps files plats = some m ∧
      m.divergence = Metrics.divergence (lineSetmap (refLines plats files ps)) ∧
      m.coverage = Metrics.coverage (lineSetmap (refLines plats files ps)) [] ∧
      m.avgCoverage = Metrics.averageCoverage (lineSetmap (refLines plats files ps)) [] ∧
      m.totalSloc = (refLines plats files ps).length ∧
      ∀ p q, readTexts (fun sm => CbiVerif.Order.distance ratOps sm p q) files plats =
        some (Metrics.distance (lineSetmap (refLines plats files ps)) p q) := by
  obtain ⟨ps, hps, hsm, c1, c2, c3, c4, c5, _⟩ := metrics_of_texts_are_definitions files plats fs h hnd hacc hg
  obtain ⟨d1, d2, d3, d4, _⟩ := metric_lines_rat_are_definitions (getSetmap fs)
  refine ⟨ps, metricsOf ratOps (getSetmap fs), hps, ?_, by rw [d1, c4], by rw [d2, c1], by rw [d3, c2], by rw [d4, c5], fun p q => ?_⟩
  · unfold metricsOfTexts readTexts; rw [hsm]
  · unfold readTexts; rw [hsm]; simp only [distance_rat_is_definition, c3]

/-- non-vacuity: on the example of `Props/C06Compose.lean` (its hypotheses: `exSrc_facts`) -/
example : ((metricsOfTexts ratOps CbiVerif.C06.exSrc CbiVerif.C06.exPlats).map fun m =>
      (m.divergence, m.coverage, m.avgCoverage, m.totalSloc)) = some (some (3/10 : Rat), some (250/3 : Rat), some (425/6 : Rat), 12) := by
  rw [metricsOfTexts, readTexts_of_ok exSrc_facts.2.2.2]
  decide +kernel

end CbiVerif.C14.Text
