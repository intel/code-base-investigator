import CbiVerif.Lemmas.FCondChars
import CbiVerif.Model.FSource
import CbiVerif.Model.FCond
import CbiVerif.Spec.FortranRef
import CbiVerif.Lemmas.FSourceLemmas
import CbiVerif.Lemmas.FLineKinds
import CbiVerif.Lemmas.FRun
import CbiVerif.Props.C01Main
import CbiVerif.Generated.Tables

/-!
# C17 — Fortran sources: comment/continuation handling and preprocessor conditionals

Property theorems only.  The executed model (`Model/FClean.lean`, `Model/FSource.lean`,
driver op `fortran`) is what the theorems are about; the reference scanner is
`Spec/FortranRef.lean`.

* `structural …`           — invariants of the counted lines of *every* text / line list (full);
* `lines_eq_ref`           — counted = reference for every accepted text (full, text level);
* `lines_eq_ref_logical`   — the same for every accepted list of C-pass logical lines;
* `finding_F_C17_1`        — the recorded finding class is real (witness);
* `conditionals_as_C`      — the executed conditional selection of a Fortran source (`analyseFortran`:
                             Fortran node list through the ONE C01 model `PP.analyseNodes`) returns exactly
                             the rows (or the failure) of the flat ISO C machine (`referenceFortran`) whenever
                             that reports no diagnostic (full; from `C01.analyseNodes_eq_reference`);
* `ext_free_form`          — `.f90`/`.F90` are the free-form extensions in the code's current table.
-/
namespace CbiVerif.C17
open CbiVerif CbiVerif.Fortran

/-! ## structural -/

/-- **no line twice, all in range** (text level, through the C pass and the Fortran pass):
the counted lines are a sub-sequence of `1, 2, …, number of physical lines`. -/
theorem structural_sublist (text : String) (lls : List LL) (h : fortranSource text = .ok lls) :
    (countedOf lls).Sublist (List.range' 1 (splitLines text).length) := by
  revert h
  fun_cases fortranSource text with
  | case1 e hd => nofun
  | case2 cls hd =>
    intro h
    have h1 := dLoop_sublist (splitLines text) [.top] {} [] 0 cls hd
    rw [List.nil_append, Nat.zero_add] at h1
    rw [(fLoop_counted cls {} (ok_fresh {})).1 lls h]
    exact (select_sublist _ _).trans h1

/-- the hypothesis is satisfiable: a text the code accepts, with comment, sentinel, continuation
and preprocessor lines (lines 2, 5 and 6 are not counted) -/
example :
    (fortranSource "x = 1 ! c\n! only a comment\n!$omp do\ny = 'a!b' // &\n\n  ! c\n  & 'c'\n#ifdef A\nz = 2\n#endif\n").toOption.map countedOf
      = some [1, 3, 4, 7, 8, 9, 10] := by
  -- the characters are read off the literal before the kernel evaluates (`Lemmas/FRun.lean`, last section)
  rw [fortranSource_ofList]; decide +kernel

theorem structural_nodup (text : String) (lls : List LL) (h : fortranSource text = .ok lls) :
    (countedOf lls).Nodup :=
  (structural_sublist text lls h).nodup (List.nodup_range' (step := 1) (by decide))

theorem structural_increasing (text : String) (lls : List LL) (h : fortranSource text = .ok lls) :
    (countedOf lls).Pairwise (· < ·) :=
  List.Pairwise.sublist (structural_sublist text lls h) (List.pairwise_lt_range' (step := 1) (by decide))

theorem structural_in_range (text : String) (lls : List LL) (h : fortranSource text = .ok lls) :
    ∀ x ∈ countedOf lls, 1 ≤ x ∧ x ≤ (splitLines text).length := by
  intro x hx
  have := (structural_sublist text lls h).subset hx
  simp only [List.mem_range'_1] at this
  omega

/-- **the nodes partition the counted lines and `num_lines = |lines|`** for every node
`FileParser` builds -/
theorem structural_nodes (lls : List LL) :
    nodesLines (group lls) = countedOf lls ∧ ∀ n ∈ group lls, n.numLines = n.lines.length := by
  simpa [group, countedOf] using groupAux_nodes lls []

/-- **which lines are counted**: exactly the lines of the directive lines and of the lines for
which the cleaner's buffer is non-blank; and `fortran_file_source` raises iff the cleaner does
not end at top level -/
theorem structural_counted_eq_flags (cls : List CL) :
    (∀ lls, fPass cls = .ok lls →
      countedOf lls = select (flagsFrom {} (cls.map (·.text))) cls) ∧
    ((∃ lls, fPass cls = .ok lls) ↔ (finalState {} (cls.map (·.text))).stack = [.top]) :=
  fLoop_counted cls {} (ok_fresh {})

/-- **blank lines are never counted** (cleaner at top level or at the start of a continuation line) -/
theorem structural_blank (s : FSt) (l : List Char) (hs : AtCode s) (hl : isBlankLine l = true) :
    (procLine s l).2.blank = true :=
  blank_of_onlySp _ (blank_onlySp l s {} hs onlySp_empty hl)

/-- **ordinary comment lines are never counted**, also when interleaved in a continued statement -/
theorem structural_comment (s : FSt) (l : List Char) (hs : AtCode s) (hl : isCommentLine l = true) :
    (procLine s l).2.blank = true :=
  blank_of_onlySp _ (comment_onlySp l s {} hs onlySp_empty hl)

/-- **directive-sentinel lines are always counted** — from every state a line can start in
(top level, continuation, or inside an unterminated character context) -/
theorem structural_sentinel (s : FSt) (l : List Char) (hs : AtCode s ∨ AtLit s) (hl : isSentinelLine l = true) :
    (procLine s l).2.blank = false := by
  apply blank_of_hasVis
  rcases hs with hs | hs
  · exact sentinel_vis_atCode l s {} hs hl
  · exact sentinel_vis_atLit l s {} hs hl

/-- the hypotheses of the three theorems are satisfiable -/
example : AtCode {} ∧ AtCode ⟨[.cfs, .top], .run, [], []⟩ ∧ AtLit ⟨[.sq, .top], .run, [], []⟩ ∧
    isBlankLine "   ".toList = true ∧ isCommentLine "  ! don't $".toList = true ∧
    isSentinelLine " !dir$ ivdep".toList = true ∧ isSentinelLine "!$omp do".toList = true := by
  refine ⟨⟨rfl, Or.inl rfl⟩, ⟨rfl, Or.inr rfl⟩, ⟨rfl, Or.inr rfl⟩, ?_⟩
  rw [String.toList_ofList, String.toList_ofList, String.toList_ofList, String.toList_ofList]
  decide +kernel

/-- the same inside a run of `fortran_file_source`: the physical lines of a comment line are not
among the counted lines, those of a sentinel line are -/
theorem structural_in_run (cls : List CL) (lls : List LL) (h : fPass cls = .ok lls)
    (hn : (cls.flatMap (·.lines)).Nodup) (i : Nat) (hi : i < cls.length) :
    (isCommentLine cls[i].text = true → AtCode (stateAt {} (cls.map (·.text)) i) →
      ∀ x ∈ cls[i].lines, x ∉ countedOf lls) ∧
    (isSentinelLine cls[i].text = true →
      (AtCode (stateAt {} (cls.map (·.text)) i) ∨ AtLit (stateAt {} (cls.map (·.text)) i)) →
      ∀ x ∈ cls[i].lines, x ∈ countedOf lls) := by
  have hc := (structural_counted_eq_flags cls).1 lls h
  have hi' : i < (cls.map (·.text)).length := by simpa using hi
  have hg := flagsFrom_get (cls.map (·.text)) {} i hi'
  simp only [List.getElem_map] at hg
  constructor
  · intro hcm hs x hx
    rw [hc]
    refine select_not_mem _ cls i hi x hn ?_ hx
    rw [hg, not_dir_of_comment _ hcm, structural_comment _ _ hs hcm]; rfl
  · intro hsn hs x hx
    rw [hc]
    refine select_mem _ cls i hi x ?_ hx
    rw [hg, not_dir_of_sentinel _ hsn, structural_sentinel _ _ hs hsn]; rfl

/-- hypotheses of `structural_in_run` are satisfiable: line 2 is a comment inside a continued
statement, line 3 a sentinel -/
def exRun : List CL :=
  [⟨[1], "x = 1 + &".toList⟩, ⟨[2], " ! note".toList⟩, ⟨[3], "!$omp x".toList⟩, ⟨[4], " & 2".toList⟩]

example :
    (fPass exRun).toOption = some [⟨[1, 3, 4], "x = 1 + !$omp x 2".toList, false⟩] ∧
    (exRun.flatMap (·.lines)).Nodup ∧
    isCommentLine (exRun[1]'(by decide)).text = true ∧ isSentinelLine (exRun[2]'(by decide)).text = true ∧
    (stateAt {} (exRun.map (·.text)) 1).stack = [.cfs, .top] ∧
    (stateAt {} (exRun.map (·.text)) 2).stack = [.cfs, .top] := by
  unfold exRun
  rw [String.toList_ofList, String.toList_ofList, String.toList_ofList, String.toList_ofList, String.toList_ofList]
  decide +kernel

/-! ## counted lines = reference -/

/-- **counted lines = reference (text level, full)**: for every text the reference accepts,
`FileParser`'s line source (`c_file_source(directives_only=True)` feeding `fortran_file_source`)
does not raise, and every physical line outside finding class F-C17-1 is counted iff the
reference counts it; with no F-C17-1 line the counted lines are exactly the reference's. -/
theorem lines_eq_ref (text : String) (r : List (Bool × Bool)) (h : refText text = some r) :
    ∃ lls bs, fortranSource text = .ok lls ∧ agree bs r ∧ countedOf lls = numberedFrom 0 bs ∧
      ((∀ x ∈ r, x.2 = false) → countedOf lls = countedLines r) := by
  obtain ⟨hs, hrun⟩ := fortranSource_of_refText text r h
  obtain ⟨lls, bs, hl, a1, hc⟩ := hrun.counted
  exact ⟨lls, bs, hs.trans hl, a1, hc, fun hk => by rw [hc, agree_noK bs r a1 hk]; rfl⟩

/-- the hypothesis is satisfiable by a non-trivial text (trailing comment, sentinel, preprocessor
lines, continuation with interleaved blank and comment lines, a literal holding `!`, `&` and a
doubled quote that is continued inside the literal) -/
example :
    refText "x = 1 ! c\n!$omp do\n#ifdef A\ny = 'a!&''b&\n\n  ! c\n  &c' // &\n  z\n#endif\n" =
      some [(true, false), (true, false), (true, false), (true, false), (false, false), (false, false),
            (true, false), (true, false), (true, false)] := by
  rw [refText_ofList]; decide +kernel

/-- the same one level down, for *every* list of C-pass logical lines (also those that stem from
`\\`-spliced physical lines, which the text-level reference excludes): if the reference accepts
their cleaned texts, `fortran_file_source` does not raise and every logical line outside
F-C17-1 has its physical lines counted iff the reference counts it. -/
theorem lines_eq_ref_logical (cls : List CL) (r : List (Bool × Bool))
    (hshape : ∀ cl ∈ cls, isDirText cl.text = isDirectiveLine cl.text)
    (href : refLines .code (cls.map (·.text)) = some r) :
    ∃ lls bs, fPass cls = .ok lls ∧ countedOf lls = select bs cls ∧ agree bs r ∧
      ((∀ x ∈ r, x.2 = false) → countedOf lls = select (r.map (·.1)) cls) := by
  obtain ⟨ha, hf⟩ := flags_eq_ref (cls.map (·.text)) {} .code r init_rlF (List.forall_mem_map.mpr hshape) href
  obtain ⟨lls, hl⟩ := (structural_counted_eq_flags cls).2.mpr (rlF_stack hf)
  have hc := (structural_counted_eq_flags cls).1 lls hl
  refine ⟨lls, _, hl, hc, ha, fun hk => ?_⟩
  rw [hc, agree_noK _ r ha hk]

/-- the hypotheses are satisfiable by a non-trivial input: statement with trailing comment,
sentinel, continuation with interleaved comment and leading `&`, a literal holding `!`, `&`, a
doubled quote, continued inside the literal, and preprocessor lines -/
def exRef : List CL :=
  [⟨[1], "x = 1 ! c".toList⟩, ⟨[2], "!$omp do".toList⟩, ⟨[3], "#ifdef A".toList⟩,
   ⟨[4], "y = 'a!&''b&".toList⟩, ⟨[5], " ! c".toList⟩, ⟨[6], " &c' // &".toList⟩, ⟨[7], " z".toList⟩,
   ⟨[8], "#endif".toList⟩]

example :
    (∀ cl ∈ exRef, isDirText cl.text = isDirectiveLine cl.text) ∧
    refLines .code (exRef.map (·.text)) =
      some [(true, false), (true, false), (true, false), (true, false), (false, false), (true, false),
            (true, false), (true, false)] := by
  unfold exRef
  rw [String.toList_ofList, String.toList_ofList, String.toList_ofList, String.toList_ofList, String.toList_ofList,
    String.toList_ofList, String.toList_ofList, String.toList_ofList]
  decide +kernel

/-! ## recorded finding F-C17-1 -/

def witnessF1 : String := "x = 'a&\n& &\n&b'\n"

/-- the finding class is real: the reference accepts the witness, marks line 2 as F-C17-1 and
counts it (its blank is part of the character literal); the model of the code does not. -/
theorem finding_F_C17_1 :
    (refText witnessF1).map countedLines = some [1, 2, 3] ∧
    (refText witnessF1).map kLines = some [2] ∧
    (fortranSource witnessF1).toOption.map countedOf = some [1, 3] := by
  unfold witnessF1
  rw [refText_ofList, fortranSource_ofList]; decide +kernel

/-- … whereas the same line with leading blanks is counted (so the classifier is narrow) -/
theorem finding_F_C17_1_leading_blank :
    (fortranSource "x = 'a&\n   & &\n&b'\n").toOption.map countedOf = some [1, 2, 3] := by
  rw [fortranSource_ofList]; decide +kernel

/-! ## preprocessor conditionals select lines as in C -/

/-- **Preprocessor conditionals in a Fortran source select lines as in C.**  `analyseFortran` is what
driver op `fortran_cond` returns as `model`: `fortran_file_source` + `FileParser`'s grouping +
`DirectiveParser` (`fortranPNodes`), then the ONE language-independent model of C01
(`PP.analyseNodes`: `SourceTree.insert` as `Cond.build`, `ParserState.associate` as `Cond.model`,
`Platform.define` keeping the first definition).  `referenceFortran` (op's `spec`) runs the flat
conditional-stack machine of ISO C 6.10.1 with C's `#define` on the same node list.  For EVERY Fortran
text and EVERY `-D` list: whenever the reference reports no structural diagnostic (stray
`#elif/#else/#endif`, `#elif` after `#else`), no unterminated `#if` and no macro redefinition, the
model returns exactly the reference's per-node attribution (kind, physical lines, selected or not) —
or fails with exactly the reference's expression/directive failure. -/
theorem conditionals_as_C (text : String) (defs : List String) (r : PP.RefResult)
    (h : referenceFortran text defs = .ok r)
    (hb : r.bad = false) (hu : r.unterminated = false) (hd : r.diag = false) :
    analyseFortran text defs = match r.err with | none => .ok r.rows | some e => .error e :=
  C01.frontEnd_eq_reference (fortranPNodes text) defs r h hb hu hd

/-- … hence the same physical lines are selected -/
theorem conditionals_as_C_lines (text : String) (defs : List String) (r : PP.RefResult)
    (h : referenceFortran text defs = .ok r)
    (hb : r.bad = false) (hu : r.unterminated = false) (hd : r.diag = false) (he : r.err = none) :
    (analyseFortran text defs).toOption.map attributedLines = some (attributedLines r.rows) := by
  rw [conditionals_as_C text defs r h hb hu hd, he]; rfl

/-! ## language selection -/

/-- in the code's current extension table `.f90` and `.F90` (and nothing else) are free-form
Fortran; in particular the fixed-form extensions are not -/
theorem ext_free_form :
    (CbiVerif.Gen.languageExts.filter fun e => e.2.contains ".f90" || e.2.contains ".F90").map (·.1)
      = ["fortran-free"] ∧
    (CbiVerif.Gen.languageExts.find? fun e => e.1 == "fortran-free").map (·.2) = some [".f90", ".F90"] := by
  decide +kernel

end CbiVerif.C17

/-! Non-vacuity of `conditionals_as_C`: its hypotheses hold on a concrete Fortran text with nested
`#ifdef/#else/#endif`, `#elif`, `#define` on one path, a continued statement with an interleaved
comment, a character literal holding `!`, a sentinel and an ordinary comment.  The macro expander and the
expression evaluator of the executed model are the total definitions `MX.cbiExpand` / `Eval.cbiEval`
(`PP.condValue`), so this is a kernel-checked statement; the harness observes the same on every generated program. -/
namespace CbiVerif.C17
open CbiVerif.Fortran CbiVerif.PP in
example :
    (let text := "m1 = 1\n#ifdef A\nm2 = 'a!b' &\n  ! c\n  & // 'c'\n#ifdef B\nm3 = 3\n#else\n#define C 1\n!$omp do\nm4 = 4\n#endif\n#elif defined(B)\nm5 = 5\n#else\n! only a comment\nm6 = 6\n#endif\n#if C == 1\nm7 = 7\n#endif\n"
     match referenceFortran text ["A=1"], analyseFortran text ["A=1"], referenceFortran text ["B"] with
     | .ok r, .ok rows, .ok r2 =>
       !r.bad && !r.unterminated && !r.diag && r.err.isNone && rows == r.rows &&
       (rows.filter (fun x => x.1 == .code)).map (fun x => (x.2.1, x.2.2)) ==
         [([1], true), ([3, 5], true), ([7], false), ([10, 11], true), ([14], false), ([17], false), ([20], true)] &&
       attributedLines rows == [1, 2, 3, 5, 6, 8, 9, 10, 11, 12, 13, 15, 18, 19, 20, 21] &&
       attributedLines r2.rows == [1, 2, 13, 14, 15, 18, 19, 21]
     | _, _, _ => false) = true := by
  extract_lets text
  rw [referenceFortran, referenceFortran, analyseFortran, fortranPNodes, fortranSource, Fortran.splitLines, pnodeOf_eq]
  -- `text.toList` stands in the discriminants of a `match`, where a `rw` is checked by evaluating both sides: it is named,
  -- turned into the list of its characters outside the `match`, and put back
  generalize hl : text.toList = l
  revert hl
  rw [String.toList_ofList]
  rintro rfl
  decide +kernel

-- the hypotheses matter: an unterminated `#ifdef` is reported by the reference
open CbiVerif.Fortran in
example :
    (match referenceFortran "#ifdef A\nx = 1\n" [] with
     | .ok r => r.unterminated && !r.bad
     | _ => false) = true := by
  decide +kernel
end CbiVerif.C17
