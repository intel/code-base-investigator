import CbiVerif.Props.C03FunLike
import CbiVerif.Lemmas.MacroFunSpecC
import CbiVerif.Lemmas.LexLiteral
/-! # C03 — function-like macro expansion conforms to the specification (Prosser's hide-set algorithm)

Model `M` = `CbiVerif.MX.cbiExpand` (the step machine the driver executes), spec `S` = `CbiVerif.Spec.Prosser.prosserToks` on the
translated table (`specTableF`) and text (`toSpec []`).  `Props/C03FunLike.lean` proves `M` = the recursive reference `Ref` on the
fragment `FunTbl` / `fitsb`; here `Ref` = `S` is proved (`Lemmas/MacroFunSpecA-C.lean`), which closes the chain model = spec:

* `funlike_conforms_partial` — tables without `#` / `##` / variadic parameters (`FunTbl`, `ConfTbl`), texts inside `fitsb` and the
  additional decidable condition `confb` (every call has exactly as many arguments as parameters — the specification rejects
  anything else; the arguments of every call met during the run hold no macro name and at most `L` tokens): spellings of
  `cbiExpand` = spellings of the specification.  Nested calls in replacement lists, self-reference, object-like names anywhere
  outside call arguments, function-like names that are not calls, any table size are inside.  The specification's fuel is a
  computed bound (`cost + L + 1 < defaultFuel`);
* `funlike_simple_conforms_partial` — the syntactic sub-fragment (`SimpleTbl`, `simpleText`, `exactArity`): no hypothesis about the
  run is left, and both fuels are closed forms;
* `ref_vs_prosser_witness` — why `fitsb` alone is not enough: a text inside `fitsb` on which the machine (= `Ref` = gcc) and
  Prosser's algorithm differ (a function-like name left over by the expansion of an argument keeps that expansion's hide set;
  C11 6.10.3.4 p.4 leaves this nesting unspecified), so `FunLikeFull` (`Props/C03FunLike.lean`) is not provable as it stands;
* finding D44 (a string literal `","` taken for the argument separator) is repaired: `C03.D44_fixed` in `Props/C03.lean`; literals
  spelled `,` `(` `)` are inside the proved fragment. -/
namespace CbiVerif.C03
open CbiVerif.PP CbiVerif.MX

/-- **function-like fragment, against the specification itself**: for every table whose function-like macros have no `#` / `##` /
    variadic parameter (`FunTbl`), keyed by name and made of comparable tokens (`ConfTbl`), every nesting budget `d` below the
    limit and every text of comparable tokens inside `fitsb` (calls completed in the token list that holds the name) and `confb`
    (exact arity; call arguments without macro names, at most `L` tokens), as long as both fuels cover the computed iteration
    bound, the model of CBI's expander and Prosser's hide-set algorithm produce the same spellings. -/
theorem funlike_conforms_partial (tbl : Table) (ts : List Tok) (d L : Nat) (hT : FunTbl tbl) (hC : ConfTbl tbl)
    (hts : ∀ t ∈ ts, CTok tbl t) (hfit : fitsb tbl d [] ts = true) (hconf : confb tbl L d [] ts = true)
    (hd : d + 1 < CbiVerif.Gen.maxLevel) (hfuel : cost tbl d [] ts + 2 ≤ fuelFor tbl ts)
    (hsfuel : cost tbl d [] ts + L + 1 < CbiVerif.Spec.Prosser.defaultFuel) :
    ∃ r out, cbiExpand tbl ts = .ok r ∧
      CbiVerif.Spec.Prosser.prosserToks (specTableF tbl) (ts.map (toSpec [])) = .ok out ∧
      r.map spellTok = out.map (·.text) := by
  obtain ⟨out, ho, he⟩ := Ref_eq_prosser tbl hC L d ts hts hfit hconf hsfuel
  exact ⟨_, out, funlike_partial tbl ts d hT hfit hd hfuel, ho, he.symm⟩

/-- the hypotheses of `funlike_conforms_partial` on concrete definitions and texts (lexer and `#define` parser included), and
    the common result -/
def inConfFragment (defs : List String) (text : String) (d L : Nat) (expect : List String) : Bool :=
  match buildTable [] defs with
  | .ok tbl =>
    let ts := tokenize text
    funTblb tbl && confTblb tbl && ts.all (ctokb tbl) && fitsb tbl d [] ts && confb tbl L d [] ts &&
      decide (d + 1 < CbiVerif.Gen.maxLevel) && decide (cost tbl d [] ts + 2 ≤ fuelFor tbl ts) &&
      decide (cost tbl d [] ts + L + 1 < CbiVerif.Spec.Prosser.defaultFuel) &&
      (match cbiExpand tbl ts with | .ok r => r.map spellTok == expect | _ => false) &&
      (match CbiVerif.Spec.Prosser.prosserToks (specTableF tbl) (ts.map (toSpec [])) with
       | .ok o => o.map (·.text) == expect | .error _ => false)
  | .error _ => false

/-- non-vacuity: calls of other function-like macros in a replacement list (their arguments are the substituted parameters),
    self-reference (painted), an object-like name rescanned after substitution, a function-like name that is not a call,
    nested parentheses and an empty argument -/
example : inConfFragment ["F(x,y) x+G(y)*N", "G(a) (a a)", "N 3 N", "R(x) R(x)-1", "Z() 7"] "F(p, (q,r)) + R(2) G Z() F(,s);" 5 5
    ["p", "+", "(", "(", "q", ",", "r", ")", "(", "q", ",", "r", ")", ")", "*", "3", "N", "+", "R", "(", "2", ")", "-", "1", "G",
     "7", "+", "(", "s", "s", ")", "*", "3", "N", ";"] = true := by rw [inConfFragment]; lex_decide

/-- **simple function-like fragment, against the specification itself**: tables (`SimpleTbl`, `ConfTbl`) whose function-like
    macros have no `#` / `##` / variadic parameter and whose replacement lists hold no function-like macro name; texts (`simpleText`,
    `exactArity`) in which every function-like macro name is followed, in the text, by a complete call with exactly as many
    arguments as parameters, the arguments holding no macro name (or by a token other than `(`).  With `|tbl| + 2 < max_level`
    and the specification's fuel above the closed-form bound, the model of CBI's expander and Prosser's hide-set algorithm
    produce the same spellings — no hypothesis about the run is left. -/
theorem funlike_simple_conforms_partial (tbl : Table) (ts : List Tok) (hT : SimpleTbl tbl) (hC : ConfTbl tbl)
    (hct : ∀ t ∈ ts, CTok tbl t) (hts : simpleText tbl ts = true) (har : exactArity tbl ts = true)
    (hsz : tbl.length + 2 < CbiVerif.Gen.maxLevel)
    (hfuel : ts.length * Cb (bodyMax tbl) (tbl.length + 1) + ts.length + 1 < CbiVerif.Spec.Prosser.defaultFuel) :
    ∃ r out, cbiExpand tbl ts = .ok r ∧
      CbiVerif.Spec.Prosser.prosserToks (specTableF tbl) (ts.map (toSpec [])) = .ok out ∧
      r.map spellTok = out.map (·.text) := by
  obtain ⟨hfit, hcost⟩ := simple_fits tbl hT ts hts
  exact funlike_conforms_partial tbl ts (tbl.length + 1) ts.length hT.funTbl hC hct hfit (simple_confb tbl hT ts hts har) hsz
    (by unfold fuelFor; omega) (by omega)

/-- the hypotheses are satisfiable (definitions and text through the real `#define` parser and lexer; a command-line definition
    included), and the common result is the C standard's -/
example :
    (match buildTable ["K=2"] ["ADD(x,y) x+y*K", "NEG(x) (-x)"] with
     | .ok tbl =>
       let ts := tokenize "ADD(1,(a,b)) + NEG(q) * K + ADD(p q,) NEG;"
       simpleTblb tbl && confTblb tbl && ts.all (ctokb tbl) && simpleText tbl ts && exactArity tbl ts &&
         decide (tbl.length + 2 < CbiVerif.Gen.maxLevel) &&
         decide (ts.length * Cb (bodyMax tbl) (tbl.length + 1) + ts.length + 1 < CbiVerif.Spec.Prosser.defaultFuel) &&
         (match CbiVerif.Spec.Prosser.prosserToks (specTableF tbl) (ts.map (toSpec [])) with
          | .ok o => o.map (·.text) | .error _ => []) ==
           ["1", "+", "(", "a", ",", "b", ")", "*", "2", "+", "(", "-", "q", ")", "*", "2", "+", "p", "q", "+", "*", "2", "NEG", ";"]
     | .error _ => false) = true := by lex_decide

/-- exact arity is needed: with one argument too many the specification reports a constraint violation (6.10.3 p.4) while the
    text is still inside `simpleText` (which asks for *enough* arguments) -/
example :
    (match buildTable [] ["ID(x) x"] with
     | .ok tbl =>
       let ts := tokenize "ID(1,2)"
       simpleTblb tbl && simpleText tbl ts && !exactArity tbl ts &&
         (match CbiVerif.Spec.Prosser.prosserToks (specTableF tbl) (ts.map (toSpec [])) with
          | .error .arity => true | _ => false)
     | .error _ => false) = true := by lex_decide

/-- **`fitsb` alone does not give conformance to Prosser's algorithm**: `F(H(0))` with `H(x) G I ()`, `G() H(1)`, `I` empty, `F(x) x`
    is inside the fragment of `funlike_partial`; the machine (like gcc) answers `G ()`: the `G` left over by the expansion of the
    argument is called when `F`'s replacement list is rescanned, `H` is enabled again there and its inner `G` is painted.
    Prosser's algorithm keeps `H` in the hide set of that `G` and answers `H(1)`.  (C11 6.10.3.4 p.4: unspecified; the harness
    accepts a result that equals gcc's.)  The call argument `H(0)` holds a macro name, which `confb` excludes. -/
theorem ref_vs_prosser_witness :
    (match buildTable [] ["I", "H(x) G I ()", "G() H(1)", "F(x) x"] with
     | .ok tbl =>
       let ts := tokenize "F(H(0))"
       funTblb tbl && confTblb tbl && ts.all (ctokb tbl) && fitsb tbl 6 [] ts && !confb tbl 10 6 [] ts &&
         (match cbiExpand tbl ts with | .ok r => r.map spellTok == ["G", "(", ")"] | _ => false) &&
         (match CbiVerif.Spec.Prosser.prosserToks (specTableF tbl) (ts.map (toSpec [])) with
          | .ok o => o.map (·.text) == ["H", "(", "1", ")"] | .error _ => false)
     | .error _ => false) = true := by lex_decide

/-- literals spelled `,` `(` `)` are inside the proved fragment (finding D44 being repaired, only punctuators delimit the
    arguments of a call; `C03.D44_fixed` is the statement on the former witness) -/
example : inConfFragment ["F(x,y) x+y", "G(a) [a]"] "F(\",\",2) F(\"(\",')') G \"(\" G((\")\"))" 4 5
    ["\",\"", "+", "2", "\"(\"", "+", "')'", "G", "\"(\"", "[", "(", "\")\"", ")", "]"] = true := by rw [inConfFragment]; lex_decide

end CbiVerif.C03
