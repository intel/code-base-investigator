import CbiVerif.Lemmas.CodeBase
import Mathlib.Data.List.Nodup

/-!
# C09 — code-base membership: extension, location and git-style exclude patterns

The property theorems, and the lemmas that speak of `memberSpec` (`accepted_iff`, `mem_iter_of_member`,
`contains_true_cases`); the lemmas about the model alone are in `CbiVerif/Lemmas/FS.lean`,
`CbiVerif/Lemmas/WalkRoots.lean`, `CbiVerif/Lemmas/CodeBase.lean`.
The file system is any finite map `FS`, the gitignore matcher is any function `cfg.ignored`
(a parameter: `pathspec` is compared with `git check-ignore` by the harness on every run),
`n` is the fuel of the walks (running out of fuel = symbolic-link loop), `cwd` any physical directory.
"The file a spelling names" is what the operating system's walk `namei` says.
-/
namespace CbiVerif.C09
open CbiVerif.Path CbiVerif.FS CbiVerif.CB

/-- **the property's membership test** on a physical path `c`: an existing regular file, with a recognised
extension, under a code-base directory (the first listed one that contains it), not excluded relative to it -/
def memberSpec (cfg : Cfg) (fs : FS) (roots : List Comps) (c : Comps) : Prop :=
  lstat fs c = some .file ∧
  CbiVerif.Gen.sourceExts.contains (suffix (name c)) = true ∧
  ∃ root, roots.find? (fun d => d.isPrefixOf c) = some root ∧ cfg.ignored (c.drop root.length) = false

/-- the recorded class F-C09-K: the operating system does not resolve the spelling (a component is missing
or is not a directory) but `os.path.realpath` cancels that component against a later `..` and arrives at
something that exists -/
def escapes (fs : FS) (n : Nat) (cwd : Comps) (p : P) : Prop :=
  (namei fs n (start cwd p) p.comps = .enoent ∨ namei fs n (start cwd p) p.comps = .enotdir) ∧
  ∃ r, realpath fs n (start cwd p) p.comps = .ok r ∧ stat fs n r ≠ none

/-! ## membership -/

/-- the tests `__contains__` applies to a resolved path are the property's -/
theorem accepted_iff (cfg : Cfg) (fs : FS) (roots : List Comps) (c : Comps) :
    (isFileE (lstat fs c) && accepted cfg roots c) = true ↔ memberSpec cfg fs roots c := by
  unfold memberSpec accepted recognised isRelativeTo relativeTo
  rw [Bool.and_eq_true, Bool.and_eq_true, isFileE_iff]
  constructor
  · rintro ⟨h1, h2, h3⟩
    refine ⟨h1, h2, ?_⟩
    cases hf : roots.find? (fun d => d.isPrefixOf c) with
    | none => simp [hf] at h3
    | some root => simp only [hf] at h3; exact ⟨root, rfl, by simpa using h3⟩
  · rintro ⟨h1, h2, root, hf, hi⟩
    refine ⟨h1, h2, ?_⟩
    simp [hf, hi]

/-- `p in codebase` ⇔ `p` names a regular file ∧ recognised extension ∧ under a root ∧ not excluded there,
for every spelling `p` the operating system resolves -/
theorem member_iff (cfg : Cfg) (fs : FS) (n : Nat) (roots : List Comps) (cwd : Comps) (p : P) (c : Comps)
    (hcwd : dirPath fs cwd = true) (h : namei fs n (start cwd p) p.comps = .ok c) (hn : c.length + 2 ≤ n) :
    contains cfg fs n roots cwd p = .ok true ↔ memberSpec cfg fs roots c := by
  rw [contains_of_namei cfg roots hcwd h hn, Except.ok.injEq, accepted_iff]

/-- a spelling that names nothing (missing component, non-directory in the middle) is not a member —
outside the recorded class `escapes` -/
theorem nonresolving_not_member (cfg : Cfg) (fs : FS) (n : Nat) (roots : List Comps) (cwd : Comps) (p : P)
    (h : namei fs n (start cwd p) p.comps = .enoent ∨ namei fs n (start cwd p) p.comps = .enotdir)
    (hk : ¬ escapes fs n cwd p) :
    contains cfg fs n roots cwd p = .ok false ∨
      (realpath fs n (start cwd p) p.comps = .loop ∧
       contains cfg fs n roots cwd p = if cfg.catchLoop then .ok false else .error .symlinkLoop) := by
  rcases realpath_ok_or_loop fs n (start cwd p) p.comps with ⟨r, hr⟩ | hl
  · left
    have hs : stat fs n r = none := by
      apply Classical.byContradiction
      intro hne
      exact hk ⟨h, r, hr, hne⟩
    unfold contains
    simp only [hr, hs]
  · right
    refine ⟨hl, ?_⟩
    unfold contains
    simp only [hl]

/-- D18: a spelling that runs into a symbolic-link loop raises `RuntimeError`; with the repair it is not a member -/
theorem loop_outcome (cfg : Cfg) (fs : FS) (n : Nat) (roots : List Comps) (cwd : Comps) (p : P)
    (h : namei fs n (start cwd p) p.comps = .loop) :
    contains cfg fs n roots cwd p = if cfg.catchLoop then .ok false else .error .symlinkLoop := by
  unfold contains
  rw [realpath_of_namei (by simp [h]) (by simp [h]), h]

/-- membership does not depend on the spelling (relative / absolute / `..` / through links, any working
directory): two spellings of the same physical object get the same answer -/
theorem spelling_independent (cfg : Cfg) (fs : FS) (n : Nat) (roots : List Comps)
    (cwd₁ cwd₂ : Comps) (p q : P) (c : Comps)
    (h₁ : dirPath fs cwd₁ = true) (h₂ : dirPath fs cwd₂ = true)
    (hp : namei fs n (start cwd₁ p) p.comps = .ok c) (hq : namei fs n (start cwd₂ q) q.comps = .ok c)
    (hn : c.length + 2 ≤ n) :
    contains cfg fs n roots cwd₁ p = contains cfg fs n roots cwd₂ q := by
  rw [contains_of_namei cfg roots h₁ hp hn, contains_of_namei cfg roots h₂ hq hn]

/-! ## enumeration -/

/-- every enumerated path is a member -/
theorem iter_members (cfg : Cfg) (fs : FS) (n : Nat) (roots l : List Comps) (x : Comps)
    (h : iter cfg fs n roots = .ok l) (hx : x ∈ l) :
    contains cfg fs n roots [] ⟨true, x⟩ = .ok true :=
  ((mem_iter h x).mp hx).2

/-- every member's canonical path is enumerated, unless it is itself listed as a code-base "directory"
(`rglob` of a regular file yields nothing, while `is_relative_to` holds for the path itself) -/
theorem mem_iter_of_member {cfg : Cfg} {fs : FS} {n : Nat} {roots l : List Comps} {c : Comps} (hwf : wf fs = true)
    (hfuel : bigFuel fs n) (h : iter cfg fs n roots = .ok l) (hcr : c ∉ roots) (hc : memberSpec cfg fs roots c) :
    c ∈ l := by
  obtain ⟨root₀, hfind, _⟩ := hc.2.2
  have hkey : c ∈ keys fs := file_mem_keys hc.1
  -- the directory that is walked: the outermost listed directory around the first one that contains `c`
  obtain ⟨root, hwalk, hwr⟩ := exists_walkRoot (List.mem_of_find?_eq_some hfind)
  have hp : root <+: c := hwr.trans
    (List.isPrefixOf_iff_prefix.mp (List.find?_some (p := fun (d : Comps) => d.isPrefixOf c) hfind))
  have hlen : root.length < c.length :=
    Nat.lt_of_le_of_ne hp.length_le fun h => hcr (hp.eq_of_length h ▸ walkRoots_subset hwalk)
  rw [mem_iter h]
  refine ⟨⟨root, hwalk, (mem_rglob_wf hwf).mpr ⟨hkey, hp, hlen⟩⟩, ?_⟩
  rw [contains_canon cfg roots (wf_canon hwf (Or.inr hc.1)) (hfuel _ hkey),
    (accepted_iff cfg fs roots _).mpr hc]

/-- every member's canonical path is enumerated — provided no code-base "directory" is a regular file
(hypothesis `hnf`, ADDED: without it the statement is false, see `file_root_witness`) -/
theorem iter_complete (cfg : Cfg) (fs : FS) (n : Nat) (roots l : List Comps) (c : Comps)
    (hwf : wf fs = true) (hfuel : bigFuel fs n) (h : iter cfg fs n roots = .ok l)
    (hnf : ∀ r ∈ roots, lstat fs r ≠ some .file)
    (hc : memberSpec cfg fs roots c) : c ∈ l :=
  mem_iter_of_member hwf hfuel h (fun hcr => hnf c hcr hc.1) hc

/-- … exactly once: no path is enumerated twice, for ANY list of code-base directories — a directory listed
twice (e.g. once through a symbolic link: the directories are resolved) or listed together with one of its
parents is walked once (repair of F-C09-NEST; before it this needed "no directory lies inside another") -/
theorem iter_nodup (cfg : Cfg) (fs : FS) (n : Nat) (roots l : List Comps)
    (hwf : wf fs = true) (h : iter cfg fs n roots = .ok l) : l.Nodup := by
  rw [iter_ok h]
  exact (candidates_nodup hwf roots).filter _

/-- `iter_nodup` for directories without overlap (all that held of the code before the repair of F-C09-NEST) -/
theorem iter_nodup_disjoint (cfg : Cfg) (fs : FS) (n : Nat) (roots l : List Comps)
    (hwf : wf fs = true) (_hroots : roots.Pairwise (fun a b => ¬ a <+: b ∧ ¬ b <+: a))
    (h : iter cfg fs n roots = .ok l) : l.Nodup :=
  iter_nodup cfg fs n roots l hwf h

/-- what the answer `True` says of any spelling: the operating system resolves it to a member, or it is of the recorded
class `escapes` (with `member_iff`, `nonresolving_not_member` and `loop_outcome`: nothing else) -/
theorem contains_true_cases (cfg : Cfg) (fs : FS) (n : Nat) (roots : List Comps) (cwd : Comps) (p : P)
    (hcwd : dirPath fs cwd = true) (hn : ∀ c, namei fs n (start cwd p) p.comps = .ok c → c.length + 2 ≤ n)
    (h : contains cfg fs n roots cwd p = .ok true) :
    (∃ c, namei fs n (start cwd p) p.comps = .ok c ∧ memberSpec cfg fs roots c) ∨ escapes fs n cwd p := by
  obtain ⟨r, e, hr, hs, _, _⟩ := contains_true_inv h
  have hesc : ∃ r, realpath fs n (start cwd p) p.comps = .ok r ∧ stat fs n r ≠ none := ⟨r, hr, by rw [hs]; simp⟩
  cases hnm : namei fs n (start cwd p) p.comps with
  | ok c => exact .inl ⟨c, rfl, (member_iff cfg fs n roots cwd p c hcwd hnm (hn c hnm)).mp h⟩
  | loop => rw [loop_outcome cfg fs n roots cwd p hnm] at h; split at h <;> cases h
  | enoent => exact .inr ⟨.inl hnm, hesc⟩
  | enotdir => exact .inr ⟨.inr hnm, hesc⟩

/-- an enumerated path is the canonical path of a member, or a symbolic link that resolves to a member
(or, in the recorded class, a link whose text `escapes`) -/
theorem iter_noncanonical (cfg : Cfg) (fs : FS) (n : Nat) (roots l : List Comps) (x : Comps)
    (hwf : wf fs = true) (hfuel : bigFuel fs n) (h : iter cfg fs n roots = .ok l) (hx : x ∈ l) :
    (lstat fs x = some .file ∧ memberSpec cfg fs roots x) ∨
    (∃ t c, lstat fs x = some (.link t) ∧ namei fs n [] x = .ok c ∧ memberSpec cfg fs roots c) ∨
    (∃ t, lstat fs x = some (.link t) ∧ escapes fs n [] ⟨true, x⟩) := by
  obtain ⟨⟨root, _, hxr⟩, hct⟩ := (mem_iter h x).mp hx
  have hkey : x ∈ keys fs := ((mem_rglob_wf hwf).mp hxr).1
  have hxn : x.length + 2 ≤ n := hfuel x hkey
  obtain ⟨e, he⟩ := (mem_keys_iff fs (wf_key hwf hkey).1).mp hkey
  cases e with
  | file =>
    rw [contains_canon cfg roots (wf_canon hwf (Or.inr he)) hxn] at hct
    exact .inl ⟨he, (accepted_iff cfg fs roots x).mp (by injection hct)⟩
  | dir =>
    rw [contains_canon cfg roots (wf_canon hwf (Or.inl he)) hxn, he] at hct
    cases hct
  | link t =>
    have hn : ∀ c, namei fs n [] x = .ok c → c.length + 2 ≤ n := fun c hc =>
      canon_fuel hfuel (by omega) (namei_canon (dirPath_nil fs) hc)
    rcases contains_true_cases cfg fs n roots [] ⟨true, x⟩ (dirPath_nil fs) hn hct with ⟨c, hc, hm⟩ | hesc
    · exact .inr (.inl ⟨t, c, he, hc, hm⟩)
    · exact .inr (.inr ⟨t, he, hesc⟩)

/-- `C09.iter_exact`: the three parts together, for ANY list of code-base directories — equal, nested, in any
order (hypothesis `hnf` ADDED for the second part, as in `iter_complete`; "no directory lies inside another" was
needed only for the code before the repair of F-C09-NEST) -/
theorem iter_exact (cfg : Cfg) (fs : FS) (n : Nat) (roots l : List Comps)
    (hwf : wf fs = true) (hfuel : bigFuel fs n)
    (hnf : ∀ r ∈ roots, lstat fs r ≠ some .file)
    (h : iter cfg fs n roots = .ok l) :
    (∀ x ∈ l, contains cfg fs n roots [] ⟨true, x⟩ = .ok true) ∧
    (∀ c, memberSpec cfg fs roots c → l.count c = 1) ∧
    (∀ x ∈ l, namei fs n [] x ≠ .ok x →
        ∃ t, lstat fs x = some (.link t) ∧
          ((∃ c, namei fs n [] x = .ok c ∧ memberSpec cfg fs roots c) ∨ escapes fs n [] ⟨true, x⟩)) := by
  refine ⟨fun x hx => iter_members cfg fs n roots l x h hx, ?_, ?_⟩
  · intro c hc
    exact List.count_eq_one_of_mem (iter_nodup cfg fs n roots l hwf h)
      (iter_complete cfg fs n roots l c hwf hfuel h hnf hc)
  · intro x hx hne
    rcases iter_noncanonical cfg fs n roots l x hwf hfuel h hx with ⟨hf, _⟩ | ⟨t, c, hl, hn, hm⟩ | ⟨t, hl, he⟩
    · exact absurd (namei_file hwf hfuel hf) hne
    · exact ⟨t, hl, Or.inl ⟨c, hn, hm⟩⟩
    · exact ⟨t, hl, Or.inr he⟩

/-- `iter_exact` for directories without overlap (all that held of the code before the repair of F-C09-NEST) -/
theorem iter_exact_disjoint (cfg : Cfg) (fs : FS) (n : Nat) (roots l : List Comps)
    (hwf : wf fs = true) (hfuel : bigFuel fs n)
    (_hroots : roots.Pairwise (fun a b => ¬ a <+: b ∧ ¬ b <+: a))
    (hnf : ∀ r ∈ roots, lstat fs r ≠ some .file)
    (h : iter cfg fs n roots = .ok l) :
    (∀ x ∈ l, contains cfg fs n roots [] ⟨true, x⟩ = .ok true) ∧
    (∀ c, memberSpec cfg fs roots c → l.count c = 1) ∧
    (∀ x ∈ l, namei fs n [] x ≠ .ok x →
        ∃ t, lstat fs x = some (.link t) ∧
          ((∃ c, namei fs n [] x = .ok c ∧ memberSpec cfg fs roots c) ∨ escapes fs n [] ⟨true, x⟩)) :=
  iter_exact cfg fs n roots l hwf hfuel hnf h

/-- the enumeration raises exactly when some entry below a walked directory runs into a link loop (D18) -/
theorem iter_error_iff (cfg : Cfg) (fs : FS) (n : Nat) (roots : List Comps) :
    (∃ e, iter cfg fs n roots = .error e) ↔
      cfg.catchLoop = false ∧ ∃ x ∈ candidates fs roots, realpath fs n [] x = .loop := by
  unfold iter
  dsimp only
  split
  next hany =>
    obtain ⟨x, hx, hxe⟩ := List.any_eq_true.mp hany
    have := (isErr_contains_iff cfg roots [] ⟨true, x⟩).mp hxe
    exact iff_of_true ⟨_, rfl⟩ ⟨this.1, x, hx, this.2⟩
  next hany =>
    exact iff_of_false (fun ⟨e, he⟩ => by cases he) fun ⟨h1, x, hx, h2⟩ =>
      hany (List.any_eq_true.mpr ⟨x, hx, (isErr_contains_iff cfg roots [] ⟨true, x⟩).mpr ⟨h1, h2⟩⟩)

/-! ## the extension tables -/

/-- the list in `source.py` is exactly the union of the per-language lists of `language.py` -/
theorem ext_tables_agree :
    (CbiVerif.Gen.sourceExts.all fun e => (CbiVerif.Gen.languageExts.flatMap (·.2)).contains e) = true ∧
    ((CbiVerif.Gen.languageExts.flatMap (·.2)).all fun e => CbiVerif.Gen.sourceExts.contains e) = true := by
  decide +kernel

/-- `pathlib`'s suffix (used for membership) and `os.path.splitext` (used to pick the language) agree on
every name with a suffix, except names whose stem consists of dots only (`..c`) — recorded class F-C09-3 -/
theorem suffix_splitext (nm : String) (h : suffix nm ≠ "") :
    splitextExt nm = suffix nm ∨ dotStem nm = true := by
  unfold suffix at h
  unfold splitextExt suffix dotStem
  cases hs : splitLastDot nm.toList with
  | none => simp [hs] at h
  | some se =>
    obtain ⟨stem, ext⟩ := se
    simp only [hs] at h ⊢
    cases hd : dotsOnly stem with
    | true => right; rfl
    | false =>
      left
      by_cases hE : (stem.isEmpty || ext.isEmpty) = true
      · simp [hE] at h
      · simp [hE]

/-! ## witnesses of the recorded classes and non-vacuity -/

def exFS : FS :=
  [ (["t"], .dir), (["t", "a.c"], .file), (["t", "sub"], .dir), (["t", "sub", "b.h"], .file),
    (["t", "dl"], .link ⟨false, ["sub"]⟩), (["t", "la.c"], .link ⟨false, ["a.c"]⟩),
    (["t", "notes.txt"], .file), (["out"], .dir), (["out", "o.c"], .file),
    (["t", "lo.c"], .link ⟨false, ["..", "out", "o.c"]⟩), (["t", "sub", "x.c"], .file) ]

def exCfg : Cfg := { ignored := fun rel => rel == ["sub", "x.c"], catchLoop := false }

/-- `member_iff` / `spelling_independent` apply: `../dl/../la.c` from `/t/sub` and `/t/a.c` name the same file -/
example : dirPath exFS ["t", "sub"] = true ∧
    namei exFS 20 (start ["t", "sub"] ⟨false, ["..", "dl", "..", "la.c"]⟩) ["..", "dl", "..", "la.c"] = .ok ["t", "a.c"] ∧
    namei exFS 20 (start [] ⟨true, ["t", "a.c"]⟩) ["t", "a.c"] = .ok ["t", "a.c"] := by decide +kernel

example : wf exFS = true := by decide +kernel
/-- hypotheses of `iter_exact_disjoint` hold for two disjoint directory roots -/
example : ([["t", "sub"], ["out"]] : List Comps).Pairwise (fun a b => ¬ a <+: b ∧ ¬ b <+: a) := by decide +kernel
example : ∀ r ∈ ([["t", "sub"], ["out"]] : List Comps), lstat exFS r ≠ some .file := by decide +kernel
/-- hypotheses of `iter_exact` / `C15.counted_once` hold for overlapping directories: an inner directory listed
before its parent, the parent listed twice, an unrelated directory — every member once -/
example : ∀ r ∈ ([["t", "sub"], ["t"], ["out"], ["t"]] : List Comps), lstat exFS r ≠ some .file := by decide +kernel
example : iter { exCfg with ignored := fun _ => false } exFS 20 [["t", "sub"], ["t"], ["out"], ["t"]]
    = .ok [["t", "a.c"], ["t", "sub", "b.h"], ["t", "la.c"], ["t", "lo.c"], ["t", "sub", "x.c"], ["out", "o.c"]] := by decide +kernel
example : iter exCfg exFS 20 [["t", "sub"], ["out"]] = .ok [["t", "sub", "b.h"], ["t", "sub", "x.c"], ["out", "o.c"]] := by decide +kernel
example : bigFuel exFS 20 := by unfold bigFuel; decide +kernel
example : isTrue (contains exCfg exFS 20 [["t"]] ["t", "sub"] ⟨false, ["..", "dl", "..", "la.c"]⟩) = true := by decide +kernel
example : iter exCfg exFS 20 [["t"]] = .ok [["t", "a.c"], ["t", "sub", "b.h"], ["t", "la.c"]] := by decide +kernel

/-- F-C09-K is inhabited: `a.c/../sub/b.h` names nothing for the OS, yet it is reported as a member -/
theorem escape_witness :
    escapes exFS 20 [] ⟨true, ["t", "a.c", "..", "sub", "b.h"]⟩ ∧
    contains exCfg exFS 20 [["t"]] [] ⟨true, ["t", "a.c", "..", "sub", "b.h"]⟩ = .ok true := by
  refine ⟨⟨Or.inr (by decide +kernel), ["t", "sub", "b.h"], by decide +kernel, by decide +kernel⟩, ?_⟩
  decide +kernel

/-- D18 is inhabited: one looping link below the root makes the whole enumeration raise -/
theorem loop_witness :
    iter exCfg (exFS ++ [(["t", "lp.c"], .link ⟨false, ["lp.c"]⟩)]) 20 [["t"]] = .error .symlinkLoop ∧
    iter { exCfg with catchLoop := true } (exFS ++ [(["t", "lp.c"], .link ⟨false, ["lp.c"]⟩)]) 20 [["t"]]
      = .ok [["t", "a.c"], ["t", "sub", "b.h"], ["t", "la.c"]] := by
  decide +kernel

/-- F-C09-NEST (repaired): with one code-base directory inside another the enumeration that walked every listed
directory (`iterUnrepaired`, the code before the repair) produced a member twice; `iter` produces it once -/
theorem nested_roots_witness :
    iterUnrepaired exCfg exFS 20 [["t"], ["t", "sub"]]
      = .ok [["t", "a.c"], ["t", "sub", "b.h"], ["t", "la.c"], ["t", "sub", "b.h"]] ∧
    iter exCfg exFS 20 [["t"], ["t", "sub"]] = .ok [["t", "a.c"], ["t", "sub", "b.h"], ["t", "la.c"]] ∧
    iter exCfg exFS 20 [["t", "sub"], ["t"], ["t"]] = .ok [["t", "a.c"], ["t", "sub", "b.h"], ["t", "la.c"], ["t", "sub", "x.c"]] := by
  decide +kernel

/-- why `iter_complete`, `iter_exact` (and `C15.counted_once`) assume that no code-base "directory" is a
regular file: such a root is a member of itself (`is_relative_to` holds for the path itself) although
`rglob` below it yields nothing -/
theorem file_root_witness :
    wf [(["a.c"], Entry.file)] = true ∧ bigFuel [(["a.c"], Entry.file)] 20 ∧
    memberSpec exCfg [(["a.c"], Entry.file)] [["a.c"]] ["a.c"] ∧
    contains exCfg [(["a.c"], Entry.file)] 20 [["a.c"]] [] ⟨true, ["a.c"]⟩ = .ok true ∧
    iter exCfg [(["a.c"], Entry.file)] 20 [["a.c"]] = .ok [] := by
  refine ⟨by decide +kernel, by unfold bigFuel; decide +kernel,
    ⟨by decide +kernel, by decide +kernel, ["a.c"], by decide +kernel, by decide +kernel⟩, by decide +kernel, by decide +kernel⟩

/-- the statement of `iter_complete` WITHOUT the added hypothesis `hnf` is false -/
theorem iter_complete_without_hnf_false :
    ¬ (∀ (cfg : Cfg) (fs : FS) (n : Nat) (roots l : List Comps) (c : Comps),
        wf fs = true → bigFuel fs n → iter cfg fs n roots = .ok l → memberSpec cfg fs roots c → c ∈ l) := by
  intro H
  obtain ⟨h1, h2, h3, _, h5⟩ := file_root_witness
  have := H _ _ _ _ _ _ h1 h2 h5 h3
  cases this

end CbiVerif.C09
