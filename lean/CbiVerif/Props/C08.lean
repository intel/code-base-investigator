import CbiVerif.Model.FindFold
import CbiVerif.Model.FindInst
import CbiVerif.Lemmas.FindFold
import CbiVerif.Lemmas.FindInst
import CbiVerif.Lemmas.FindCache
import CbiVerif.Lemmas.FindCacheMono
import CbiVerif.Props.C08Engines

/-!
# C08 — translation units and platforms are analysed in isolation and compose

Property theorems only.  Part 1 is about the generic double fold
`FindFold.findG analyse` (the shape of `finder.find`: platforms × commands, a fresh
`Platform` per command, the association only grows) and holds for EVERY single-command
analysis `analyse : Entry → Except Err (Out Key Warn)`.  Part 2 specialises them to
`FindInst.findI`, the instance the native driver executes for the correspondence check
(`analyse := FindInst.analyseEntry fs` = the total engine of `Model/Exclude.lean` under the C-family semantics
`FindInst.semPP fs`; `Props/C08Engines.lean` — imported here so that it is built and audited with this file —
proves that it is that engine, and that it agrees with the records the other ops run).

`Attr r p k` = "platform `p` uses node `k` in result `r`".
-/
namespace CbiVerif.C08
open CbiVerif.FindFold

variable {Entry Key Warn Err : Type}

/-! ## Part 1 — every single-command analysis -/

/-- The state-passing double loop computes exactly the stateless reference
("each compile command analysed alone from a fresh state, results united"),
including which exception is raised when a command fails. -/
theorem find_eq_spec (A : Entry → Except Err (Out Key Warn)) (c : Config Entry) :
    findG A c = specFind A c := by
  unfold findG specFind
  rw [foldlM_stepPlatform, foldJobs_eq_spec]
  cases specJobs A (jobs c) with
  | error e => rfl
  | ok r => simp only [app_empty]

/-- a run with a single platform holding a single command is that command's analysis,
tagged with the platform's name -/
theorem single_command (A : Entry → Except Err (Out Key Warn)) (p : String) (e : Entry) :
    findG A [(p, [e])] =
      match A e with
      | .ok o => .ok { pairs := o.keys.map (fun k => (k, p)), warns := o.warns }
      | .error er => .error er := by
  rw [find_eq_spec]
  simp only [specFind, jobs, List.flatMap_cons, List.flatMap_nil, List.map_cons, List.map_nil,
    List.append_nil, specJobs]
  cases A e with
  | error er => rfl
  | ok o => simp

theorem single_ok_iff (A : Entry → Except Err (Out Key Warn)) (p : String) (e : Entry) (P : Acc Key Warn → Prop) :
    (∃ r1, findG A [(p, [e])] = .ok r1 ∧ P r1) ↔
      ∃ o, A e = .ok o ∧ P { pairs := o.keys.map (fun k => (k, p)), warns := o.warns } := by
  rw [single_command]
  cases A e with
  | error er => simp
  | ok o => simp

/-- the full run succeeds iff every single-command run succeeds -/
theorem find_ok_iff (A : Entry → Except Err (Out Key Warn)) (c : Config Entry) :
    (∃ r, findG A c = .ok r) ↔
      ∀ p e, e ∈ entriesOf c p → ∃ r1, findG A [(p, [e])] = .ok r1 := by
  rw [find_eq_spec, specFind, specJobs_ok_iff]
  have hs : ∀ p e, (∃ r1, findG A [(p, [e])] = .ok r1) ↔ ∃ o, A e = .ok o := fun p e => by
    simpa using single_ok_iff A p e fun _ => True
  simp only [hs]
  exact ⟨fun h p e he => h (p, e) ((mem_jobs_iff_entriesOf c p e).mpr he),
    fun h j hj => h j.1 j.2 ((mem_jobs_iff_entriesOf c j.1 j.2).mp hj)⟩

/-- **union_of_commands.**  In a successful run, platform `p` uses node `k` iff some compile
command of `p`, analysed alone in a run of its own (fresh state), uses `k`. -/
theorem union_of_commands (A : Entry → Except Err (Out Key Warn)) (c : Config Entry)
    (r : Acc Key Warn) (h : findG A c = .ok r) (p : String) (k : Key) :
    Attr r p k ↔ ∃ e, e ∈ entriesOf c p ∧ ∃ r1, findG A [(p, [e])] = .ok r1 ∧ Attr r1 p k := by
  rw [find_eq_spec, specFind] at h
  simp only [single_ok_iff, Attr, (specJobs_pairs A _ r h).1, List.mem_flatMap, mem_pairsOfJob, List.mem_map,
    Prod.mk.injEq, and_true, exists_eq_right]
  constructor
  · rintro ⟨⟨q, e⟩, hj, rfl, o, ho, hk⟩
    exact ⟨e, (mem_jobs_iff_entriesOf c _ e).mp hj, o, ho, hk⟩
  · rintro ⟨e, he, o, ho, hk⟩
    exact ⟨(p, e), (mem_jobs_iff_entriesOf c p e).mpr he, rfl, o, ho, hk⟩

/-- **platform_independent.**  What platform `p` uses depends only on `p`'s own set of compile
commands: two successful runs in which `p` has the same commands (whatever other platforms,
in whatever order, are analysed along with it) attribute the same nodes to `p`. -/
theorem platform_independent (A : Entry → Except Err (Out Key Warn)) (c1 c2 : Config Entry)
    (r1 r2 : Acc Key Warn) (h1 : findG A c1 = .ok r1) (h2 : findG A c2 = .ok r2) (p : String)
    (hp : ∀ e, e ∈ entriesOf c1 p ↔ e ∈ entriesOf c2 p) (k : Key) :
    Attr r1 p k ↔ Attr r2 p k := by
  rw [union_of_commands A c1 r1 h1, union_of_commands A c2 r2 h2]
  exact exists_congr fun e => and_congr_left' (hp e)

/-- **perm_invariant.**  Reordering the commands inside the databases and reordering the
platforms keeps success, the multiset of (node, platform) attributions and the multiset of
warnings. -/
theorem perm_invariant (A : Entry → Except Err (Out Key Warn)) {c c' : Config Entry}
    (hc : CfgPerm c c') (r : Acc Key Warn) (h : findG A c = .ok r) :
    ∃ r', findG A c' = .ok r' ∧ r.pairs.Perm r'.pairs ∧ r.warns.Perm r'.warns := by
  rw [find_eq_spec] at h ⊢
  exact specJobs_perm A (jobs_perm hc) r h

/-- … hence the same attribution as a set, for every platform and node -/
theorem perm_invariant_attr (A : Entry → Except Err (Out Key Warn)) {c c' : Config Entry}
    (hc : CfgPerm c c') (r r' : Acc Key Warn) (h : findG A c = .ok r) (h' : findG A c' = .ok r')
    (p : String) (k : Key) : Attr r p k ↔ Attr r' p k := by
  obtain ⟨r'', hr'', hp, _⟩ := perm_invariant A hc r h
  rw [h'] at hr''
  cases hr''
  exact hp.mem_iff

/-- … and a failing run fails under every reordering (which command's exception is
reported may differ) -/
theorem perm_invariant_fail (A : Entry → Except Err (Out Key Warn)) {c c' : Config Entry}
    (hc : CfgPerm c c') : (∃ r, findG A c = .ok r) ↔ (∃ r', findG A c' = .ok r') := by
  have ok {c c' : Config Entry} (hc : CfgPerm c c') : (∃ r, findG A c = .ok r) → ∃ r', findG A c' = .ok r' :=
    fun ⟨r, h⟩ => (perm_invariant A hc r h).imp fun _ h' => h'.1
  exact ⟨ok hc, ok (CfgPerm.symm hc)⟩

/-- **projection.**  Selecting platforms with `-p X` succeeds whenever the full run does and
yields the projection of the full result: the attribution pairs of the selected run are
exactly the pairs of the full run whose platform is selected (same order, same
multiplicity). -/
theorem projection (A : Entry → Except Err (Out Key Warn)) (c : Config Entry)
    (r : Acc Key Warn) (h : findG A c = .ok r) (X : List String) :
    ∃ rX, findG A (select X c) = .ok rX ∧
      rX.pairs = r.pairs.filter (fun kp => X.isEmpty || X.contains kp.2) := by
  rw [find_eq_spec] at h ⊢
  unfold specFind at h ⊢
  rw [select_eq_filter, jobs_filter fun p => X.isEmpty || X.contains p]
  exact specJobs_filter A (fun p => X.isEmpty || X.contains p) (jobs c) r h

/-- what platform `p` uses does not change when the other platforms are dropped altogether: the case `X = [p]` of
`projection` -/
theorem platform_alone (A : Entry → Except Err (Out Key Warn)) (c : Config Entry)
    (r : Acc Key Warn) (h : findG A c = .ok r) (p : String) :
    ∃ r', findG A (c.filter fun pe => pe.1 == p) = .ok r' ∧ ∀ k, Attr r p k ↔ Attr r' p k := by
  have hsel : select [p] c = c.filter fun pe => pe.1 == p := by
    simp only [select, List.isEmpty_cons, Bool.false_eq_true, if_false, List.contains_cons, List.contains_nil,
      Bool.or_false]
  obtain ⟨r', hr', hp⟩ := projection A c r h [p]
  refine ⟨r', hsel ▸ hr', fun k => ?_⟩
  simp [Attr, hp]

/-- projection, node by node: `p` uses `k` in the selected run iff `p` is selected and uses
`k` in the full run -/
theorem projection_attr (A : Entry → Except Err (Out Key Warn)) (c : Config Entry)
    (r rX : Acc Key Warn) (h : findG A c = .ok r) (X : List String)
    (hX : findG A (select X c) = .ok rX) (p : String) (k : Key) :
    Attr rX p k ↔ ((X = [] ∨ p ∈ X) ∧ Attr r p k) := by
  obtain ⟨rX', h', hp⟩ := projection A c r h X
  rw [hX] at h'
  cases h'
  unfold Attr
  rw [hp, List.mem_filter]
  cases X with
  | nil => simp
  | cons x xs => simp [and_comm]

/-- projection of every platform set onto `X` (X non-empty): the platform set of a node in
the selected run is its platform set in the full run restricted to `X` -/
theorem projection_sets [DecidableEq Key] (A : Entry → Except Err (Out Key Warn))
    (c : Config Entry) (r rX : Acc Key Warn) (h : findG A c = .ok r) (X : List String)
    (hne : X ≠ []) (hX : findG A (select X c) = .ok rX) (names : List String) (k : Key) :
    platSet (names.filter fun p => X.contains p) rX k =
      (platSet names r k).filter fun p => X.contains p := by
  unfold platSet
  rw [List.filter_filter, List.filter_filter]
  apply List.filter_congr
  intro p _
  have := projection_attr A c r rX h X hX p k
  unfold Attr at this
  by_cases hp : p ∈ X <;> simp [this, hp, hne]

/-- … counts merged: the line count of a platform set `T` in the selected run is the sum of
the full run's counts over the platform sets that project onto `T`.  `classes` is any
duplicate-free list of platform sets containing the platform set of every node
(`setmap.keys()` of the full run). -/
theorem projection_counts [DecidableEq Key] (A : Entry → Except Err (Out Key Warn))
    (c : Config Entry) (r rX : Acc Key Warn) (h : findG A c = .ok r) (X : List String)
    (hne : X ≠ []) (hX : findG A (select X c) = .ok rX) (names : List String)
    (nodes : List Key) (w : Key → Nat) (classes : List (List String)) (hnd : classes.Nodup)
    (hall : ∀ k ∈ nodes, platSet names r k ∈ classes) (T : List String) :
    setmapCount nodes w (platSet (names.filter fun p => X.contains p) rX) T =
      ((classes.filter fun S => decide ((S.filter fun p => X.contains p) = T)).map
        (setmapCount nodes w (platSet names r))).sum := by
  unfold setmapCount
  have hproj : ∀ k, platSet (names.filter fun p => X.contains p) rX k =
      (platSet names r k).filter fun p => X.contains p :=
    fun k => projection_sets A c r rX h X hne hX names k
  simp only [hproj]
  have := count_fibres nodes w (platSet names r) (fun S => S.filter fun p => X.contains p) T
    classes hnd hall
  simpa using this

/-- **Where hoisting goes wrong.**  A run that threads ANY extra state through all commands
and platforms (the shared parse cache of the code; a hoisted macro table, include memo or
once-list in a mutated code) attributes exactly what `findG A` does PROVIDED that state is
transparent: under an invariant it never changes what a command observes (`Transparent`).
This is the obligation the code's shared `ParserState.trees` has to meet; Part 3 discharges it
for the explicit parse cache of the total model (`cache_transparent_partial`,
`find_cached_eq_findG_partial`), up to the recorded finding F-C08-1 = D19. -/
theorem transparent_state_refines {σ : Type} (Inv : σ → Prop)
    (step : σ → Entry → Except Err (Out Key Warn × σ)) (A : Entry → Except Err (Out Key Warn))
    (ht : Transparent Inv step A) (s0 : σ) (h0 : Inv s0) (c : Config Entry) :
    (match findS step s0 c with
      | .ok (a, _) => .ok a
      | .error er => .error er) = findG A c :=
  findS_eq_findG_unless Inv (fun _ _ => false) step A ((transparent_iff_unless Inv step A).mp ht) s0 h0 c
    (cleanJobs_false_flag step _ s0)

/-! ### non-vacuity of Part 1 (a toy analysis with state-free semantics) -/

/-- command `n` visits nodes `n` and `n+1`, warns when odd, and fails when `n = 0` -/
def toyA (n : Nat) : Except String (Out Nat String) :=
  if n = 0 then .error "boom" else .ok { keys := [n, n + 1], warns := if n % 2 = 1 then ["odd"] else [] }

def toyCfg : Config Nat := [("cpu", [1, 2]), ("gpu", [2, 5]), ("fpga", [])]
def toyRes : Acc Nat String :=
  { pairs := [(1, "cpu"), (2, "cpu"), (2, "cpu"), (3, "cpu"), (2, "gpu"), (3, "gpu"), (5, "gpu"), (6, "gpu")],
    warns := ["odd", "odd"] }

example : findG toyA toyCfg = .ok toyRes := by rfl
example : findG toyA [("cpu", [1, 0, 2])] = .error "boom" := by rfl
example : findG toyA (select ["gpu"] toyCfg) =
    .ok { pairs := [(2, "gpu"), (3, "gpu"), (5, "gpu"), (6, "gpu")], warns := ["odd"] } := by rfl
example : CfgPerm toyCfg [("gpu", [5, 2]), ("cpu", [2, 1]), ("fpga", [])] :=
  .trans (.swap _ _ _)
    (.cons "gpu" (List.Perm.swap 5 2 []) (.cons "cpu" (List.Perm.swap 2 1 []) (CfgPerm.refl _)))
example : platSet ["cpu", "gpu", "fpga"] toyRes 2 = ["cpu", "gpu"] := by decide
example : ∀ e, e ∈ entriesOf toyCfg "gpu" ↔ e ∈ entriesOf [("gpu", [5, 2, 5])] "gpu" := by
  intro e; simp [entriesOf, toyCfg]; omega
/-- hypotheses of `projection_counts` hold for the toy run: nodes 1…6, one line each -/
example : ([["cpu"], ["cpu", "gpu"], ["gpu"], []] : List (List String)).Nodup ∧
    ∀ k ∈ [1, 2, 3, 4, 5, 6], platSet ["cpu", "gpu", "fpga"] toyRes k ∈
      ([["cpu"], ["cpu", "gpu"], ["gpu"], []] : List (List String)) := by decide

/-- a transparent threaded state: a memo of the commands already analysed -/
example : Transparent (fun _ : List Nat => True) (fun s n => (toyA n).map fun o => (o, n :: s)) toyA := by
  intro s n _
  cases h : toyA n <;> simp [Except.map, h]
/-- a hoisted "macro table" is NOT transparent: a counter surviving from one command to the
next changes what the next command sees -/
example : findS (fun (s : Nat) (n : Nat) => .ok ({ keys := [n + s] }, s + 1)) 0 [("cpu", [1, 1])] =
    (.ok ({ pairs := [(1, "cpu"), (2, "cpu")] }, 2) : Except String (Acc Nat String × Nat)) := by rfl

/-! ## Part 2 — the instance executed by the driver (`FindInst.findI`) -/

open CbiVerif.PP CbiVerif.FindInst

/-- the driver's model result equals the driver's spec result on every input -/
theorem findI_eq_specI (fs : FSMap) (cb : List String) (c : Config PP.Entry) :
    findI fs cb c = specI fs cb c := by
  unfold findI specI
  cases prepare fs (cb ++ filesOf c) with
  | error e => rfl
  | ok _ => exact find_eq_spec _ c

/-- a real run succeeds iff every file parses and every single-command analysis succeeds -/
theorem findI_ok (fs : FSMap) (cb : List String) (c : Config PP.Entry) (r : Acc NodeKey PP.Warn) :
    findI fs cb c = .ok r ↔
      prepare fs (cb ++ filesOf c) = .ok () ∧ findG (analyseEntry fs) c = .ok r := by
  unfold findI
  cases prepare fs (cb ++ filesOf c) with
  | error e => simp
  | ok u => simp

/-- after a successful run, the run on a configuration whose jobs are among its jobs is the generic fold: the files
parsed up front are fewer -/
theorem findI_sub {fs cb c c' r} (h : findI fs cb c = .ok r) (hsub : ∀ j ∈ jobs c', j ∈ jobs c) :
    findI fs cb c' = findG (analyseEntry fs) c' := by
  unfold findI; rw [prepare_jobs_mono fs cb hsub ((findI_ok fs cb c r).mp h).1]

/-- **union_of_commands** for `finder.find`: in a successful analysis of a code base, platform
`p` uses node `k` iff some compile command `e` of `p` uses it when the tool is run on the
same code base with a configuration that contains only `p` with only `e`. -/
theorem find_union_of_commands (fs : FSMap) (cb : List String) (c : Config PP.Entry)
    (r : Acc NodeKey PP.Warn) (h : findI fs cb c = .ok r) (p : String) (k : NodeKey) :
    Attr r p k ↔
      ∃ e, e ∈ entriesOf c p ∧ ∃ r1, findI fs cb [(p, [e])] = .ok r1 ∧ Attr r1 p k := by
  rw [union_of_commands _ c r ((findI_ok fs cb c r).mp h).2 p k]
  refine exists_congr fun e => and_congr_right fun he => ?_
  rw [findI_sub h (jobs_single_subset he)]

/-- **platform_independent** for `finder.find`: two successful analyses of the same code base
in which `p` has the same compile commands attribute the same nodes to `p`. -/
theorem find_platform_independent (fs : FSMap) (cb : List String) (c1 c2 : Config PP.Entry)
    (r1 r2 : Acc NodeKey PP.Warn) (h1 : findI fs cb c1 = .ok r1) (h2 : findI fs cb c2 = .ok r2)
    (p : String) (hp : ∀ e, e ∈ entriesOf c1 p ↔ e ∈ entriesOf c2 p) (k : NodeKey) :
    Attr r1 p k ↔ Attr r2 p k :=
  platform_independent _ c1 c2 r1 r2 ((findI_ok fs cb c1 r1).mp h1).2 ((findI_ok fs cb c2 r2).mp h2).2 p hp k

/-- **perm_invariant** for `finder.find` (order of the commands in each database, order of
the platforms) -/
theorem find_perm_invariant (fs : FSMap) (cb : List String) {c c' : Config PP.Entry}
    (hc : CfgPerm c c') (r : Acc NodeKey PP.Warn) (h : findI fs cb c = .ok r) :
    ∃ r', findI fs cb c' = .ok r' ∧ r.pairs.Perm r'.pairs ∧ r.warns.Perm r'.warns := by
  rw [findI_sub h fun _ hj => (jobs_perm hc).mem_iff.mpr hj]
  exact perm_invariant _ hc r ((findI_ok fs cb c r).mp h).2

/-- **projection** for `finder.find` / `codebasin -p X`: the selected analysis succeeds
whenever the full one does and its attribution is the full attribution restricted to the
selected platforms. -/
theorem find_projection (fs : FSMap) (cb : List String) (c : Config PP.Entry)
    (r : Acc NodeKey PP.Warn) (h : findI fs cb c = .ok r) (X : List String) :
    ∃ rX, findI fs cb (select X c) = .ok rX ∧
      rX.pairs = r.pairs.filter (fun kp => X.isEmpty || X.contains kp.2) := by
  rw [findI_sub h (jobs_select_subset X c)]
  exact projection _ c r ((findI_ok fs cb c r).mp h).2 X

/-- the state-threading run of the same instance (one parse cache shared by all commands; field `pp` of op `c08find`)
equals the stateless reference as well: by `findI_eq_cached` (`Props/C08Engines.lean`) it IS `findI`, so every theorem of
this part is a theorem about it -/
theorem findPP_eq_spec (fs : FSMap) (cb : List String) (c : Config PP.Entry) :
    findPP CbiVerif.Exclude.defaultFuel fs cb c = specI fs cb c := by
  rw [← findI_eq_cached, ← findI_default_fuel, findI_eq_specI]

/-! ### non-vacuity of Part 2

The hypotheses `findI … = .ok r` are satisfiable: the following runs are computed from the kernel-checked
single-command analyses of `demo_eval` (`decide +kernel`) by the stateless union `specFind`.  `findI` is an instance of the
total, fuelled engine of `Model/Exclude.lean` (`FindInst.semPP`; `Props/C08Engines.lean`), the expander is the total
`MX.cbiExpand` (`PP.condValue`), and `normpath` / `dirname` / `splitext` are structural, so the whole run —
lexing, parsing, tree building, include search, macro expansion, expression evaluation — reduces in the kernel,
with the driver's default fuel.  `h.h` is protected by `#pragma once`, defines
`H`, and shows different lines depending on `A`; it is re-processed for every command. -/

-- the demo code base `demoFs` / `demoCb` / `demoCfg`, the checker `okWith` and the evaluation `demo_eval` of the up-front
-- parse and of the three commands are in `Props/C08Engines.lean`

theorem findI_demo (cfg : Config PP.Entry) (h : ∀ f ∈ filesOf cfg, f ∈ demoCb) :
    findI demoFs demoCb cfg = specFind (analyseEntry demoFs) cfg := by
  have hp : prepare demoFs (demoCb ++ filesOf cfg) = .ok () :=
    prepare_mono demoFs demoCb _ (fun f hf => (List.mem_append.mp hf).elim id (h f)) demo_eval.1
  rw [findI_eq_specI, specI, hp]

-- full run: 30 attributions; `int a;` (node 2 of h.h) is cpu's, `int b;` (node 4) is gpu's
example : okWith (findI demoFs demoCb demoCfg) 30
    [(("/r/inc/h.h", 2), "cpu"), (("/r/inc/h.h", 4), "gpu"), (("/r/b.c", 2), "cpu")]
    [(("/r/inc/h.h", 4), "cpu"), (("/r/inc/h.h", 2), "gpu")] = true := by
  obtain ⟨_, hA, hB, hG, _⟩ := demo_eval
  rw [findI_demo _ (by decide +kernel)]
  simp only [demoCfg, specFind_cons_ok hA, specFind_cons_ok hB, specFind_cons_ok hG, specFind_cons_nil, specFind_nil]
  decide +kernel
-- single-command runs and the selection `-p gpu`
example : okWith (findI demoFs demoCb [("cpu", [demoA])]) 10 [(("/r/inc/h.h", 2), "cpu")] [] = true := by
  rw [findI_demo _ (by decide +kernel), specFind_cons_ok demo_eval.2.1, specFind_cons_nil, specFind_nil]
  decide +kernel
example : okWith (findI demoFs demoCb [("cpu", [demoB])]) 10 [(("/r/b.c", 2), "cpu")] [] = true := by
  rw [findI_demo _ (by decide +kernel), specFind_cons_ok demo_eval.2.2.1, specFind_cons_nil, specFind_nil]
  decide +kernel
example : okWith (findI demoFs demoCb (select ["gpu"] demoCfg)) 10 [(("/r/inc/h.h", 4), "gpu")]
    [(("/r/inc/h.h", 2), "cpu")] = true := by
  rw [show select ["gpu"] demoCfg = [("gpu", [demoG])] from rfl, findI_demo _ (by decide +kernel),
    specFind_cons_ok demo_eval.2.2.2.1, specFind_cons_nil, specFind_nil]
  decide +kernel
-- a permuted configuration
example : okWith (findI demoFs demoCb [("gpu", [demoG]), ("cpu", [demoB, demoA])]) 30
    [(("/r/inc/h.h", 2), "cpu")] [] = true := by
  obtain ⟨_, hA, hB, hG, _⟩ := demo_eval
  rw [findI_demo _ (by decide +kernel)]
  simp only [specFind_cons_ok hA, specFind_cons_ok hB, specFind_cons_ok hG, specFind_cons_nil, specFind_nil]
  decide +kernel

/-! ## Part 3 — the code's actual shared state: the parse cache (`FindCache.findC`)

`FindCache.findC S n cb cfg` is `finder.find` as the state-threading fold `findS` whose state is the
explicit parse cache `ParserState.trees`/`langs` (file ↦ language class, parsed tree), one step being
the total, fuelled engine of `Model/Exclude.lean` run on ONE database entry (`FindCache.cstep`).
The driver op `c08find` executes exactly this definition (field `cached`) with the semantics
`FindCache.semC fs`; the theorems hold for every semantics record `S` and every fuel `n`.

`FindCache.analyse S n` is the cache-free analysis of one entry (`Exclude.runEntryRef`), so
`findG (analyse S n)` is an instance of Part 1: all composition theorems apply to it.

The cache is transparent except for one thing the code really does (finding F-C08-1 = D19): a file
that is not pre-parsed keeps the language class of the command that reached it first.  The engine
logs each use of a file under a class other than the one determined by the file and its includer
(`Exclude.MixEv`); `FindCache.NoMix S n cb cfg` says the log of the run is empty, and is decidable. -/

section Cache
open CbiVerif.Exclude
open CbiVerif.FindCache (cstep analyse mixedStep findC findRefG finalCache prep NoMix mixLog entryX)

/-- the up-front parse of the code base and of every compiled file did not fail -/
def PreOK (S : Sem) (cb : List String) (cfg : Config PP.Entry) : Prop :=
  (prep S cb cfg).loc.err = none

/-- FULL STATEMENT (false for the code as it is, see `not_cacheTransparent`): the parse cache is a
transparent threaded state in the sense of `transparent_state_refines`.  The invariant: every cached
tree is the parse of its file under the class it was first reached with. -/
def CacheTransparent : Prop :=
  ∀ (S : Sem) (n : Nat), Transparent (Exclude.Inv S) (cstep S n) (analyse S n)

/-- **cache_transparent (proved part).**  From ANY cache satisfying the invariant, ANY database
entry either logs a language-mixing event or shows exactly what the cache-free analysis of that
entry shows (same visited nodes, same warnings, same exception), and in every case leaves a cache
that satisfies the invariant again.  No hypothesis; the exclusion is the decidable flag
`mixedStep`. -/
theorem cache_transparent_partial (S : Sem) (n : Nat) :
    TransparentUnless (Exclude.Inv S) (mixedStep S n) (cstep S n) (analyse S n) :=
  FindCache.cstep_transparent_unless S n

/-- `TransparentUnless` with nothing flagged IS `Transparent`: the proved part differs from the full
statement only in the flagged steps. -/
theorem transparent_unless_nothing {σ : Type} (Inv : σ → Prop)
    (step : σ → Entry → Except Err (Out Key Warn × σ)) (A : Entry → Except Err (Out Key Warn)) :
    Transparent Inv step A ↔ TransparentUnless Inv (fun _ _ => false) step A :=
  transparent_iff_unless Inv step A

/-- generic form: a run that threads a state which is transparent except on flagged steps, and in
which no step is flagged, equals `findG A` (generalises `transparent_state_refines`). -/
theorem transparent_unless_refines {σ : Type} (Inv : σ → Prop) (flag : σ → Entry → Bool)
    (step : σ → Entry → Except Err (Out Key Warn × σ)) (A : Entry → Except Err (Out Key Warn))
    (ht : TransparentUnless Inv flag step A) (s0 : σ) (h0 : Inv s0) (c : Config Entry)
    (hc : cleanJobs flag step ((jobs c).map (·.2)) s0 = true) :
    (match findS step s0 c with
      | .ok (a, _) => .ok a
      | .error er => .error er) = findG A c :=
  findS_eq_findG_unless Inv flag step A ht s0 h0 c hc

/-- FULL STATEMENT (false for the code as it is, see `not_cachedEqFindG`): the cached run is the
generic fold over the cache-free single-command analysis, for every configuration. -/
def CachedEqFindG : Prop :=
  ∀ (S : Sem) (n : Nat) (cb : List String) (cfg : Config PP.Entry), findC S n cb cfg = findRefG S n cb cfg

/-- **find_cached_eq_findG (proved part).**  For every semantics, fuel, code base and configuration
(any number of platforms and commands): if the run logs no language-mixing event, the analysis with
the shared parse cache returns exactly what the up-front parse followed by `findG (analyse S n)`
returns — the same attribution pairs in the same order, the same warnings, the same exception. -/
theorem find_cached_eq_findG_partial (S : Sem) (n : Nat) (cb : List String) (cfg : Config PP.Entry)
    (hmix : NoMix S n cb cfg) : findC S n cb cfg = findRefG S n cb cfg :=
  FindCache.findC_eq_findRefG S n cb cfg hmix

/-- … hence, when the up-front parse succeeds, the cached run IS `findG` of Part 1 -/
theorem find_cached_is_findG_partial (S : Sem) (n : Nat) (cb : List String) (cfg : Config PP.Entry)
    (hpre : PreOK S cb cfg) (hmix : NoMix S n cb cfg) : findC S n cb cfg = findG (analyse S n) cfg := by
  rw [find_cached_eq_findG_partial S n cb cfg hmix, FindCache.findRefG_of_prep hpre]

/-- **the invariant of the cache**, with or without mixing events: whatever the run leaves in the
cache is the parse of the file's text under the class recorded with it -/
theorem cached_tree_is_parse (S : Sem) (n : Nat) (cb : List String) (cfg : Config PP.Entry)
    (hpre : PreOK S cb cfg) (g : String) (cl : LClass) (t : Parsed)
    (h : (g, cl, t) ∈ finalCache S n cb cfg) : S.parseAs cl g = .ok t :=
  FindCache.finalCache_inv S n cb cfg hpre g cl t h

/-- the up-front parse succeeds iff every file of the code base and every compiled file parses under
the class of its extension -/
theorem preOK_iff (S : Sem) (cb : List String) (cfg : Config PP.Entry) :
    PreOK S cb cfg ↔ ∀ f ∈ cb ++ entryFiles cfg, ∃ cl t, S.extClass f = some cl ∧ S.parseAs cl f = .ok t :=
  FindCache.prep_ok_iff S cb cfg

/-! ### the composition theorems, for the run with the shared cache -/

/-- after a successful run, a run on a configuration whose jobs are among its jobs (the configuration itself, for
one) that logs no mixing event is the generic fold: the up-front parse has fewer files -/
theorem findC_sub {S n cb cfg cfg' r} (h : findC S n cb cfg = .ok r) (hsub : ∀ j ∈ jobs cfg', j ∈ jobs cfg)
    (hmix' : NoMix S n cb cfg') :
    findC S n cb cfg' = findG (analyse S n) cfg' :=
  find_cached_is_findG_partial S n cb cfg' (FindCache.prep_mono S cb cfg cfg' hsub (FindCache.findC_ok_prep h)) hmix'

/-- **union_of_commands** for the cached run: platform `p` uses node `k` iff some command of `p`
uses it when the tool is run (with its cache) on that command alone. -/
theorem cached_union_of_commands_partial (S : Sem) (n : Nat) (cb : List String) (cfg : Config PP.Entry)
    (r : Acc FindCache.NodeKey PP.Warn) (h : findC S n cb cfg = .ok r) (hmix : NoMix S n cb cfg)
    (p : String) (hsub : ∀ e, e ∈ entriesOf cfg p → NoMix S n cb [(p, [e])]) (k : FindCache.NodeKey) :
    Attr r p k ↔
      ∃ e, e ∈ entriesOf cfg p ∧ ∃ r1, findC S n cb [(p, [e])] = .ok r1 ∧ Attr r1 p k := by
  rw [union_of_commands _ cfg r (findC_sub h (fun _ hj => hj) hmix ▸ h) p k]
  refine exists_congr fun e => and_congr_right fun he => ?_
  rw [findC_sub h (jobs_single_subset he) (hsub e he)]

/-- **perm_invariant** for the cached run -/
theorem cached_perm_invariant_partial (S : Sem) (n : Nat) (cb : List String) {cfg cfg' : Config PP.Entry}
    (hc : CfgPerm cfg cfg') (r : Acc FindCache.NodeKey PP.Warn) (h : findC S n cb cfg = .ok r)
    (hmix : NoMix S n cb cfg) (hmix' : NoMix S n cb cfg') :
    ∃ r', findC S n cb cfg' = .ok r' ∧ r.pairs.Perm r'.pairs ∧ r.warns.Perm r'.warns := by
  rw [findC_sub h (fun _ hj => (jobs_perm hc).mem_iff.mpr hj) hmix']
  exact perm_invariant _ hc r (findC_sub h (fun _ hj => hj) hmix ▸ h)

/-- **projection** for the cached run (`-p X`) -/
theorem cached_projection_partial (S : Sem) (n : Nat) (cb : List String) (cfg : Config PP.Entry)
    (r : Acc FindCache.NodeKey PP.Warn) (h : findC S n cb cfg = .ok r) (X : List String)
    (hmix : NoMix S n cb cfg) (hmixX : NoMix S n cb (select X cfg)) :
    ∃ rX, findC S n cb (select X cfg) = .ok rX ∧
      rX.pairs = r.pairs.filter (fun kp => X.isEmpty || X.contains kp.2) := by
  rw [findC_sub h (jobs_select_subset X cfg) hmixX]
  exact projection _ cfg r (findC_sub h (fun _ hj => hj) hmix ▸ h) X

/-! ### non-vacuity, and the witnesses that the unguarded statements are false (F-C08-1 = D19)

A toy semantics.  `c.c`, `d.c` (C) include `h.h` (C by extension); `a.f90`, `e.f90` (Fortran) and
`b.c` (C) include a header: `a.f90` and `b.c` include `x.inc` (no extension class), `e.f90` includes
`h.h`.  Parsed as Fortran a header has two nodes (its `#define` sits inside `/* */`), parsed as C one. -/

def tNode (k : PP.NKind) : PP.PNode := { kind := k, lines := [1] }

def toyL : Sem where
  extClass := fun f =>
    if f == "h.h" || f == "b.c" || f == "c.c" || f == "d.c" then some .c
    else if f == "a.f90" || f == "e.f90" then some .fortran else none
  parseAs := fun cl f =>
    if f == "a.f90" || f == "e.f90" || f == "b.c" || f == "c.c" || f == "d.c" then
      .ok (#[tNode .include, tNode .code], [.node 0 [], .node 1 []])
    else if f == "h.h" || f == "x.inc" then
      match cl with
      | .fortran => .ok (#[tNode .define, tNode .code], [.node 0 [], .node 1 []])
      | _ => .ok (#[tNode .code], [.node 0 []])
    else .error (.other "FileNotFoundError")
  step := fun file idx nd l =>
    ({ l with assoc := l.assoc ++ [((file, idx), [l.plat.name])] },
      if nd.kind == .include then .incl (if file == "a.f90" || file == "b.c" then "x.inc" else "h.h") else .stay)
  findInc := fun p _ _ => (none, p)
  mkPlat := fun pname _ => .ok { name := pname }

def tE (f : String) : PP.Entry := ⟨f, [], [], []⟩

/-- two platforms, three commands; `h.h` is outside the code base, cached by `c.c` and re-used by `d.c` -/
def toyCfgOK : Config PP.Entry := [("cpu", [tE "c.c", tE "d.c"]), ("gpu", [tE "a.f90"])]
def toyCb : List String := ["a.f90", "b.c", "c.c", "d.c", "e.f90"]

/-- the hypotheses of the theorems of this part hold on a non-trivial input (shared header outside
the code base, several commands and platforms, two language classes) … -/
example : PreOK toyL toyCb toyCfgOK ∧ NoMix toyL 8 toyCb toyCfgOK ∧
    NoMix toyL 8 toyCb (select ["cpu"] toyCfgOK) ∧
    NoMix toyL 8 toyCb [("gpu", [tE "a.f90"]), ("cpu", [tE "d.c", tE "c.c"])] ∧
    (∀ e, e ∈ [tE "c.c", tE "d.c"] → NoMix toyL 8 toyCb [("cpu", [e])]) := by
  unfold PreOK NoMix; decide +kernel

/-- … and the run is what one expects: 10 attributions, the header's node for both `cpu` commands -/
example : findC toyL 8 toyCb toyCfgOK = .ok
    { pairs := [(("c.c", 0), "cpu"), (("h.h", 0), "cpu"), (("c.c", 1), "cpu"),
                (("d.c", 0), "cpu"), (("h.h", 0), "cpu"), (("d.c", 1), "cpu"),
                (("a.f90", 0), "gpu"), (("x.inc", 0), "gpu"), (("x.inc", 1), "gpu"), (("a.f90", 1), "gpu")],
      warns := [] } := by decide +kernel

/-- the cache of that run holds the five pre-parsed files and the two headers, `x.inc` as Fortran -/
example : (finalCache toyL 8 toyCb toyCfgOK).map (fun e => (e.1, e.2.1)) =
    [("a.f90", .fortran), ("b.c", .c), ("c.c", .c), ("d.c", .c), ("e.f90", .fortran),
     ("h.h", .c), ("x.inc", .fortran)] := by decide +kernel

def nkeys (r : Except PP.Err (Out FindCache.NodeKey PP.Warn)) : Nat :=
  match r with | .ok o => o.keys.length | .error _ => 0
-- `npairs` (number of attribution pairs of a run, 0 for a failed one) is defined in `Props/C08Engines.lean`

/-- **F-C08-1 = D19, one command**: from the empty cache, `e.f90` reaches `h.h` (C by extension) and
parses it as Fortran — 4 nodes visited; the cache-free analysis parses it as C — 3 nodes. -/
theorem not_cacheTransparent : ¬ CacheTransparent := fun h =>
  absurd (congrArg nkeys ((h toyL 8).out_eq [] (tE "e.f90") (Exclude.Inv.nil _))) (by decide +kernel)

/-- **F-C08-1 = D19, two commands**: `a.f90` then `b.c`, both including `x.inc` (no extension
class, outside the code base).  The cached run shows `b.c` the Fortran tree of `x.inc` (8 attribution
pairs); `findG` over the cache-free analysis shows it the C tree (7 pairs). -/
theorem not_cachedEqFindG : ¬ CachedEqFindG := by
  intro h
  have h1 := congrArg npairs (h toyL 8 toyCb [("p", [tE "a.f90", tE "b.c"])])
  exact absurd h1 (by decide +kernel)

/-- … and the composition property itself fails for the cached run there: swapping the two commands
changes what platform `p` uses (node 1 of `x.inc`), although both runs succeed.  With the guard the
two orders agree (`cached_perm_invariant_partial`); here both orders log a mixing event. -/
theorem cached_order_dependent :
    ∃ (S : Sem) (n : Nat) (cb : List String) (cfg cfg' : Config PP.Entry)
      (r r' : Acc FindCache.NodeKey PP.Warn) (p : String) (k : FindCache.NodeKey),
      CfgPerm cfg cfg' ∧ findC S n cb cfg = .ok r ∧ findC S n cb cfg' = .ok r' ∧
      Attr r p k ∧ ¬ Attr r' p k ∧ ¬ NoMix S n cb cfg ∧ ¬ NoMix S n cb cfg' :=
  ⟨toyL, 8, toyCb, [("p", [tE "a.f90", tE "b.c"])], [("p", [tE "b.c", tE "a.f90"])],
    { pairs := [(("a.f90", 0), "p"), (("x.inc", 0), "p"), (("x.inc", 1), "p"), (("a.f90", 1), "p"),
                (("b.c", 0), "p"), (("x.inc", 0), "p"), (("x.inc", 1), "p"), (("b.c", 1), "p")], warns := [] },
    { pairs := [(("b.c", 0), "p"), (("x.inc", 0), "p"), (("b.c", 1), "p"),
                (("a.f90", 0), "p"), (("x.inc", 0), "p"), (("a.f90", 1), "p")], warns := [] },
    "p", ("x.inc", 1),
    .cons "p" (List.Perm.swap _ _ []) .nil, by unfold Attr; decide +kernel⟩

/-- **F-C08-1 = D19, full run clean but a single-command run is not**: the hypothesis `hsub` of
`cached_union_of_commands_partial` cannot be dropped.  In `[c.c, e.f90]` the header `h.h` is cached
as C (its extension class) by `c.c` and `e.f90` re-uses that tree — no mixing event, the run equals
`findG`; but the tool run on `e.f90` ALONE parses `h.h` as Fortran and uses a node (`h.h`, 1) the
full run never shows. -/
theorem single_run_needs_noMix :
    ∃ (S : Sem) (n : Nat) (cb : List String) (cfg : Config PP.Entry) (p : String) (e : PP.Entry)
      (r r1 : Acc FindCache.NodeKey PP.Warn) (k : FindCache.NodeKey),
      e ∈ entriesOf cfg p ∧ NoMix S n cb cfg ∧ ¬ NoMix S n cb [(p, [e])] ∧
      findC S n cb cfg = .ok r ∧ findC S n cb [(p, [e])] = .ok r1 ∧ Attr r1 p k ∧ ¬ Attr r p k :=
  ⟨toyL, 8, toyCb, [("p", [tE "c.c", tE "e.f90"])], "p", tE "e.f90",
    { pairs := [(("c.c", 0), "p"), (("h.h", 0), "p"), (("c.c", 1), "p"),
                (("e.f90", 0), "p"), (("h.h", 0), "p"), (("e.f90", 1), "p")], warns := [] },
    { pairs := [(("e.f90", 0), "p"), (("h.h", 0), "p"), (("h.h", 1), "p"), (("e.f90", 1), "p")], warns := [] },
    ("h.h", 1),
    by simp [entriesOf], by unfold Attr; decide +kernel⟩

/-! ### a static sufficient condition: one language class

`FindCache.OneClass S cl0`: every file name has extension class `cl0`, or has none and does not parse
under any class.  Then no run ever logs a mixing event, every cached tree is recorded under `cl0`
(`FindCache.InvMono`), and the parse cache is LITERALLY transparent — `transparent_state_refines`
applies as it stands.  (For the driver's semantics `semC fs` the condition is not satisfiable, because
the extension table is global — `x.f90` is Fortran whether or not it exists; there the applicable
hypothesis is the run-time `NoMix`.  It IS satisfied by the C-family instance `FindInst.semPP fs` that
`findI` is built on: `findI_eq_cached` in `Props/C08Engines.lean`.) -/

/-- **cache_transparent, one language class**: `Transparent`, no flag -/
theorem cache_transparent_oneclass (S : Sem) (cl0 : LClass) (hS : FindCache.OneClass S cl0) (n : Nat) :
    Transparent (FindCache.InvMono S cl0) (cstep S n) (analyse S n) :=
  FindCache.cstep_transparent_mono S cl0 hS n

/-- … hence, by `transparent_state_refines`, the cached run equals `findG` for EVERY configuration -/
theorem find_cached_eq_findG_oneclass (S : Sem) (cl0 : LClass) (hS : FindCache.OneClass S cl0) (n : Nat)
    (cb : List String) (cfg : Config PP.Entry) : findC S n cb cfg = findRefG S n cb cfg :=
  FindCache.findC_eq_findRefG_oneclass S cl0 hS n cb cfg

/-- … and never logs a mixing event -/
theorem noMix_oneclass (S : Sem) (cl0 : LClass) (hS : FindCache.OneClass S cl0) (n : Nat)
    (c : Cache) (e : PP.Entry) (hI : FindCache.InvMono S cl0 c) : mixedStep S n c e = false :=
  (FindCache.mono_step S cl0 hS n c e hI).1

/-- a one-class toy: `c.c`, `d.c` include `h.h`; nothing else exists -/
def toyC : Sem where
  extClass := fun f => if f == "c.c" || f == "d.c" || f == "h.h" then some .c else none
  parseAs := fun _ f =>
    if f == "c.c" || f == "d.c" || f == "h.h" then
      (if f == "h.h" then .ok (#[tNode .code], [.node 0 []])
       else .ok (#[tNode .include, tNode .code], [.node 0 [], .node 1 []]))
    else .error (.other "FileNotFoundError")
  step := fun file idx nd l =>
    ({ l with assoc := l.assoc ++ [((file, idx), [l.plat.name])] },
      if nd.kind == .include then .incl "h.h" else .stay)
  findInc := fun p _ _ => (none, p)
  mkPlat := fun pname _ => .ok { name := pname }

/-- the hypothesis of the one-class theorems is satisfiable -/
example : FindCache.OneClass toyC .c := by
  intro g
  by_cases h : (g == "c.c" || g == "d.c" || g == "h.h") = true
  · left; simp only [toyC, h, if_true]
  · right
    have h' : (g == "c.c" || g == "d.c" || g == "h.h") = false := by simpa using h
    exact ⟨by simp only [toyC, h', Bool.false_eq_true, if_false],
      fun cl => ⟨.other "FileNotFoundError", by simp only [toyC, h', Bool.false_eq_true, if_false]⟩⟩

example : findC toyC 8 ["c.c", "d.c"] [("cpu", [tE "c.c", tE "d.c"]), ("gpu", [tE "d.c"])] = .ok
    { pairs := [(("c.c", 0), "cpu"), (("h.h", 0), "cpu"), (("c.c", 1), "cpu"),
                (("d.c", 0), "cpu"), (("h.h", 0), "cpu"), (("d.c", 1), "cpu"),
                (("d.c", 0), "gpu"), (("h.h", 0), "gpu"), (("d.c", 1), "gpu")], warns := [] } := by decide +kernel

end Cache

end CbiVerif.C08
