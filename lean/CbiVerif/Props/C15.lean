import CbiVerif.Props.C09

/-!
# C15 — each physical file is parsed and counted once, however it is reached

Property theorems only.  Same file-system model as C09 (`Model/FS.lean`): `namei` is the operating
system's resolution of a spelling, `realpath` is `os.path.realpath`, which keys the parse cache
(`ParserState.insert_file/get_tree/get_map`), the `#pragma once` list and the code-base membership test.
-/
namespace CbiVerif.C15
open CbiVerif.Path CbiVerif.FS CbiVerif.CB CbiVerif.C09

/-! ## canonical names -/

/-- all spellings of one physical object (any working directories, `..`, links to it or to a parent
directory) have the same `realpath`, namely its physical path -/
theorem realpath_canonical (fs : FS) (n : Nat) (cwd₁ cwd₂ : Comps) (p q : P) (c : Comps)
    (hp : namei fs n (start cwd₁ p) p.comps = .ok c) (hq : namei fs n (start cwd₂ q) q.comps = .ok c) :
    realpath fs n (start cwd₁ p) p.comps = .ok c ∧ realpath fs n (start cwd₂ q) q.comps = .ok c :=
  ⟨namei_realpath_ok hp, namei_realpath_ok hq⟩

/-- `realpath` is idempotent: its result is a fixed point (for every spelling, resolvable or not) -/
theorem realpath_idempotent (fs : FS) (n m : Nat) (cwd : Comps) (p : P) (r : Comps)
    (hcwd : linkFree fs cwd = true) (h : realpath fs n (start cwd p) p.comps = .ok r) (hm : r.length + 1 ≤ m) :
    realpath fs m [] r = .ok r :=
  realpath_of_linkFree (realpath_linkFree (start_linkFree p hcwd) h) hm

/-- two different `realpath` results never name the same physical object -/
theorem realpath_injective (fs : FS) (n m : Nat) (cwd : Comps) (p q : P) (r₁ r₂ c : Comps)
    (hcwd : linkFree fs cwd = true)
    (h₁ : realpath fs n (start cwd p) p.comps = .ok r₁) (h₂ : realpath fs n (start cwd q) q.comps = .ok r₂)
    (hc₁ : namei fs m [] r₁ = .ok c) (hc₂ : namei fs m [] r₂ = .ok c) : r₁ = r₂ :=
  (namei_linkFree_id (realpath_linkFree (start_linkFree p hcwd) h₁) hc₁).symm.trans
    (namei_linkFree_id (realpath_linkFree (start_linkFree q hcwd) h₂) hc₂)

/-! ## the parse cache -/

/-- for any sequence of `insert_file` spellings the cache keys are pairwise different, no two of them name
the same physical file, and every resolvable spelling's file is present under its physical path -/
theorem one_tree_per_file (fs : FS) (n m : Nat) (cwd : Comps) (ps : List P)
    (hcwd : linkFree fs cwd = true) :
    (insertFiles fs n cwd [] ps).Nodup ∧
    (∀ k₁ ∈ insertFiles fs n cwd [] ps, ∀ k₂ ∈ insertFiles fs n cwd [] ps, ∀ c,
        namei fs m [] k₁ = .ok c → namei fs m [] k₂ = .ok c → k₁ = k₂) ∧
    (∀ p ∈ ps, ∀ c, namei fs n (start cwd p) p.comps = .ok c → c ∈ insertFiles fs n cwd [] ps) := by
  -- the cache holds exactly the `realpath`s of the spellings, each once
  have hkey : ∀ k ∈ insertFiles fs n cwd [] ps, linkFree fs k = true := fun k hk => by
    obtain ⟨p, _, hp⟩ := (mem_insertFiles.mp hk).resolve_left (by simp)
    exact realpath_linkFree (start_linkFree p hcwd) hp
  refine ⟨insertFiles_nodup ps List.nodup_nil, ?_, ?_⟩
  · intro k₁ hk₁ k₂ hk₂ c hc₁ hc₂
    exact (namei_linkFree_id (hkey k₁ hk₁) hc₁).symm.trans (namei_linkFree_id (hkey k₂ hk₂) hc₂)
  · intro p hp c hc
    exact mem_insertFiles.mpr (.inr ⟨p, hp, namei_realpath_ok hc⟩)

/-! ## counting -/

/-- `find_duplicates` and the propagation in `FileTree.insert` (skip every symlink) visit exactly the files
`get_setmap` counts (skip the symlinks whose target is a member): an enumerated link always has a member target -/
theorem notLinks_eq_counted (cfg : Cfg) (fs : FS) (n : Nat) (roots : List Comps)
    (hwf : wf fs = true) (hfuel : bigFuel fs n) :
    notLinks cfg fs n roots = counted cfg fs n roots := by
  have _ := hwf; have _ := hfuel  -- neither is needed
  unfold notLinks counted
  cases hi : iter cfg fs n roots with
  | error e => rfl
  | ok l =>
    simp only
    congr 1
    apply List.filter_congr
    intro x hx
    rw [skipped_eq_isSymlink hi hx]

/-- in `get_setmap` every counted path is the physical path of a member (never a link), every physical
member is counted, and exactly once — for ANY list of code-base directories: a directory listed twice (under
its own name and through a symbolic link: the directories are resolved) or together with one of its parents
is walked once (repair of F-C15-ROOTS = F-C09-NEST; before it the third part needed "no directory lies inside
another") (hypothesis `hnf` ADDED for the second and third part, as in `C09.iter_complete`, see `C09.file_root_witness`) -/
theorem counted_once (cfg : Cfg) (fs : FS) (n : Nat) (roots l : List Comps)
    (hwf : wf fs = true) (hfuel : bigFuel fs n)
    (hnf : ∀ r ∈ roots, lstat fs r ≠ some .file)
    (h : counted cfg fs n roots = .ok l) :
    (∀ x ∈ l, lstat fs x = some .file ∧ memberSpec cfg fs roots x) ∧
    (∀ c, memberSpec cfg fs roots c → c ∈ l) ∧
    l.Nodup ∧ ∀ c, memberSpec cfg fs roots c → (l.filter fun x => decide (namei fs n [] x = .ok c)).length = 1 := by
  rw [← notLinks_eq_counted cfg fs n roots hwf hfuel] at h
  obtain ⟨l₀, hi, rfl⟩ := notLinks_ok h
  have hfiles : ∀ x ∈ l₀.filter (fun x => !isSymlink fs x), lstat fs x = some .file ∧ memberSpec cfg fs roots x := by
    intro x hx
    obtain ⟨hx0, hns⟩ := List.mem_filter.mp hx
    rcases iter_noncanonical cfg fs n roots l₀ x hwf hfuel hi hx0 with hf | ⟨t, c, hl, _⟩ | ⟨t, hl, _⟩
    · exact hf
    all_goals simp [isSymlink, hl, isLinkE] at hns
  have hmem : ∀ c, memberSpec cfg fs roots c → c ∈ l₀.filter (fun x => !isSymlink fs x) := fun c hc =>
    List.mem_filter.mpr ⟨iter_complete cfg fs n roots l₀ c hwf hfuel hi hnf hc, by simp [isSymlink, hc.1, isLinkE]⟩
  have hnd : (l₀.filter (fun x => !isSymlink fs x)).Nodup := (iter_nodup cfg fs n roots l₀ hwf hi).filter _
  refine ⟨hfiles, hmem, hnd, fun c hc => ?_⟩
  -- a counted path is a regular file, which resolves to itself: the filter counts the occurrences of `c`
  have hcongr : (l₀.filter (fun x => !isSymlink fs x)).filter (fun x => decide (namei fs n [] x = .ok c))
      = (l₀.filter (fun x => !isSymlink fs x)).filter (fun x => x == c) :=
    List.filter_congr fun x hx => by rw [namei_file hwf hfuel (hfiles x hx).1]; simp [beq_eq_decide]
  rw [hcongr, ← List.count_eq_length_filter]
  exact List.count_eq_one_of_mem hnd (hmem c hc)

/-- `counted_once` with "exactly once" only when no code-base directory lies inside another (all that held of the code
before the repair of F-C15-ROOTS) -/
theorem counted_once_disjoint (cfg : Cfg) (fs : FS) (n : Nat) (roots l : List Comps)
    (hwf : wf fs = true) (hfuel : bigFuel fs n)
    (hnf : ∀ r ∈ roots, lstat fs r ≠ some .file)
    (h : counted cfg fs n roots = .ok l) :
    (∀ x ∈ l, lstat fs x = some .file ∧ memberSpec cfg fs roots x) ∧
    (∀ c, memberSpec cfg fs roots c → c ∈ l) ∧
    (roots.Pairwise (fun a b => ¬ a <+: b ∧ ¬ b <+: a) →
        l.Nodup ∧ ∀ c, memberSpec cfg fs roots c → (l.filter fun x => decide (namei fs n [] x = .ok c)).length = 1) := by
  obtain ⟨h1, h2, h3, h4⟩ := counted_once cfg fs n roots l hwf hfuel hnf h
  exact ⟨h1, h2, fun _ => ⟨h3, h4⟩⟩

/-- a link whose target is not in the code base is not in the code base -/
theorem link_to_nonmember (cfg : Cfg) (fs : FS) (n : Nat) (roots : List Comps) (cwd : Comps) (p : P) (c : Comps)
    (hcwd : dirPath fs cwd = true) (h : namei fs n (start cwd p) p.comps = .ok c) (hn : c.length + 2 ≤ n)
    (hc : ¬ memberSpec cfg fs roots c) :
    contains cfg fs n roots cwd p = .ok false := by
  rw [contains_of_namei cfg roots hcwd h hn]
  cases hb : (isFileE (lstat fs c) && accepted cfg roots c) with
  | false => rfl
  | true => exact absurd ((accepted_iff cfg fs roots c).mp hb) hc

/-! ## non-vacuity -/

example : linkFree exFS ["t", "sub"] = true := by decide +kernel

/-- three spellings of `/t/a.c` and two of `/t/sub/b.h`: two cache entries -/
example : insertFiles exFS 20 ["t", "sub"] []
      [⟨false, ["..", "la.c"]⟩, ⟨true, ["t", "a.c"]⟩, ⟨false, ["..", "dl", "..", "a.c"]⟩, ⟨false, ["b.h"]⟩, ⟨true, ["t", "dl", "b.h"]⟩]
    = [["t", "a.c"], ["t", "sub", "b.h"]] := by decide +kernel

example : counted exCfg exFS 20 [["t"]] = .ok [["t", "a.c"], ["t", "sub", "b.h"]] := by decide +kernel

/-- `counted_once` on overlapping directories (`C09.exFS`: `/t/dl -> sub`, so `CodeBase("t", "t/dl", "t/sub", "t")` resolves to
`/t`, `/t/sub`, `/t/sub`, `/t`): every physical member counted once; before the repair `b.h` was counted three times -/
example : mkRoots exFS 20 [] [⟨true, ["t"]⟩, ⟨true, ["t", "dl"]⟩, ⟨true, ["t", "sub"]⟩, ⟨true, ["t"]⟩]
    = .ok [["t"], ["t", "sub"], ["t", "sub"], ["t"]] := by decide +kernel
example : counted exCfg exFS 20 [["t"], ["t", "sub"], ["t", "sub"], ["t"]] = .ok [["t", "a.c"], ["t", "sub", "b.h"]] := by decide +kernel
example : ∀ r ∈ ([["t"], ["t", "sub"], ["t", "sub"], ["t"]] : List Comps), lstat exFS r ≠ some .file := by decide +kernel

/-- why `counted_once` assumes `hnf`: a regular file listed as a code-base "directory" is a member
(`C09.file_root_witness`) that is never counted -/
example : counted exCfg [(["a.c"], Entry.file)] 20 [["a.c"]] = .ok [] := by decide +kernel

end CbiVerif.C15
