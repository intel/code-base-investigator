import CbiVerif.Model.DbPath
import CbiVerif.Spec.DbResolve
import CbiVerif.Lemmas.DbPath

/-!
# C13 — compilation-database entries resolve to the right files and directories

Property theorems only (helper lemmas: `CbiVerif/Lemmas/DbPath.lean`).

* model: `CbiVerif.DbPath` — CPython's `posixpath` on strings and the loop of
  `config.load_database`;
* spec: `CbiVerif.DbResolve` — the property's reading on locations (component lists).

Every statement holds for **all** strings (any number of slashes, `.`/`..` segments,
empty components, exactly-two-leading-slashes spellings), every root and argument parser.
What is assumed of the environment: the process's working directory is an absolute path
(`hcwd`; `os.getcwd()` always is); where results are compared with the specification
(`entryRes_refines_spec`, `load_refines_spec`), that the existence oracle is a function of the
location an absolute path denotes (`hex`; the loop consults it on the normal forms `entryPath`
only); and for the whole load (`load_refines_spec`), that the words of every command can be read
(`hdb`; otherwise `shlex.split` raises and so does the load: `skip_is_frame` speaks of such loads too).
-/
namespace CbiVerif.C13
open CbiVerif.DbPath
open CbiVerif.DbResolve (Loc resolve locOf dirLoc fileLoc rootLoc Entry Expect expectEntry expect isSourceSpelling)

variable {α : Type}

/-! ## laws of the path algebra -/

/-- `normpath` is idempotent: its results are normal forms -/
theorem normpath_idem (p : Str) : normpath (normpath p) = normpath p := by
  rw [normpath_eq (normpath p), initialSlashes_normpath, normComps_normpath, ← normpath_eq]

/-- `normpath` never changes the place a spelling leads to, from any directory -/
theorem normpath_same_location (base : Loc) (p : Str) : resolve base (normpath p) = resolve base p :=
  resolve_normpath base p

/-- `normpath` keeps a path absolute / relative -/
theorem normpath_isabs (p : Str) : isabs (normpath p) = isabs p := isabs_normpath p

/-- `os.path.join` is associative (for all strings, absolute or not, empty or not) -/
theorem join_assoc (a b c : Str) : join (join a b) c = join a (join b c) := by
  by_cases hc : isabs c = true
  · simp only [join_abs _ hc]
  rw [Bool.not_eq_true] at hc
  have hbc := isabs_join_rel b hc
  by_cases hb : isabs b = true
  · rw [join_abs a hb, join_abs a (hbc.trans hb)]
  rw [Bool.not_eq_true] at hb
  rw [join_rel _ hc, join_rel a hb, join_rel a (hbc.trans hb), join_rel b hc]
  by_cases hbe : b = []
  · subst hbe; simp [sep_sep, sep_nil]
  · rw [← List.append_assoc a, sep_append _ hbe]; simp

/-- `join` is "read `b` in the directory `a`" -/
theorem join_location (base : Loc) (a b : Str) : resolve base (join a b) = resolve (resolve base a) b :=
  resolve_join base a b

/-- `abspath` is absolute, in normal form, and leads where the spelling leads from the working directory -/
theorem abspath_spec {cwd : Str} (hcwd : isabs cwd = true) (p : Str) :
    isabs (abspath cwd p) = true ∧ normpath (abspath cwd p) = abspath cwd p ∧
    locOf (abspath cwd p) = resolve (locOf cwd) p :=
  ⟨isabs_abspath hcwd p, normpath_idem _, resolve_abspath hcwd [] p⟩

example : isabs "/w/d".toList = true := by
  -- a literal unfolds to `String.ofList […]`, so this turns every `"…".toList` into the list of its characters;
  -- the kernel would otherwise decode each literal from UTF-8, which is most of the work
  repeat rw [String.toList_ofList]
  decide +kernel
/-- the leading-`//` quirk of `normpath` is modelled (kept when exactly two) -/
example : normpath "//a/./b/../c//".toList = "//a/c".toList ∧ normpath "///a/..".toList = "/".toList
    ∧ normpath "a/../..".toList = "..".toList ∧ normpath "".toList = ".".toList := by
  repeat rw [String.toList_ofList]
  decide +kernel

/-! ## resolution of `file` and of include directories -/

/-- **include_dir_resolution.**  Every include directory `f` of the command becomes an
absolute path in normal form denoting `f` read in the entry's working directory — where a
compiler started in that directory looks for `-I f`. -/
theorem include_dir_resolution {cwd : Str} (hcwd : isabs cwd = true) (root : Str) (d : Option Str) (f : Str) :
    isabs (abspath cwd (join (filedir cwd root d) f)) = true ∧
    normpath (abspath cwd (join (filedir cwd root d) f)) = abspath cwd (join (filedir cwd root d) f) ∧
    locOf (abspath cwd (join (filedir cwd root d) f)) = resolve (dirLoc (rootLoc cwd root) d) f := by
  obtain ⟨h1, h2, h3⟩ := abspath_spec hcwd (join (filedir cwd root d) f)
  exact ⟨h1, h2, by rw [h3, resolve_join, filedir_loc hcwd]⟩

/-- **file_resolution.**  The analysed file of an entry is an absolute path in normal form
that denotes `file` read in the entry's `directory`, itself read from the analysis root
(the root when there is no `directory`). -/
theorem file_resolution {cwd : Str} (hcwd : isabs cwd = true) (root : Str) (c : Cmd) (argv : List Str) :
    isabs (entryPath cwd root c) = true ∧
    normpath (entryPath cwd root c) = entryPath cwd root c ∧
    locOf (entryPath cwd root c) = fileLoc (rootLoc cwd root) ⟨c.file, c.directory, argv⟩ := by
  rw [entryPath_eq]
  exact include_dir_resolution hcwd root c.directory c.file

example : entryPath "/w".toList "/top/proj".toList
    { file := "../src//./a.c".toList, directory := some "build/../out/".toList } = "/top/proj/src/a.c".toList := by
  repeat rw [String.toList_ofList]
  decide +kernel
example : abspath "/w".toList (join (filedir "/w".toList "/top/proj".toList (some "../out".toList)) "inc/../../proj/inc".toList)
    = "/top/proj/inc".toList := by
  repeat rw [String.toList_ofList]
  decide +kernel

/-- **abs_unaffected.**  An absolute `file` and an absolute include directory are only
normalised: working directory, root and `directory` play no part. -/
theorem abs_unaffected (cwd root : Str) (c : Cmd) (f : Str) :
    (isabs c.file = true → entryPath cwd root c = normpath c.file) ∧
    (isabs f = true → abspath cwd (join (filedir cwd root c.directory) f) = normpath f) := by
  constructor
  · intro h; unfold entryPath abspath; simp [h]
  · intro h; unfold abspath; rw [join_abs _ h]; simp [h]

/-- the name a `file` spelling ends in is the name of the analysed file (so the extension
that is tested is the extension of the file that is analysed) -/
theorem file_name_is_analysed {cwd : Str} (hcwd : isabs cwd = true) (root : Str) (c : Cmd) (n : Str)
    (h : CbiVerif.DbResolve.spelledName c.file = some n) : (locOf (entryPath cwd root c)).getLast? = some n := by
  rw [(file_resolution hcwd root c []).2.2]
  exact resolve_last _ _ _ h

example : CbiVerif.DbResolve.spelledName "../src/./a.c/".toList = some "a.c".toList := by
  repeat rw [String.toList_ofList]
  decide +kernel

example : isabs "/abs/x/../a.c".toList = true ∧
    entryPath "/w".toList "rel/root".toList { file := "/abs/x/../a.c".toList, directory := some "b".toList } = "/abs/a.c".toList := by
  repeat rw [String.toList_ofList]
  decide +kernel

/-! ## the whole database against the specification -/

/-- what the spec sees of a command -/
def specOf (c : Cmd) : Entry := ⟨c.file, c.directory, (c.argv.toOption).getD []⟩

/-- a result entry seen as locations -/
def view (o : Out α) : Expect α := ⟨locOf o.file, o.includePaths.map locOf, o.pass⟩

def logLoc : Log → Loc
  | .missing p => locOf p

/-- seen as locations, what an entry yields is what the spec expects of it (also for a command whose words cannot be
read: no words, nothing expected) -/
theorem entryRes_refines_spec {cwd : Str} (hcwd : isabs cwd = true) (root : Str) (ex : Str → Bool) (exL : Loc → Bool)
    (hex : ∀ p, isabs p = true → ex p = exL (locOf p)) (parse : List Str → List (α × List Str)) (c : Cmd) :
    (entryRes cwd root ex parse c).1.map view = (expectEntry (rootLoc cwd root) exL parse (specOf c)).1 ∧
    (entryRes cwd root ex parse c).2.map logLoc = (expectEntry (rootLoc cwd root) exL parse (specOf c)).2 := by
  unfold entryRes expectEntry specOf
  dsimp only
  generalize c.argv.toOption.getD [] = argv
  obtain ⟨habs, _, hloc⟩ := file_resolution hcwd root c argv
  rw [← isSource_eq, ← hloc, ← hex _ habs]
  cases argv.isEmpty
  case true => exact ⟨rfl, rfl⟩
  cases isSource c.file
  case false => exact ⟨rfl, rfl⟩
  cases ex (entryPath cwd root c)
  case false => exact ⟨rfl, rfl⟩
  refine ⟨?_, rfl⟩
  simp only [Bool.false_or, Bool.not_true, Bool.false_eq_true, if_false, List.map_map]
  apply List.map_congr_left
  intro ⟨a, incs⟩ _
  simp only [Function.comp, view, List.map_map]
  congr 1
  apply List.map_congr_left
  intro f _
  exact (include_dir_resolution hcwd root c.directory f).2.2

/-- one command: the loop body produces exactly what the spec expects of the entry -/
theorem entry_refines_spec {cwd : Str} (hcwd : isabs cwd = true) (root : Str) (ex : Str → Bool) (exL : Loc → Bool)
    (hex : ∀ p, isabs p = true → ex p = exL (locOf p))
    (parse : List Str → List (α × List Str)) (c : Cmd) (argv : List Str) (hargv : c.argv = .ok argv) :
    ∃ outs logs, entryOut cwd root ex parse c = .ok (outs, logs) ∧
      outs.map view = (expectEntry (rootLoc cwd root) exL parse (specOf c)).1 ∧
      logs.map logLoc = (expectEntry (rootLoc cwd root) exL parse (specOf c)).2 :=
  ⟨_, _, by rw [entryOut_eq, hargv]; rfl, entryRes_refines_spec hcwd root ex exL hex parse c⟩

/-- **load_refines_spec** (completeness and soundness of the loop).  For every database
whose commands can be split into words, `load_database` succeeds and returns — in database
order, one entry per compiler pass — exactly the entries the specification expects:
the file at `file` read in `directory` read from the root, every include directory read in
that directory; nothing for empty commands, non-source names and missing files; and warns
about exactly the missing files. -/
theorem load_refines_spec {cwd : Str} (hcwd : isabs cwd = true) (root : Str) (ex : Str → Bool) (exL : Loc → Bool)
    (hex : ∀ p, isabs p = true → ex p = exL (locOf p))
    (parse : List Str → List (α × List Str)) (db : List Cmd) (hdb : ∀ c ∈ db, ∃ argv, c.argv = .ok argv) :
    ∃ outs logs, loadList cwd root ex parse db = .ok (outs, logs) ∧
      outs.map view = (expect (rootLoc cwd root) exL parse (db.map specOf)).1 ∧
      logs.map logLoc = (expect (rootLoc cwd root) exL parse (db.map specOf)).2 := by
  refine ⟨_, _, (loadList_ok_iff cwd root ex parse db _).mpr ⟨hdb, rfl⟩, ?_, ?_⟩
  · simp only [expect, List.map_flatMap, List.flatMap_map, (entryRes_refines_spec hcwd root ex exL hex parse _).1]
  · simp only [expect, List.map_flatMap, List.flatMap_map, (entryRes_refines_spec hcwd root ex exL hex parse _).2]

/-- the hypotheses of `load_refines_spec` are satisfiable with a non-trivial database: an
oracle that is a function of the location, a compile command in `command` form whose file
is spelled through a build directory, a link command, an object file and an empty command -/
example :
    let exL : Loc → Bool := fun l => l == ["top".toList, "proj".toList, "src".toList, "a.c".toList]
    let ex : Str → Bool := fun p => exL (locOf p)
    let parse : List Str → List (String × List Str) := fun argv => [("default", argv.filter (· == "../inc".toList))]
    let db : List Cmd := [
      { file := "../src/a.c".toList, directory := some "build".toList, command := some "gcc -I ../inc -c ../src/a.c".toList },
      { file := "gone.c".toList, arguments := some ["gcc".toList] },
      { file := "a.o".toList, arguments := some ["ld".toList, "a.o".toList] },
      { file := "src/a.c".toList, command := some "  ".toList }]
    (∀ p, isabs p = true → ex p = exL (locOf p)) ∧ (∀ c ∈ db, ∃ argv, c.argv = .ok argv) ∧
    (loadList "/w".toList "/top/proj".toList ex parse db).toOption.map (fun r => (r.1.map (·.file), r.1.map (·.includePaths), r.2))
      = some (["/top/proj/src/a.c".toList], [["/top/proj/inc".toList]], [.missing "/top/proj/gone.c".toList]) := by
  repeat rw [String.toList_ofList]
  refine ⟨fun _ _ => rfl, fun c hc => ?_, by decide +kernel⟩
  have : c.argv.isOk = true := (by decide +kernel : ∀ c ∈ _, (Cmd.argv c).isOk = true) c hc
  cases h : c.argv with
  | ok a => exact ⟨a, rfl⟩
  | error e => rw [h] at this; cases this

/-! ## skipped entries are a frame -/

/-- an entry that is skipped: empty command, not a source-file name, or file does not exist -/
def Skipped (cwd root : Str) (ex : Str → Bool) (c : Cmd) : Prop :=
  ∃ argv, c.argv = .ok argv ∧
    (argv = [] ∨ isSource c.file = false ∨ ex (entryPath cwd root c) = false)

/-- the warning a skipped entry leaves behind (only for a missing source file) -/
def skipWarning (cwd root : Str) (c : Cmd) : List Log :=
  match c.argv with
  | .ok argv => if argv.isEmpty || !isSource c.file then [] else [.missing (entryPath cwd root c)]
  | .error _ => []

/-- a skipped entry never aborts and contributes no result -/
theorem skipped_entryOut {cwd root : Str} {ex : Str → Bool} (parse : List Str → List (α × List Str)) {c : Cmd}
    (h : Skipped cwd root ex c) : entryOut cwd root ex parse c = .ok ([], skipWarning cwd root c) := by
  obtain ⟨argv, ha, h⟩ := h
  rw [entryOut_eq, entryRes, skipWarning, ha]
  cases argv with
  | nil => rfl
  | cons a r => cases hs : isSource c.file <;> cases hx : ex (entryPath cwd root c) <;> simp_all [Except.map, Except.toOption]

/-- **skip_is_frame.**  Inserting an entry for a missing file, a non-source file (object
file, link command) or an empty command anywhere in a database changes neither the result
entries nor whether/with which error the load fails; the warnings are those of the rest
with the entry's own warning in its place. -/
theorem skip_is_frame (cwd root : Str) (ex : Str → Bool) (parse : List Str → List (α × List Str))
    (xs ys : List Cmd) (bad : Cmd) (h : Skipped cwd root ex bad) :
    (loadList cwd root ex parse (xs ++ bad :: ys)).map (·.1) = (loadList cwd root ex parse (xs ++ ys)).map (·.1) ∧
    (∀ r1 r2, loadList cwd root ex parse xs = .ok r1 → loadList cwd root ex parse ys = .ok r2 →
      loadList cwd root ex parse (xs ++ bad :: ys) = .ok (r1.1 ++ r2.1, r1.2 ++ skipWarning cwd root bad ++ r2.2) ∧
      loadList cwd root ex parse (xs ++ ys) = .ok (r1.1 ++ r2.1, r1.2 ++ r2.2)) := by
  have hb : loadList cwd root ex parse (bad :: ys) =
      match loadList cwd root ex parse ys with
      | .error e => .error e
      | .ok (os, ls) => .ok (os, skipWarning cwd root bad ++ ls) := by
    rw [loadList, skipped_entryOut parse h]
    cases loadList cwd root ex parse ys with
    | error e => rfl
    | ok r => simp
  constructor
  · rw [loadList_append, loadList_append, hb]
    cases loadList cwd root ex parse xs with
    | error e => rfl
    | ok r1 =>
      cases loadList cwd root ex parse ys with
      | error e => rfl
      | ok r2 => rfl
  · intro r1 r2 h1 h2
    rw [loadList_append, loadList_append, hb, h1, h2]
    simp [List.append_assoc]

/-- `Skipped` is inhabited by each of the three kinds, around entries that are kept -/
example :
    let ex : Str → Bool := fun p => p == "/r/a.c".toList
    Skipped "/w".toList "/r".toList ex { file := "a.c".toList, command := some "".toList } ∧
    Skipped "/w".toList "/r".toList ex { file := "a.o".toList, arguments := some ["ld".toList, "a.o".toList] } ∧
    Skipped "/w".toList "/r".toList ex { file := "b.c".toList, arguments := some ["gcc".toList] } ∧
    ¬ Skipped "/w".toList "/r".toList ex { file := "a.c".toList, arguments := some ["gcc".toList] } := by
  repeat rw [String.toList_ofList]
  refine ⟨⟨[], rfl, Or.inl rfl⟩, ⟨_, rfl, Or.inr (Or.inl (by decide +kernel))⟩, ⟨_, rfl, Or.inr (Or.inr (by decide +kernel))⟩, ?_⟩
  rintro ⟨argv, ha, h⟩
  cases Except.ok.inj ha
  rcases h with h | h | h
  · exact absurd h (by decide +kernel)
  · exact absurd h (by decide +kernel)
  · exact absurd h (by decide +kernel)

/-! ## only files named by entries, and what they include, are attributed -/

/-- files reachable from `file` through `#include`s; `includes incs f g` = "`f`, processed
with include directories `incs`, includes `g`" (the C01/C04 layers) -/
inductive Reach (includes : List Str → Str → Str → Prop) (incs : List Str) (file : Str) : Str → Prop
  | self : Reach includes incs file file
  | step {f g : Str} : Reach includes incs file f → includes incs f g → Reach includes incs file g

def Kept (cwd root : Str) (ex : Str → Bool) (c : Cmd) (argv : List Str) : Prop :=
  c.argv = .ok argv ∧ argv ≠ [] ∧ isSource c.file = true ∧ ex (entryPath cwd root c) = true

/-- **only_named_files** — full statement.  `attributed outs` = the files to which the
analysis (`finder.find`) attributes a platform when run on the loaded configuration.
Every such file is reached from the resolved `file` of a kept entry of the database,
using that entry's resolved include directories for one of its passes. -/
def only_named_files (attributed : List (Out α) → List Str) (includes : List Str → Str → Str → Prop) : Prop :=
  ∀ (cwd root : Str) (ex : Str → Bool) (parse : List Str → List (α × List Str)) (db : List Cmd)
    (outs : List (Out α)) (logs : List Log),
    loadList cwd root ex parse db = .ok (outs, logs) →
    ∀ f ∈ attributed outs, ∃ c ∈ db, ∃ argv, Kept cwd root ex c argv ∧
      ∃ p ∈ parse argv,
        Reach includes (p.2.map fun i => abspath cwd (join (filedir cwd root c.directory) i)) (entryPath cwd root c) f

/-- every result entry stems from a kept command and one of its passes, with the resolved
file and the resolved include directories -/
theorem outs_from_kept (cwd root : Str) (ex : Str → Bool) (parse : List Str → List (α × List Str)) (db : List Cmd)
    (outs : List (Out α)) (logs : List Log) (h : loadList cwd root ex parse db = .ok (outs, logs)) :
    ∀ o ∈ outs, ∃ c ∈ db, ∃ argv, Kept cwd root ex c argv ∧ ∃ p ∈ parse argv,
      o = { file := entryPath cwd root c,
            includePaths := p.2.map fun i => abspath cwd (join (filedir cwd root c.directory) i), pass := p.1 } := by
  obtain ⟨hdb, e⟩ := (loadList_ok_iff cwd root ex parse db _).mp h
  cases e
  intro o ho
  obtain ⟨c, hc, ho⟩ := List.mem_flatMap.mp ho
  obtain ⟨argv, ha⟩ := hdb c hc
  refine ⟨c, hc, argv, ?_⟩
  simp only [entryRes, ha, Except.toOption, Option.getD_some] at ho
  split at ho
  · cases ho
  split at ho
  · cases ho
  next h1 h2 =>
    obtain ⟨p, hp, rfl⟩ := List.mem_map.mp ho
    simp only [Bool.or_eq_true, List.isEmpty_iff, Bool.not_eq_true', not_or, Bool.not_eq_false] at h1 h2
    exact ⟨⟨ha, h1.1, h1.2, h2⟩, p, hp, rfl⟩

/-- **only_named_files_partial.**  The database layer's share of `only_named_files`, proved:
if the analysis attributes only files reached from the `file` of one of the configuration
entries it is given, with that entry's include directories (this is what the C01/C04 layers
have to deliver for `finder.find`), then `only_named_files` holds. -/
theorem only_named_files_partial (attributed : List (Out α) → List Str) (includes : List Str → Str → Str → Prop)
    (hfind : ∀ outs f, f ∈ attributed outs → ∃ o ∈ outs, Reach includes o.includePaths o.file f) :
    only_named_files attributed includes := by
  intro cwd root ex parse db outs logs h f hf
  obtain ⟨o, ho, hr⟩ := hfind outs f hf
  obtain ⟨c, hc, argv, hk, p, hp, rfl⟩ := outs_from_kept cwd root ex parse db outs logs h o ho
  exact ⟨c, hc, argv, hk, p, hp, hr⟩

/-- the hypothesis of `only_named_files_partial` is satisfiable by a non-trivial analysis:
the one that attributes exactly the named files and the headers they include directly -/
example : ∃ (attributed : List (Out String) → List Str) (includes : List Str → Str → Str → Prop),
    (∀ outs f, f ∈ attributed outs → ∃ o ∈ outs, Reach includes o.includePaths o.file f) ∧
    attributed [⟨"/r/a.c".toList, ["/r/inc".toList], "default"⟩] = ["/r/a.c".toList, "/r/inc/h.h".toList] := by
  refine ⟨fun outs => outs.flatMap fun o => o.file :: o.includePaths.map (· ++ "/h.h".toList),
    fun incs _ g => ∃ i ∈ incs, g = i ++ "/h.h".toList, ?_, by decide +kernel⟩
  intro outs f hf
  obtain ⟨o, ho, hf⟩ := List.mem_flatMap.mp hf
  refine ⟨o, ho, ?_⟩
  rcases List.mem_cons.mp hf with rfl | hf
  · exact .self
  · obtain ⟨i, hi, rfl⟩ := List.mem_map.mp hf
    exact .step .self ⟨i, hi, rfl⟩

/-! ## schema -/

/-- `load_database` as a whole is the loop above after schema validation and `from_json`,
plus the closing "No files found" warning exactly when the result is empty (so every theorem
about `loadList` is a theorem about what the driver executes for the correspondence) -/
theorem loadDatabase_unfold (cwd root : Str) (ex : Str → Bool) (parse : List Str → List (α × List Str))
    (items : List JV) (cmds : List Cmd) (hs : schemaOK (.arr items) = true) (hc : cmdsOfJson items = .ok cmds) :
    (loadDatabase cwd root ex parse (.arr items)).toOption.map (fun r => (r.entries, r.logs, r.emptyWarning)) =
      (loadList cwd root ex parse cmds).toOption.map (fun r => (r.1, r.2, r.1.isEmpty)) := by
  unfold loadDatabase
  simp only [hs, hc, Bool.not_true, Bool.false_eq_true, if_false]
  cases loadList cwd root ex parse cmds with
  | error e => rfl
  | ok r => rfl

/-- a document that violates the schema is rejected before anything else happens, and a
schema-valid item without `file` raises `KeyError` (the schema does not require `file`) -/
theorem schema_rejects (cwd root : Str) (ex : Str → Bool) (parse : List Str → List (α × List Str)) (doc : JV)
    (h : schemaOK doc = false) : (loadDatabase cwd root ex parse doc).toOption.isNone = true := by
  unfold loadDatabase; simp [h, Except.toOption]

/-- what a schema-valid document guarantees to `CompileCommand.from_json` (re-proved against the
schema tables regenerated on every run): every item is an object that has `arguments` or
`command`, and `file`, `directory`, `command` are strings and `arguments` a list of strings when present -/
theorem schema_guarantees (items : List JV) (h : schemaOK (.arr items) = true) :
    ∀ it ∈ items, ∃ kvs, it = .obj kvs ∧
      ((JV.get? kvs "arguments").isSome = true ∨ (JV.get? kvs "command").isSome = true) ∧
      (∀ v, JV.get? kvs "file" = some v → v.isStr = true) ∧
      (∀ v, JV.get? kvs "directory" = some v → v.isStr = true) ∧
      (∀ v, JV.get? kvs "command" = some v → v.isStr = true) ∧
      (∀ v, JV.get? kvs "arguments" = some v → v.isStrArr = true) := by
  intro it hit
  obtain ⟨kvs, rfl, hty, _, hany⟩ := itemOK_inv (List.all_eq_true.mp h it hit)
  refine ⟨kvs, rfl, by simpa [CbiVerif.Gen.dbSchemaAnyOf] using hany,
    hty ("file", "string") (by decide), hty ("directory", "string") (by decide),
    hty ("command", "string") (by decide), hty ("arguments", "stringArray") (by decide)⟩

/-- object files, archives, libraries, executables and text files are not source files
(re-proved against the extension table regenerated from `source.py` on every run) -/
theorem objects_are_not_sources :
    ∀ e ∈ [".o", ".a", ".so", ".obj", ".out", ".d", ".txt", ".json", ""], CbiVerif.Gen.sourceExts.contains e = false := by
  decide +kernel

example : isSource "build/x.c.o".toList = false ∧ isSource "prog".toList = false ∧ isSource "src/a.c".toList = true
    ∧ isSource "a.c/..".toList = false ∧ isSource ".c".toList = false ∧ isSource "d.c/x.F90/".toList = true := by
  repeat rw [String.toList_ofList]
  decide +kernel

example : schemaOK (.arr [.obj [("file".toList, .str "a.c".toList), ("command".toList, .str "gcc".toList)]]) = true
    ∧ schemaOK (.arr [.obj [("file".toList, .str "a.c".toList)]]) = false
    ∧ schemaOK (.arr [.obj [("file".toList, .num), ("command".toList, .str "gcc".toList)]]) = false
    ∧ schemaOK (.arr [.obj [("file".toList, .str "a.c".toList), ("arguments".toList, .arr [.str "gcc".toList, .num])]]) = false
    ∧ schemaOK (.obj []) = false
    ∧ schemaOK (.arr [.obj [("command".toList, .str "gcc".toList)]]) = true := by
  repeat rw [String.toList_ofList]
  decide +kernel

end CbiVerif.C13
