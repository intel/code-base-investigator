import CbiVerif.Lemmas.C14Compose
/-!
# C14 about SOURCE TEXT — order independence of the composed pipeline

`C06C.analyse files plats` (`Model/C06Compose.lean`: C05 parser model → directive parser → C01 associator per compile command →
platform set per node) takes three lists whose order the real code does not choose: the files (`set(codebase)` / `rglob`),
the `[platform.*]` tables, the entries of each compilation database.  The per-entry step is the real definition
`C06C.runEntry` (= `PP.analyseNodes` on the parsed text), not an assumption: that it is a function of the entry and of the SET
of files is proved here (`Lemmas/AnalyseClosed.lean`: `analyse_iff`, the closed form of a run), not supposed.

WHICH REPRESENTATION IS INVARIANT.  The value of `analyse` is a list of records in file order, and a platform set is a LIST
of names in platform-table order; neither is invariant, and neither is a listed result.

* permuting the FILES permutes the records (`analysis_perm_files`: the record of a file is a function `recOf` of the file),
  hence the items of the `get_setmap` dict (`List.Perm`: same key → count map, other insertion order); the sorted summary table
  (`Summary.rows`, all columns and the key lists), `Total SLOC`, the sorted coverage export and the per-line attribution are EQUAL;
* permuting the PLATFORM TABLES re-lists every platform set in the new table order (`relist`: same members — sets are compared
  extensionally, `List.Perm` of duplicate-free lists) and leaves everything else in place: the dict has the same items in the same
  insertion order under re-listed keys; what the summary PRINTS (sorted names, counts, percentages), `Total SLOC`, the coverage
  records and the per-line attribution with sorted sets are EQUAL;
* permuting or repeating database ENTRIES of a platform changes NOTHING: the very same list of records, list representation included;
* if the analysis raises, it raises under every such rearrangement (`analysis_deterministic` compares `Option`s); WHICH exception
  surfaces first is not invariant when several inputs are faulty (`first_exception_depends_on_order`).

Hypotheses: file names are distinct (`Nodup` of the paths) and platform names are distinct (`Nodup` — TOML table names are).
Scope as in `Props/C06Compose.lean`: no `#include` resolution.
-/
namespace CbiVerif.C14.Text
open CbiVerif.SM CbiVerif.C06C CbiVerif.C14C

/-! ## files -/

/-- **analysis_perm_files.**  For every code base (texts, distinct paths), every configuration and every enumeration order of
    the files: if the analysis does not raise, there is ONE function `recOf` from files to records (path kept, never a link)
    such that the result is `files.map recOf` for the given order and `files'.map recOf` for any other order — the record of
    a file does not depend on its position nor on the position of the others. -/
theorem analysis_perm_files {files files' : List SrcFile} (h : files.Perm files') (hnd : (files.map (·.path)).Nodup)
    (plats : List Plat) (fs : List FileRec) (ha : analyse files plats = .ok fs) :
    ∃ recOf : SrcFile → FileRec, fs = files.map recOf ∧ analyse files' plats = .ok (files'.map recOf) ∧
      ∀ f, (recOf f).path = f.path ∧ (recOf f).link = false := by
  obtain ⟨hg, rfl⟩ := (analyse_iff files plats fs).mp ha
  exact ⟨recClosed (lkOf files) plats, rfl, analyse_perm_files h hnd plats hg, fun f => ⟨rfl, rfl⟩⟩

/-- **setmap_perm_files.**  Under the same permutation: the records are permuted; the `get_setmap` dicts have the same items
    (`List.Perm`, i.e. the same key → count function with the same key set) in another insertion order; after the sort of
    `report.summary` the rows are the SAME LIST (every column, the key lists included) and `Total SLOC` is the same number.
    Platform names distinct. -/
theorem setmap_perm_files {files files' : List SrcFile} (h : files.Perm files') (hnd : (files.map (·.path)).Nodup)
    (plats : List Plat) (hpn : (plats.map (·.name)).Nodup) (fs : List FileRec) (ha : analyse files plats = .ok fs) :
    ∃ fs', analyse files' plats = .ok fs' ∧ fs.Perm fs' ∧
      (getSetmap fs).Perm (getSetmap fs') ∧
      (∀ k, SM.get (getSetmap fs) k = SM.get (getSetmap fs') k) ∧ (∀ k, has (getSetmap fs) k = has (getSetmap fs') k) ∧
      CbiVerif.Summary.rows (getSetmap fs) = CbiVerif.Summary.rows (getSetmap fs') ∧
      CbiVerif.Summary.totalCount (getSetmap fs) = CbiVerif.Summary.totalCount (getSetmap fs') := by
  obtain ⟨hg, rfl⟩ := (analyse_iff files plats fs).mp ha
  have hp := getSetmap_perm (h.map (recClosed (lkOf files) plats))
  obtain ⟨hr, ht⟩ := rows_perm hp (keyLe_antisymm_on hpn (nodup_keys_getSetmap _) (getSetmap_keyed (closed_keys_sublist files plats)))
  exact ⟨_, analyse_perm_files h hnd plats hg, h.map _, hp, get_perm hp, has_perm hp, hr, ht⟩

/-! ## platform tables -/

/-- **setmap_perm_platforms.**  For every permutation of the `[platform.*]` tables (distinct names): if the analysis does not
    raise, the analysis under the permuted tables is the SAME list of records with every node's platform set re-listed in the new
    table order; the re-listed set has the same members (it is a permutation of the old list, and both are duplicate free — set
    semantics), line lists and counts are untouched; the dict of `get_setmap` is the old dict under re-listed keys, insertion
    order included; what `report.summary` prints (sorted names, counts, percentages) and `Total SLOC` are equal. -/
theorem setmap_perm_platforms (files : List SrcFile) {plats plats' : List Plat} (h : plats.Perm plats')
    (hpn : (plats.map (·.name)).Nodup) (fs : List FileRec) (ha : analyse files plats = .ok fs) :
    analyse files plats' = .ok (fs.map (relistRec (plats'.map (·.name)))) ∧
    (∀ r ∈ fs, ∀ n ∈ r.nodes, (relist (plats'.map (·.name)) n.plats).Perm n.plats ∧ n.plats.Nodup ∧
      ∀ x, x ∈ relist (plats'.map (·.name)) n.plats ↔ x ∈ n.plats) ∧
    getSetmap (fs.map (relistRec (plats'.map (·.name)))) = relistSetmap (plats'.map (·.name)) (getSetmap fs) ∧
    printed (CbiVerif.Summary.rows (getSetmap (fs.map (relistRec (plats'.map (·.name)))))) =
      printed (CbiVerif.Summary.rows (getSetmap fs)) ∧
    CbiVerif.Summary.totalCount (getSetmap (fs.map (relistRec (plats'.map (·.name))))) =
      CbiVerif.Summary.totalCount (getSetmap fs) := by
  obtain ⟨hg, rfl⟩ := (analyse_iff files plats fs).mp ha
  have hsub := closed_keys_sublist files plats
  have hσ : ∀ k : Key, k.Sublist (plats.map (·.name)) → (relist (plats'.map (·.name)) k).Perm k :=
    fun _ hk => relist_perm hpn (h.map _) hk
  obtain ⟨hrows, htot⟩ := printed_rows_relist hpn hsub _ hσ
  refine ⟨?_, fun r hr n hn => ?_, getSetmap_relist hpn hsub _ hσ, hrows, htot⟩
  · rw [analyse_iff]
    exact ⟨(good_perm_plats files h).mp hg, (closed_perm_plats files h hpn).symm⟩
  · have hp := hσ _ (hsub r hr n hn)
    exact ⟨hp, (hsub r hr n hn).nodup hpn, fun x => hp.mem_iff⟩

/-! ## database entries -/

/-- **setmap_perm_entries.**  For every pair of configurations with the same platforms in the same order whose databases have,
    platform by platform, the same SET of entries (entries permuted, entries repeated any number of times): the analysis
    gives the very same value — the same exception-or-not, the same list of records with the same platform lists — hence the
    same dict, summary, coverage.  No hypothesis. -/
theorem setmap_perm_entries (files : List SrcFile) {plats plats' : List Plat} (h : SameEntries plats plats')
    (fs : List FileRec) : analyse files plats = .ok fs ↔ analyse files plats' = .ok fs :=
  analyse_ok_sameEntries files h fs

/-- permuting the entries inside every database is an instance … -/
theorem sameEntries_of_perm {plats plats' : List Plat}
    (h : List.Forall₂ (fun p p' => p.name = p'.name ∧ p.entries.Perm p'.entries) plats plats') : SameEntries plats plats' :=
  h.imp fun _ _ hp => ⟨hp.1, fun _ => hp.2.mem_iff⟩

/-- … and so is writing one entry of one database a second time (anywhere in that database) -/
theorem sameEntries_dup (pre post : List Plat) (p : Plat) (e : Entry) (he : e ∈ p.entries) (a b : List Entry)
    (hab : p.entries = a ++ b) : SameEntries (pre ++ p :: post) (pre ++ ⟨p.name, a ++ e :: b⟩ :: post) := by
  unfold SameEntries
  refine List.rel_append (sameEntries_refl pre) (.cons ⟨rfl, fun x => ?_⟩ (sameEntries_refl post))
  -- `a ++ e :: b` lists `e` and the members of `a ++ b`, among which `e` is already
  rw [List.perm_middle.mem_iff, List.mem_cons, ← hab]
  exact (or_iff_right_of_imp fun hx => hx ▸ he).symm

/-- **setmap_dup_entry.**  A compile command listed twice in a database changes nothing. -/
theorem setmap_dup_entry (files : List SrcFile) (pre post : List Plat) (p : Plat) (e : Entry) (he : e ∈ p.entries)
    (a b : List Entry) (hab : p.entries = a ++ b) (fs : List FileRec) :
    analyse files (pre ++ p :: post) = .ok fs ↔ analyse files (pre ++ ⟨p.name, a ++ e :: b⟩ :: post) = .ok fs :=
  setmap_perm_entries files (sameEntries_dup pre post p e he a b hab) fs

/-- **setmapOfTexts_perm.**  The same three facts about `C06C.setmapOfTexts` (`state.get_setmap(codebase)` of the texts), the
    definition the C06 theorems are about: permuting the files permutes the items of the dict (same key → count function);
    permuting the platform tables gives the same dict, in the same insertion order, under re-listed keys; rearranging database
    entries gives the same dict. -/
theorem setmapOfTexts_perm {files files' : List SrcFile} (hf : files.Perm files') (hnd : (files.map (·.path)).Nodup)
    {plats plats' plats'' : List Plat} (hp : plats.Perm plats') (hpn : (plats.map (·.name)).Nodup)
    (he : SameEntries plats plats'') (sm : Setmap) (h : setmapOfTexts files plats = .ok sm) :
    (∃ sm', setmapOfTexts files' plats = .ok sm' ∧ sm.Perm sm' ∧ ∀ k, SM.get sm k = SM.get sm' k) ∧
    setmapOfTexts files plats' = .ok (relistSetmap (plats'.map (·.name)) sm) ∧
    setmapOfTexts files plats'' = .ok sm := by
  obtain ⟨fs, ha, rfl⟩ := setmapOfTexts_ok.mp h
  obtain ⟨fs', h1, _, h2, h3, _⟩ := setmap_perm_files hf hnd plats hpn fs ha
  obtain ⟨h4, _, h5, _⟩ := setmap_perm_platforms files hp hpn fs ha
  exact ⟨⟨_, setmapOfTexts_ok.mpr ⟨fs', h1, rfl⟩, h2, h3⟩, setmapOfTexts_ok.mpr ⟨_, h4, h5⟩,
    setmapOfTexts_ok.mpr ⟨fs, (setmap_perm_entries files he fs).mp ha, rfl⟩⟩

/-! ## coverage export and per-line attribution -/

/-- **coverage_perm.**  The used / unused split per file is invariant: under a permutation of the files the records of
    `_compute` are permuted (each file keeps its record), and the export sorted by file name as well as the per-line attribution
    (files sorted by name, sets sorted) are the same lists; under a permutation of the platform tables the records are the same
    list and the per-line attribution is the same.  File names distinct as strings, platform names distinct. -/
theorem coverage_perm {files files' : List SrcFile} (hf : files.Perm files')
    (hnd : (files.map fun f => fileName f.path).Nodup) {plats plats' : List Plat} (hp : plats.Perm plats')
    (hpn : (plats.map (·.name)).Nodup) (fs : List FileRec) (ha : analyse files plats = .ok fs) :
    ∃ fs1 fs2, analyse files' plats = .ok fs1 ∧ analyse files plats' = .ok fs2 ∧
      (CbiVerif.Cov.compute fs).Perm (CbiVerif.Cov.compute fs1) ∧ covExport fs = covExport fs1 ∧ attrExport fs = attrExport fs1 ∧
      CbiVerif.Cov.compute fs2 = CbiVerif.Cov.compute fs ∧ covExport fs2 = covExport fs ∧ attrExport fs2 = attrExport fs := by
  have hpaths := nodup_paths_of_names hnd
  obtain ⟨h2, hperm, _⟩ := setmap_perm_platforms files hp hpn fs ha
  obtain ⟨hg, rfl⟩ := (analyse_iff files plats fs).mp ha
  have hfs : (files.map (recClosed (lkOf files) plats)).Perm (files'.map (recClosed (lkOf files) plats)) := hf.map _
  have hnd' : ((closed files plats).map fun r => fileName r.path).Nodup := by rw [closed_names]; exact hnd
  have hperm' : ∀ r ∈ files.map (recClosed (lkOf files) plats), ∀ n ∈ r.nodes,
      (relist (plats'.map (·.name)) n.plats).Perm n.plats := fun r hr n hn => (hperm r hr n hn).1
  exact ⟨_, _, analyse_perm_files hf hpaths plats hg, h2, (hfs.filter _).map _, covExport_perm hfs hnd',
    attrExport_perm hfs hnd', compute_ren _ _ hperm', covExport_ren _ _ hperm', attrExport_ren _ _ hperm'⟩

/-! ## the listed results are a function of the multiset of files, the set of platforms, the sets of entries -/

/-- two configurations that differ by a permutation of the platform tables followed by a rearrangement (permutation,
    repetition) of the entries inside each database -/
def PlatsEquiv (plats plats' : List Plat) : Prop := ∃ mid, plats.Perm mid ∧ SameEntries mid plats'

theorem results_perm_files {files files' : List SrcFile} (hf : files.Perm files')
    (hnd : (files.map fun f => fileName f.path).Nodup) (plats : List Plat) (hpn : (plats.map (·.name)).Nodup) :
    resultsOfTexts files plats = resultsOfTexts files' plats := by
  rw [resultsOfTexts_eq, resultsOfTexts_eq]
  refine map_analyse_perm_files canonOf hf (nodup_paths_of_names hnd) plats fun fs fs' h hpaths hk => canonOf_perm hpn hk h ?_
  have := congrArg (List.map fileName) hpaths
  rw [List.map_map, List.map_map] at this
  exact this ▸ hnd

theorem results_perm_platforms (files : List SrcFile) {plats plats' : List Plat} (hp : plats.Perm plats')
    (hpn : (plats.map (·.name)).Nodup) : resultsOfTexts files plats = resultsOfTexts files plats' := by
  rw [resultsOfTexts_eq, resultsOfTexts_eq]
  exact map_analyse_perm_plats canonOf files hp hpn fun σ _ hk hσ => canonOf_ren hpn hk σ hσ

theorem results_same_entries (files : List SrcFile) {plats plats' : List Plat} (h : SameEntries plats plats') :
    resultsOfTexts files plats = resultsOfTexts files plats' := by
  rw [resultsOfTexts_eq, resultsOfTexts_eq, toOption_analyse_sameEntries files h]

/-- **analysis_deterministic.**  The listed results of the analysis of a code base given as texts — the printed summary rows,
    `Total SLOC`, the coverage export sorted by file name, the per-line attribution — and whether the analysis raises at all are
    a function of the MULTISET of files, of the SET of platform tables and, per platform, of the SET of database entries:
    any two presentations related by a permutation of the files, a permutation of the tables and a rearrangement (permutation,
    repetition) of the entries give the same value of `resultsOfTexts`.  (That the value is the same on IDENTICAL inputs is
    `rfl`: `analyse` is a function; there is no hidden state in the model.)  File and platform names distinct. -/
theorem analysis_deterministic {files files' : List SrcFile} {plats plats' : List Plat} (hf : files.Perm files')
    (hnd : (files.map fun f => fileName f.path).Nodup) (hp : PlatsEquiv plats plats') (hpn : (plats.map (·.name)).Nodup) :
    resultsOfTexts files plats = resultsOfTexts files' plats' := by
  obtain ⟨mid, hpm, hse⟩ := hp
  rw [results_perm_files hf hnd plats hpn, results_perm_platforms files' hpm hpn, results_same_entries files' hse]

/-! ## non-vacuity (kernel-checked) and what is NOT invariant -/

/-- `a.c`: an `#ifdef/#else` and an `#if B==2`; `u.h`: used by no platform -/
def exFiles : List SrcFile :=
  [⟨["src", "a.c"], "int a; /* c */\n#ifdef A\nint b;\n#else\nint c;\n#endif\n#if B==2\nint e;\n#endif\n".toList⟩,
   ⟨["u.h"], "int u;\n\nint v;\n".toList⟩]

def exPlats : List Plat :=
  [⟨"gpu", [⟨["src", "a.c"], ["B=2"]⟩, ⟨["src", "a.c"], ["A=1"]⟩]⟩, ⟨"cpu", [⟨["src", "a.c"], ["A"]⟩]⟩]

/-- the other presentation: files swapped, tables swapped, gpu's entries swapped and one of them repeated -/
def exPlats' : List Plat :=
  [⟨"cpu", [⟨["src", "a.c"], ["A"]⟩]⟩,
   ⟨"gpu", [⟨["src", "a.c"], ["A=1"]⟩, ⟨["src", "a.c"], ["B=2"]⟩, ⟨["src", "a.c"], ["A=1"]⟩]⟩]

example : exFiles.Perm exFiles.reverse ∧ (exFiles.map fun f => fileName f.path).Nodup ∧ (exPlats.map (·.name)).Nodup :=
  ⟨(List.reverse_perm _).symm, by decide +kernel, by decide +kernel⟩

theorem exPlats_equiv : PlatsEquiv exPlats exPlats' :=
  ⟨exPlats.reverse, (List.reverse_perm _).symm, by
    unfold SameEntries
    refine .cons ⟨rfl, fun _ => Iff.rfl⟩ (.cons ⟨rfl, fun e => ?_⟩ .nil)
    simp only [List.mem_cons, List.not_mem_nil, or_false]
    constructor
    · rintro (h | h); exact .inr (.inl h); exact .inl h
    · rintro (h | h | h); exact .inr h; exact .inl h; exact .inr h⟩

/-- the hypotheses of `setmap_dup_entry` on the example: gpu's first compile command written a second time at the end -/
example : (⟨["src", "a.c"], ["B=2"]⟩ : Entry) ∈ (⟨"gpu", [⟨["src", "a.c"], ["B=2"]⟩, ⟨["src", "a.c"], ["A=1"]⟩]⟩ : Plat).entries ∧
    (⟨"gpu", [⟨["src", "a.c"], ["B=2"]⟩, ⟨["src", "a.c"], ["A=1"]⟩]⟩ : Plat).entries
      = [⟨["src", "a.c"], ["B=2"]⟩, ⟨["src", "a.c"], ["A=1"]⟩] ++ [] :=
  ⟨List.mem_cons_self, rfl⟩

/-- the dicts of the two presentations, evaluated by the kernel.  The literals are first turned into character lists by
    `String.toList_ofList` (`rw` unifies `String.ofList ?l` with a literal): the kernel's own evaluation of `toList` on a
    literal decodes its UTF-8 bytes, which takes longer than the whole analysis. -/
theorem ex_setmaps :
    setmapOfTexts exFiles exPlats = .ok [(["gpu", "cpu"], 7), (["gpu"], 2), ([], 2)] ∧
    setmapOfTexts exFiles.reverse exPlats' = .ok [([], 2), (["cpu", "gpu"], 7), (["gpu"], 2)] := by
  unfold exFiles
  rw [String.toList_ofList, String.toList_ofList]
  decide +kernel

/-- the analysis of the example does not raise and is not trivial (three platform sets, an unused file); the LIST
    representation does change under the rearrangement: record order, `["gpu", "cpu"]` vs `["cpu", "gpu"]`, dict order … -/
example :
    (analyse exFiles exPlats).toOption.map getSetmap = some [(["gpu", "cpu"], 7), (["gpu"], 2), ([], 2)] ∧
    (analyse exFiles.reverse exPlats').toOption.map getSetmap = some [([], 2), (["cpu", "gpu"], 7), (["gpu"], 2)] :=
  ⟨map_getSetmap_of_ok ex_setmaps.1 id, map_getSetmap_of_ok ex_setmaps.2 id⟩

/-- … while the listed results do not (an instance of the theorem; its hypotheses are kernel-checked on the example) -/
example : resultsOfTexts exFiles exPlats = resultsOfTexts exFiles.reverse exPlats' :=
  analysis_deterministic (List.reverse_perm _).symm (by decide +kernel) exPlats_equiv (by decide +kernel)

/-- two faulty files (`#ifdef` without a name: `TypeError`; a final backslash: `RuntimeError` of `c_file_source`) -/
def exFaulty : List SrcFile := [⟨["x.c"], "#ifdef\n#endif\n".toList⟩, ⟨["y.c"], "int y; \\".toList⟩]

/-- the analysis raises under both enumeration orders (the invariant statement), but NOT the same exception: the model's
    `mapE` — like the `for` loop over `set(codebase)` — stops at the first faulty file it meets.  The exception class is
    therefore not a function of the inputs as sets, and no theorem above claims it. -/
theorem first_exception_depends_on_order :
    (match analyse exFaulty [] with | .error .type_ => true | _ => false) = true ∧
    (match analyse exFaulty.reverse [] with | .error (.runtime _) => true | _ => false) = true ∧
    (resultsOfTexts exFaulty []).isNone = true ∧ (resultsOfTexts exFaulty.reverse []).isNone = true := by
  decide +kernel

end CbiVerif.C14.Text
