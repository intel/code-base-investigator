import CbiVerif.Props.C12
import CbiVerif.Props.C12Regex
import CbiVerif.Lemmas.RegexScan
import CbiVerif.Lemmas.RegexParse
import CbiVerif.Lemmas.RegexShapes
/-!
# C12 — completeness and priority-exactness of the regular-expression matcher, the parser, all-values corollaries

`Props/C12Regex.lean` proved SOUNDNESS of the back-tracking matcher of `Model/Regex.lean` (the `re.findall` of
`_ExtendMatchAction`).  Proved here:

* COMPLETENESS for every expression (`matcher_complete`, which is the `MatcherComplete` left open there): whenever
  the language `Regex.Match` has a match at a position, the match attempt succeeds; `search` answers the LEFTMOST
  position that has a match (`search_finds_leftmost`, `search_none_iff`); `findall` reports every position where a
  match starts unless the position lies strictly inside an earlier reported hit (`findall_complete`).
* PRIORITY (which match at a position): `Spec/RegexPrio.lean` lists all matches in Python's preference order without
  any back-tracking (`allMatches`: first alternative first, greedy repetition, left part of a sequence dominates).
  On the fragment `inFragment` (bodies of `*` / `+` cannot match the empty string) the list holds exactly the matches
  of the language (`allMatches_exact_partial`), the matcher returns its first acceptable element together with the
  groups (`matcher_priority_exact_partial`), and `findall` equals the scan computed from the specification alone
  (`findall_eq_spec_partial`).  The parser answers only expressions of the fragment (`parse_in_fragment`), hence for
  EVERY pattern the model accepts `findallStr` is the specification's `findall` (`findallStr_eq_spec`).
* PARSER: a metacharacter-free pattern parses to `lit` (`parse_literal`); printing a flat expression canonically and
  parsing it back gives the expression (`parse_roundtrip_partial`; groups, alternation and character sets are not
  covered: `ParseRoundtrip`); the regenerated built-in table contains exactly one pattern, nvcc's (`builtin_patterns_all`),
  one `store_split` rule and the two formats the all-values lemmas are about.
* ALL-VALUES corollaries: the nvcc closed form on a comma-joined list of architecture names (`nvArchs_comma_list`,
  `nvcc_findall_comma_list`), `str.split(c)` on a `c`-joined list (`pySplit_joined`), `Template(prefix$value)`
  (`substitute_prefix`), and the `-fsycl-targets` rule end to end (`sycl_targets_selects`).
-/
namespace CbiVerif.C12
open CbiVerif.Regex CbiVerif.Compilers CbiVerif.Gen.Compilers

/-! ## completeness (every expression) -/

/-- a match attempt succeeds whenever the language has a match it may report (after an empty match at the same
    place: a non-empty one) -/
theorem matcher_complete_adv (r : Re) (adv : Bool) (s s' : List Char) (h : Match r s s')
    (hadv : adv = true → s'.length ≠ s.length) : (matchAt r adv s).isSome = true :=
  matchAt_complete r adv s s' h hadv

example : Match (.star (.alt (.chr 'a') .empty)) "aab".toList "b".toList ∧ (true = true → "b".toList.length ≠ "aab".toList.length) :=
  ⟨.starS (.altL (.chr 'a' _)) (.starS (.altL (.chr 'a' _)) (.star0 _ _)), by decide⟩

/-- the statement left open in `Props/C12Regex.lean`, for ALL expressions (also outside the parser's fragment) -/
theorem matcher_complete : MatcherComplete :=
  fun r s s' h => matcher_complete_adv r false s s' h nofun

/-- success of a match attempt is exactly existence of a reportable match of the language -/
theorem matcher_sound_and_complete (r : Re) (adv : Bool) (s : List Char) :
    (matchAt r adv s).isSome = true ↔ ∃ s', Match r s s' ∧ (adv = true → s'.length ≠ s.length) :=
  matchAt_isSome_iff r adv s

/-- `search` answers the leftmost position with a match: the reported position has one, and no earlier position `j`
    has any match of the language (at the first position, when `adv` is set: any non-empty match) -/
theorem search_finds_leftmost (r : Re) (s : List Char) (off : Nat) (adv : Bool) (st : Nat) (sAt rest : List Char) (caps : Caps)
    (h : search r off s adv = some (st, sAt, rest, caps)) :
    ∃ k, st = off + k ∧ k ≤ s.length ∧ sAt = s.drop k ∧ Match r sAt rest ∧
      ∀ j, j < k → ∀ s', Match r (s.drop j) s' → (adv = true ∧ j = 0 ∧ s'.length = (s.drop j).length) := by
  have hsp := search_spec r s off adv
  rw [h] at hsp
  obtain ⟨k, h1, h2, h3, h4, h5⟩ := hsp
  refine ⟨k, h1, h2, h3, (matchAt_sound r _ sAt rest caps h4).1, fun j hj s' hm => ?_⟩
  -- no match attempt succeeds at `j`, so the match `s'` is one that the flag rules out
  have := Classical.not_imp.mp fun hi => (matchAt_eq_none_iff ..).mp (h5 j hj) ⟨s', hm, hi⟩
  simpa [and_assoc] using this

example : search (.plus (.cls false [.digit])) 0 "ab12".toList false = some (2, "12".toList, [], []) := by decide +kernel

/-- `search` answers `none` exactly when no position has a reportable match -/
theorem search_none_iff (r : Re) (s : List Char) (off : Nat) (adv : Bool) :
    search r off s adv = none ↔ ∀ j, j ≤ s.length → ¬ Reportable r (adv && j == 0) (s.drop j) := by
  simp only [← matchAt_eq_none_iff]
  -- the two cases of `search_spec`
  have hsp := search_spec r s off adv
  cases hs : search r off s adv <;> rw [hs] at hsp
  · exact ⟨fun _ => hsp, fun _ => rfl⟩
  · obtain ⟨k, _, h2, h3, h4, _⟩ := hsp
    exact ⟨nofun, fun h => by rw [h3, h k h2] at h4; cases h4⟩

/-- "findall returns all non-overlapping matches": every position of the text at which the language has a match is
    the start of a reported hit or lies strictly inside a reported hit -/
theorem findall_complete (r : Re) (s : List Char) (j : Nat) (hj : j ≤ s.length) (s' : List Char) (hm : Match r (s.drop j) s') :
    ∃ h ∈ hits r s, h.start = j ∨ (h.start < j ∧ j < h.start + h.text.length) := by
  simpa [hits] using scan_complete r (2 * s.length + 3) 0 s false (by simp) j hj ⟨s', hm, by simp⟩

example : (hits (.alt (lit "ab".toList) (.chr 'b')) "abb".toList).map (fun h => (h.start, h.text.length)) = [(0, 2), (2, 1)] := by decide +kernel

/-! ## priority: which match is reported -/

/-- the priority list holds exactly the matches of the language (fragment: see `inFragment`) -/
theorem allMatches_exact_partial (r : Re) (hf : inFragment r = true) (s s' : List Char) (caps : Caps) :
    (∃ caps', (s', caps') ∈ allMatches r s caps) ↔ Match r s s' :=
  ⟨fun ⟨c', h⟩ => allMatches_sound r s caps (s', c') h, fun h => allMatches_complete h hf caps⟩

/-- without the fragment hypothesis: every listed match is a match of the language -/
theorem allMatches_sound_all (r : Re) (s : List Char) (caps : Caps) (x : MRes) (h : x ∈ allMatches r s caps) : Match r s x.1 :=
  allMatches_sound r s caps x h

/-- the full statement.  It is false outside the fragment: on `(?:|a)*` at `a` the matcher, which drops an iteration that
    consumed nothing and back-tracks into its body, reports `a`; `firstMatch` reports the empty match, as CPython does.
    This is why the parser refuses such patterns. -/
def MatcherPriorityExact : Prop := ∀ (r : Re) (adv : Bool) (s : List Char), matchAt r adv s = firstMatch r adv s

/-- the matcher reports the most preferred acceptable match (rest of the text AND groups) -/
theorem matcher_priority_exact_partial (r : Re) (hf : inFragment r = true) (adv : Bool) (s : List Char) :
    matchAt r adv s = firstMatch r adv s :=
  matchAt_eq_firstMatch r hf adv s

/-- the same for any continuation: the first listed match the continuation accepts -/
theorem matchRe_priority_exact_partial {R : Type} (r : Re) (hf : inFragment r = true) (s : List Char) (caps : Caps) (k : Cont R) :
    matchRe r s caps k = (allMatches r s caps).findSome? (fun x => k x.1 x.2) :=
  matchRe_eq_first r hf s caps k

example : inFragment nvRe = true ∧
    (allMatches (.seq (.star (.chr 'a')) (.opt (.chr 'a'))) "aa".toList []).map (fun x => x.1.length) = [0, 0, 1, 1, 2] := by decide +kernel
/-- first alternative first: `a|ab` reports `a` although `ab` is longer; greedy: `a*` takes both -/
example : firstMatch (.alt (.chr 'a') (lit "ab".toList)) false "ab".toList = some ("b".toList, []) ∧
    firstMatch (.star (.chr 'a')) false "aab".toList = some ("b".toList, []) ∧
    firstMatch (.star (.chr 'a')) true "b".toList = none := by decide +kernel

/-- `findall` is the scan computed from the specification alone -/
theorem findall_eq_spec_partial (r : Re) (hf : inFragment r = true) (ng : Nat) (s : List Char) :
    findall r ng s = specFindall r ng s := by
  simp only [findall, specFindall, hits, specScan_eq r hf]

/-- the parser answers only expressions of the fragment … -/
theorem parse_in_fragment (p : String) (r : Re) (ng : Nat) (h : parse p = .ok (r, ng)) : inFragment r = true :=
  parseLoop_inFragment _ _ _ _ _ _ (empty_ok none) (by simp) h

example : parse "(?:a|b+)*c?$" = .ok (.seq (.star (.alt (.chr 'a') (.plus (.chr 'b')))) (.seq (.opt (.chr 'c')) .eol), 0) := by decide +kernel

/-- … hence for EVERY pattern the model accepts, what the driver computes for `re.findall` is the specification's
    `findall` of the parsed expression (no fragment hypothesis left) -/
theorem findallStr_eq_spec (pattern value : String) :
    findallStr pattern value =
      match parse pattern with
      | .error e => .error e
      | .ok (r, ng) => .ok ((specFindall r ng value.toList).map fun m => m.map String.ofList) := by
  unfold findallStr
  cases h : parse pattern with
  | error e => rfl
  | ok x => obtain ⟨r, ng⟩ := x; simp only [findall_eq_spec_partial r (parse_in_fragment pattern r ng h)]

/-! ## the parser -/

/-- the full statement: a printer that is a right inverse of the parser on everything the parser answers (NOT proved:
    it needs the canonical text of groups — numbered in the order of their opening parentheses —, of alternations and
    of character sets with ranges) -/
def ParseRoundtrip : Prop :=
  ∃ pp : Re → String, ∀ (p : String) (r : Re) (ng : Nat), parse p = .ok (r, ng) → parse (pp r) = .ok (r, ng)

/-- the proved part: a flat expression — a sequence of characters (metacharacters escaped), `.`, the class escapes
    `\d \w \s \D \W \S`, each optionally followed by `*` / `+` / `?`, and `$` — printed canonically (`ppFlat`) parses back to
    itself.  Covers e.g. `sm_\d+`, `spir64\w*`, `[`-free user patterns; `parse_literal` is the special case without
    quantifiers and escapes. -/
theorem parse_roundtrip_partial (items : List Re) (p : List Char) (h : ppFlat items = some p) :
    parse (String.ofList p) = .ok (seqOf items, 0) := by
  simp only [parse, String.toList_ofList]
  exact parseLoop_flat 0 items p h _ {} (Nat.lt_succ_self _) rfl rfl

example : ppFlat [.chr 's', .chr 'm', .chr '_', .plus (.cls false [.digit]), .opt (.chr '.'), .star .any, .eol] =
    some "sm_\\d+\\.?.*$".toList := by decide +kernel

/-- a pattern without metacharacters is the literal expression of its text, with no group -/
theorem parse_literal (p : List Char) (hp : ∀ c ∈ p, isMeta c = false) : parse (String.ofList p) = .ok (lit p, 0) :=
  parse_roundtrip_partial (p.map .chr) p (ppFlat_lit p hp)

example : ∀ c ∈ "sm_80-x,y=z".toList, isMeta c = false := by
  rw [String.toList_ofList]
  simp only [isMeta_eq]
  decide +kernel

/-- all `extend_match` patterns of all shipped compiler definitions: nvcc's, nothing else; all formats and
    separators of the shipped value rules (an edit of the `.toml` files breaks these kernel evaluations) -/
theorem builtin_patterns_all :
    ((loadCompilers builtinFiles .absent).1.flatMap fun kc => kc.2.parser.filterMap (·.pattern)) = [nvccPattern] ∧
    ((loadCompilers builtinFiles .absent).1.flatMap fun kc =>
      (kc.2.parser.filter fun r => r.action == "store_split" || r.action == "extend_match").map
        fun r => (kc.1, r.action, r.flags.headD "", r.sep, r.format)) =
      [("icx", "store_split", "-fsycl-targets", some ",", some "sycl-$value"),
       ("nvcc", "extend_match", "--gpu-architecture", none, some "sm_$value")] := by decide +kernel

/-! ## all-values corollaries for the shipped value rules -/

/-- `re.findall` of the nvcc rule on a comma-joined list of architecture names `sm_<d1>,compute_<d2>,…`: the digits, in order -/
theorem nvArchs_comma_list (es : List (Bool × List Char)) (hall : ∀ e ∈ es, e.2 ≠ [] ∧ e.2.all Char.isDigit = true) :
    nvArchs (joinWith ',' (es.map archName)) = es.map (·.2) := by
  have := scanWith_joined nvF ',' archName (fun e => [(1, e.2)]) rfl (fun t => congrArg _ (nvAt_other ',' t (by decide) (by decide)))
    es (fun e he => nvF_archName e (hall e he).1 (hall e he).2) (2 * (joinWith ',' (es.map archName)).length + 3) 0 (by omega)
  have := congrArg (List.map fun p => capOf p.2 1) this
  simp only [List.map_map, Function.comp_def, capOf, beq_self_eq_true, if_true] at this
  exact this

theorem nvcc_findall_comma_list (es : List (Bool × List Char)) (hall : ∀ e ∈ es, e.2 ≠ [] ∧ e.2.all Char.isDigit = true) :
    findallFor nvccPattern (String.ofList (joinWith ',' (es.map archName))) = some (es.map fun e => String.ofList e.2) := by
  rw [nvcc_findall_closed_form, String.toList_ofList, nvArchs_comma_list es hall, List.map_map]
  rfl

example : String.ofList (joinWith ',' ([(false, "70".toList), (true, "80".toList), (false, "90".toList)].map archName)) = "sm_70,compute_80,sm_90" ∧
    (∀ e ∈ [(false, "70".toList), (true, "80".toList), (false, "90".toList)], e.2 ≠ [] ∧ e.2.all Char.isDigit = true) := by decide +kernel

/-- `value.split(c)` on the `c`-joined list of `c`-free fields gives the fields back (at least one field: `"".split(",")` is `[""]`) -/
theorem pySplit_joined (c : Char) (fields : List (List Char)) (hne : fields ≠ []) (hall : ∀ f ∈ fields, c ∉ f) :
    pySplit (String.ofList (joinWith c fields)) (some (String.singleton c)) = .ok (fields.map String.ofList) := by
  have e : (String.singleton c).toList = [c] := by simp
  simp only [pySplit, e, String.toList_ofList]
  rw [splitAux_join c fields hne hall _ [] (by omega)]
  cases fields with
  | nil => exact absurd rfl hne
  | cons f r => simp

example : String.ofList (joinWith ',' ["spir64".toList, [], "spir64_gen".toList]) = "spir64,,spir64_gen" ∧ String.singleton ',' = "," ∧
    (∀ f ∈ ["spir64".toList, [], "spir64_gen".toList], ',' ∉ f) := by decide +kernel

/-- `string.Template(prefix + "$value").substitute(value=v)` is `prefix + v`, for every value and every `$`-free prefix -/
theorem substitute_prefix (p : List Char) (hp : '$' ∉ p) (v : String) :
    substitute (some (String.ofList (p ++ "$value".toList))) v = .ok (String.ofList (p ++ v.toList)) := by
  have hne : (String.ofList (p ++ "$value".toList)).isEmpty = false := by
    have e : "$value".toList = ['$', 'v', 'a', 'l', 'u', 'e'] := by decide
    simp [e]
  simp only [substitute, hne, String.toList_ofList]
  rw [substAux_prefix_value v.toList p hp _ (by simp)]
  rfl

theorem substitute_sycl (v : String) : substitute (some "sycl-$value") v = .ok (String.ofList ("sycl-".toList ++ v.toList)) :=
  substitute_prefix "sycl-".toList (by decide) v

theorem substitute_sm (v : String) : substitute (some "sm_$value") v = .ok (String.ofList ("sm_".toList ++ v.toList)) :=
  substitute_prefix "sm_".toList (by decide) v

/-- the shipped `-fsycl-targets` rule on every comma-joined target list `t1,…,tn`: it stores the passes `sycl-t1 … sycl-tn`
    under the first spelling of the flag -/
theorem sycl_targets_selects (mt : Matches) (st : PState) (f : String) (flags : List String)
    (fields : List (List Char)) (hne : fields ≠ []) (hall : ∀ t ∈ fields, ',' ∉ t) :
    takeAction mt st f ⟨flags, .one, .storeSplit "passes" (some ",") (some "sycl-$value")⟩ (some (String.ofList (joinWith ',' fields))) =
      .ok { st with passesByFlag := dictSet st.passesByFlag (flags.headD f)
                      (fields.map fun t => String.ofList ("sycl-".toList ++ t)) } := by
  apply store_split_selects mt st f flags (some ",") (some "sycl-$value") _ (fields.map String.ofList)
  · exact pySplit_joined ',' fields hne hall
  · exact mapM'_substitute substitute_sycl fields

/-- the nvcc rule end to end on a comma-joined architecture list: the pass names `sm_<d1> … sm_<dn>` -/
theorem nvcc_passes_comma_list (es : List (Bool × List Char)) (hall : ∀ e ∈ es, e.2 ≠ [] ∧ e.2.all Char.isDigit = true) :
    (findallFor nvccPattern (String.ofList (joinWith ',' (es.map archName)))).map (mapM' (substitute (some "sm_$value"))) =
      some (.ok (es.map fun e => String.ofList ("sm_".toList ++ e.2))) := by
  rw [nvcc_findall_comma_list es hall]
  have := mapM'_substitute substitute_sm (es.map (·.2))
  simp only [List.map_map] at this
  exact congrArg some this

end CbiVerif.C12
