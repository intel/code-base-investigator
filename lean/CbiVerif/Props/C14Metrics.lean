import CbiVerif.Props.C14Compose
import CbiVerif.Lemmas.C14Metrics
import CbiVerif.Lemmas.C14MetricsRat
import CbiVerif.Props.C06Compose
import CbiVerif.Drv.Order
/-!
# C14 about SOURCE TEXT — metrics and distance matrix of the composed pipeline

`Props/C14Compose.lean` proves order independence of the summary rows, the coverage export and the attribution of the composed
text-level pipeline `C06C.analyse`.  This file adds the METRIC lines under the table (divergence, coverage, average coverage,
Total SLOC) and the DISTANCE MATRIX of the clustering report, computed from `C06C.setmapOfTexts` (`C14C.metricsOfTexts`,
`C14C.distanceMatrixOfTexts`, `Model/C14Metrics.lean`) by the definitions `C14.metrics_perm_anyfloat` /
`C14.distance_matrix_perm_anyfloat` are about (`Order.metricLines`, `Order.distanceMatrix`).

The bridge from `SM.Setmap` to `Order.Setmap` is the identity (one type).  The keys of the dict of the texts are platform sets
in platform-TABLE order, not `canon` keys; this needs no conversion because `Model/Order.lean` reads a key only as a set
(`contains`, `any`, `canon` of the union): re-listing every key changes none of the counts the metrics are made of
(`Metrics.Sim.relist`, `Lemmas/Wsum.lean`), which is exactly the effect of permuting the `[platform.*]` tables.

Floats are an arbitrary carrier with arbitrary, law-free `add` / `div` / `mul` (`Order.FloatOps`).  `none` = the analysis raises
(it raises under every rearrangement or under none).  Hypotheses: distinct file paths, distinct platform names.
-/
namespace CbiVerif.C14.Text
open CbiVerif.SM CbiVerif.C06C CbiVerif.C14C

variable {F : Type} (ops : CbiVerif.Order.FloatOps F)

/-- any reading of the dict that is invariant under permuting its items is invariant under permuting the files -/
theorem read_perm_files {β : Type} (g : Setmap → β) (hgp : ∀ sm sm' : Setmap, sm.Perm sm' → g sm = g sm')
    {files files' : List SrcFile} (hf : files.Perm files') (hnd : (files.map (·.path)).Nodup) (plats : List Plat) :
    readTexts g files plats = readTexts g files' plats := by
  rw [readTexts_eq, readTexts_eq]
  exact map_analyse_perm_files _ hf hnd plats fun _ _ h _ _ => hgp _ _ (getSetmap_perm h)

/-- any reading of the dict that is invariant under re-listing its keys is invariant under permuting the platform tables -/
theorem read_perm_platforms {β : Type} (g : Setmap → β)
    (hgr : ∀ (σ : Key → Key) (sm : Setmap), (∀ e ∈ sm, (σ e.1).Perm e.1) → g (sm.map (ren σ)) = g sm)
    (files : List SrcFile) {plats plats' : List Plat} (hp : plats.Perm plats') (hpn : (plats.map (·.name)).Nodup) :
    readTexts g files plats = readTexts g files plats' := by
  rw [readTexts_eq, readTexts_eq]
  refine map_analyse_perm_plats _ files hp hpn fun σ fs hk hσ => ?_
  rw [getSetmap_relist hpn hk σ hσ]
  exact hgr σ _ fun e he => hσ _ (getSetmap_keyed hk e he)

/-- every reading of the dict is invariant under rearranging (permuting, repeating) database entries -/
theorem read_same_entries {β : Type} (g : Setmap → β) (files : List SrcFile) {plats plats' : List Plat}
    (h : SameEntries plats plats') : readTexts g files plats = readTexts g files plats' := by
  rw [readTexts_eq, readTexts_eq, toOption_analyse_sameEntries files h]

/-- a reading of the dict that sees of it only the lines and the names (`Metrics.Sim 1 id`, `Lemmas/Wsum.lean`) is a function
    of the multiset of files, the set of platform tables and the sets of database entries -/
theorem read_deterministic {β : Type} (g : Setmap → β) (hg : ∀ sm sm' : Setmap, Metrics.Sim 1 id sm sm' → g sm = g sm')
    {files files' : List SrcFile} {plats plats' : List Plat} (hf : files.Perm files') (hnd : (files.map (·.path)).Nodup)
    (hp : PlatsEquiv plats plats') (hpn : (plats.map (·.name)).Nodup) :
    readTexts g files plats = readTexts g files' plats' := by
  obtain ⟨mid, hpm, hse⟩ := hp
  rw [read_perm_files g (fun _ _ h => hg _ _ (.of_perm h)) hf hnd plats,
    read_perm_platforms g (fun σ _ h => (hg _ _ (.relist σ h)).symm) files' hpm hpn, read_same_entries g files' hse]

/-! ## the metric lines -/

/-- the bridge: `C14.metrics_perm_anyfloat` read on dicts of the text-level pipeline (`SM.Setmap` = `Order.Setmap`), the
    platform set being the union of the keys in dict order on both sides -/
theorem metricsOf_perm {sm sm' : Setmap} (h : sm.Perm sm') : metricsOf ops sm = metricsOf ops sm' :=
  metricsOf_congr ops (.of_perm h)

/-- **metrics_of_texts_perm_files.**  For every carrier and every law-free `add` / `div` / `mul`, every code base (texts,
    distinct paths), every configuration and every enumeration order of the files: divergence, coverage, average coverage and
    Total SLOC computed from `get_setmap` of the texts are the same values (and the analysis raises under both orders or under
    neither). -/
theorem metrics_of_texts_perm_files {files files' : List SrcFile} (hf : files.Perm files')
    (hnd : (files.map (·.path)).Nodup) (plats : List Plat) :
    metricsOfTexts ops files plats = metricsOfTexts ops files' plats :=
  read_perm_files (metricsOf ops) (fun _ _ h => metricsOf_perm ops h) hf hnd plats

/-- **metrics_of_texts_perm_platforms.**  … and for every order of the `[platform.*]` tables (distinct names): the dict has
    re-listed keys, the metric lines are the same values. -/
theorem metrics_of_texts_perm_platforms (files : List SrcFile) {plats plats' : List Plat} (hp : plats.Perm plats')
    (hpn : (plats.map (·.name)).Nodup) : metricsOfTexts ops files plats = metricsOfTexts ops files plats' :=
  read_perm_platforms (metricsOf ops)
    (fun σ _ h => (metricsOf_congr ops (.relist σ h)).symm) files hp hpn

/-- **metrics_of_texts_same_entries.**  … and for every rearrangement (permutation, repetition) of the entries of the
    compilation databases.  No hypothesis. -/
theorem metrics_of_texts_same_entries (files : List SrcFile) {plats plats' : List Plat} (h : SameEntries plats plats') :
    metricsOfTexts ops files plats = metricsOfTexts ops files plats' :=
  read_same_entries (metricsOf ops) files h

/-- **metrics_of_texts_deterministic.**  The metric lines are a function of the multiset of files, the set of platform tables
    and the sets of database entries. -/
theorem metrics_of_texts_deterministic {files files' : List SrcFile} {plats plats' : List Plat} (hf : files.Perm files')
    (hnd : (files.map (·.path)).Nodup) (hp : PlatsEquiv plats plats') (hpn : (plats.map (·.name)).Nodup) :
    metricsOfTexts ops files plats = metricsOfTexts ops files' plats' :=
  read_deterministic _ (fun _ _ h => metricsOf_congr ops h) hf hnd hp hpn

/-! ## the distance matrix -/

/-- **distance_matrix_of_texts_perm.**  For every carrier and every law-free arithmetic: the distance matrix of the code base
    given as texts — the sorted platform list that labels rows and columns, and every cell — is the same under every
    permutation of the files, every permutation of the `[platform.*]` tables and every rearrangement of database entries. -/
theorem distance_matrix_of_texts_perm {files files' : List SrcFile} {plats plats' : List Plat} (hf : files.Perm files')
    (hnd : (files.map (·.path)).Nodup) (hp : PlatsEquiv plats plats') (hpn : (plats.map (·.name)).Nodup) :
    distanceMatrixOfTexts ops files plats = distanceMatrixOfTexts ops files' plats' :=
  read_deterministic _ (fun _ _ h => CbiVerif.Order.distanceMatrix_congr ops h) hf hnd hp hpn

/-- every single distance (any two names, listed platforms or not) as well -/
theorem distance_of_texts_perm (p q : String) {files files' : List SrcFile} {plats plats' : List Plat} (hf : files.Perm files')
    (hnd : (files.map (·.path)).Nodup) (hp : PlatsEquiv plats plats') (hpn : (plats.map (·.name)).Nodup) :
    readTexts (fun sm => CbiVerif.Order.distance ops sm p q) files plats =
      readTexts (fun sm => CbiVerif.Order.distance ops sm p q) files' plats' :=
  read_deterministic _ (fun _ _ h => CbiVerif.Order.distance_congr ops h p q) hf hnd hp hpn

/-! ## non-vacuity (kernel-checked) on the example of `Props/C14Compose.lean` -/

open CbiVerif.Drv.Order in
/-- exact rationals (NaN = `none`): the metric lines and the matrix of the example are defined and not trivial, the dicts of the
    two presentations differ as lists (see `Props/C14Compose.lean`), the hypotheses of the theorems hold -/
example :
    ((metricsOfTexts ratOps exFiles exPlats).map fun m => (m.divergence, m.coverage, m.avgCoverage, m.totalSloc))
      = some (some (2/9 : Rat), some (900/11 : Rat), some (800/11 : Rat), 11) ∧
    distanceMatrixOfTexts ratOps exFiles exPlats
      = some (["cpu", "gpu"], [[some 0, some (2/9 : Rat)], [some (2/9 : Rat), some 0]]) ∧
    (exFiles.map (·.path)).Nodup ∧ (exPlats.map (·.name)).Nodup := by
  rw [metricsOfTexts, distanceMatrixOfTexts, readTexts_of_ok ex_setmaps.1, readTexts_of_ok ex_setmaps.1]
  decide +kernel

open CbiVerif.Drv.Order in
/-- an instance of the theorems: files swapped, tables swapped, gpu's entries swapped and one repeated -/
example : metricsOfTexts ratOps exFiles exPlats = metricsOfTexts ratOps exFiles.reverse exPlats' ∧
    distanceMatrixOfTexts ratOps exFiles exPlats = distanceMatrixOfTexts ratOps exFiles.reverse exPlats' :=
  ⟨metrics_of_texts_deterministic ratOps (List.reverse_perm _).symm (by decide +kernel) exPlats_equiv (by decide +kernel),
   distance_matrix_of_texts_perm ratOps (List.reverse_perm _).symm (by decide +kernel) exPlats_equiv (by decide +kernel)⟩

/-! ## exact values: the metrics of the texts are the definitions applied to the reference attribution -/

open CbiVerif.Metrics in
/-- **metrics_of_texts_are_definitions.**  For every code base given as texts (distinct paths, every text inside C05's guard)
    and every configuration whose units the ISO C reference accepts, on which the analysis does not raise: let `L` be the
    attribution written from the two specifications alone (`C06C.specLineAttr` of every file: every line the C05 specification
    counts, once, with the platforms whose reference preprocessor run keeps its node) and `R = lineSetmap L` the same list read
    as a setmap with one row per counted LINE.  Then over exact rationals coverage (for every `platforms` argument), average
    coverage, every distance and the divergence computed from `get_setmap` of the texts EQUAL C07's definitions applied to `R`
    (NaN exactly together), and every count they are made of is a number of reference-attributed lines: the total is the number
    of counted lines, `usedBy` the number of lines whose platform set meets the selection, union / symmetric difference /
    intersection the numbers of lines used by `p` or `q` / exactly one / both.  So `C07.coverage_def`, `avg_def`,
    `distance_jaccard`, `divergence_def` and the range theorems speak about line sets of the reference attribution. -/
theorem metrics_of_texts_are_definitions (files : List SrcFile) (plats : List Plat) (fs : List FileRec)
    (h : analyse files plats = .ok fs) (hnd : (files.map (·.path)).Nodup) (hacc : CbiVerif.C06.RefAcceptsAll files plats)
    (hg : ∀ f ∈ files, C06C.guard f.text = true) :
    ∃ ps, List.Forall₂ (fun (f : SrcFile) (p : Parsed) => parseSrc f.text = .ok p) files ps ∧
      setmapOfTexts files plats = .ok (getSetmap fs) ∧
      (∀ sel, coverage (getSetmap fs) sel = coverage (lineSetmap (refLines plats files ps)) sel) ∧
      (∀ sel, averageCoverage (getSetmap fs) sel = averageCoverage (lineSetmap (refLines plats files ps)) sel) ∧
      (∀ p q, distance (getSetmap fs) p q = distance (lineSetmap (refLines plats files ps)) p q) ∧
      divergence (getSetmap fs) = divergence (lineSetmap (refLines plats files ps)) ∧
      Metrics.total (getSetmap fs) = (refLines plats files ps).length ∧
      (∀ sel, usedBy (getSetmap fs) sel = (refLines plats files ps).countP fun y => y.2.any fun p => sel.contains p) ∧
      (∀ p q, unionCount (getSetmap fs) p q = (refLines plats files ps).countP fun y => y.2.contains p || y.2.contains q) ∧
      (∀ p q, xorCount (getSetmap fs) p q = (refLines plats files ps).countP fun y => (y.2.contains p) != (y.2.contains q)) ∧
      (∀ p q, interCount (getSetmap fs) p q = (refLines plats files ps).countP fun y => y.2.contains p && y.2.contains q) := by
  have hff := CbiVerif.C06.file_lines_counted_once files plats fs h
  obtain ⟨ps, hps, hrows⟩ := rows_of_attr hff (CbiVerif.C06.line_attribution_is_reference files plats fs h hnd hacc) hg
  have hws : ∀ w : Key → Bool, wsum (getSetmap fs) w = (refLines plats files ps).countP fun y => w y.2 :=
    fun w => wsum_eq_countP w _ _ (nodup_keys_getSetmap fs) hrows
  have hW : WEq (getSetmap fs) (lineSetmap (refLines plats files ps)) := fun w => by rw [hws, wsum_lineSetmap]
  obtain ⟨m1, m2, m3, m4⟩ := metrics_weq hW (getSetmap_rows_pos fs (nodes_pos_of_facts hff hg)) (lineSetmap_pos _)
  refine ⟨ps, hps, ?_, m1, m2, m3, m4, ?_, fun sel => ?_, fun p q => ?_, fun p q => ?_, fun p q => ?_⟩
  · exact setmapOfTexts_ok.mpr ⟨fs, h, rfl⟩
  · rw [total_eq_wsum, hws]; simp
  · rw [usedBy_eq_wsum, hws]
  · rw [unionCount_eq_wsum, hws]
  · rw [xorCount_eq_wsum, hws]
  · rw [interCount_eq_wsum, hws]

/-- the hypotheses of `metrics_of_texts_are_definitions` on the example of `Props/C06Compose.lean`, and its dict, read off the
    evaluation there (`C06.exSrc_facts`) -/
theorem exSrc_facts :
    (CbiVerif.C06.exSrc.all fun f => C06C.guard f.text) = true ∧ (CbiVerif.C06.exSrc.map (·.path)).Nodup ∧
    CbiVerif.C06.refAcceptsAllb CbiVerif.C06.exSrc CbiVerif.C06.exPlats = true ∧
    setmapOfTexts CbiVerif.C06.exSrc CbiVerif.C06.exPlats = .ok [(["cpu", "gpu"], 7), (["gpu"], 3), ([], 2)] :=
  have ⟨h, hg, hnd, hacc, _⟩ := CbiVerif.C06.exSrc_facts
  ⟨hg, hnd, hacc, setmapOfTexts_of_map h⟩

/-- non-vacuity: the hypotheses hold on the example of `Props/C06Compose.lean` (texts inside the guard, names distinct, the
    reference accepts all units; the analysis does not raise), and the values of C07's definitions on its dict -/
example :
    (CbiVerif.C06.exSrc.all fun f => C06C.guard f.text) = true ∧ (CbiVerif.C06.exSrc.map (·.path)).Nodup ∧
    CbiVerif.C06.refAcceptsAllb CbiVerif.C06.exSrc CbiVerif.C06.exPlats = true ∧
    ((analyse CbiVerif.C06.exSrc CbiVerif.C06.exPlats).toOption.map fun fs =>
        (CbiVerif.Metrics.coverage (getSetmap fs) [], CbiVerif.Metrics.averageCoverage (getSetmap fs) [],
         CbiVerif.Metrics.distance (getSetmap fs) "cpu" "gpu", CbiVerif.Metrics.divergence (getSetmap fs)))
      = some (some (250/3 : Rat), some (425/6 : Rat), some (3/10 : Rat), some (3/10 : Rat)) :=
  ⟨exSrc_facts.1, exSrc_facts.2.1, exSrc_facts.2.2.1,
    (map_getSetmap_of_ok exSrc_facts.2.2.2 fun sm => (CbiVerif.Metrics.coverage sm [], CbiVerif.Metrics.averageCoverage sm [],
      CbiVerif.Metrics.distance sm "cpu" "gpu", CbiVerif.Metrics.divergence sm)).trans (by decide +kernel)⟩

end CbiVerif.C14.Text
