import CbiVerif.Model.Order
import CbiVerif.Lemmas.Order
import CbiVerif.Lemmas.OrderSort
import CbiVerif.Lemmas.OrderDups
import Batteries.Data.List.Perm

/-!
# C14 — results are deterministic and independent of enumeration order

The iteration orders the Python runtime chooses (set / frozenset / dict iteration
under a random string-hash seed, directory enumeration, order of the
`[platform.*]` tables) are explicit list arguments of the model
(`CbiVerif/Model/Order.lean`); every theorem quantifies over **all**
permutations of those lists.  Floats are an arbitrary carrier with arbitrary,
law-free operations (`FloatOps`), so the statements hold for IEEE doubles in
particular.

The model follows the code after the repairs D26–D29, D34, D36 (commits a8dca66 … 5d7f56c).  The
last section keeps, for the record, witnesses that the *former* definitions (clearly named
`…Unsorted`, `…SetOrder`, `…Pinned`, `…LenOnly`) were order dependent.
-/
namespace CbiVerif.C14
open CbiVerif.Order

/-! ## platform sets -/

/-- two listings denote the same frozenset iff their canonical forms coincide -/
theorem canon_eq_iff (a b : List String) : canon a = canon b ↔ ∀ x, x ∈ a ↔ x ∈ b :=
  ⟨fun h x => by rw [← mem_canon (xs := a), ← mem_canon (xs := b), h], canon_congr⟩

/-! ## per-line attribution: a union of sets -/

/-- the platforms attributed to a node do not depend on the order in which platforms, database
entries and nodes are processed … -/
theorem attribution_perm {events events' : List Visit} (h : events.Perm events')
    (file : String) (node : Nat) : assocOf events file node = assocOf events' file node :=
  assocOf_congr (fun _ => h.mem_iff) file node

/-- … nor on how often a node is visited: only the *set* of (platform, node) visits matters, and the
attributed set is exactly the set of visiting platforms -/
theorem attribution_set {events events' : List Visit} (h : ∀ v, v ∈ events ↔ v ∈ events')
    (file : String) (node : Nat) :
    assocOf events file node = assocOf events' file node ∧
    ∀ p, p ∈ assocOf events file node ↔ (⟨p, file, node⟩ : Visit) ∈ events :=
  ⟨assocOf_congr h file node, fun _ => mem_assocOf⟩

example : assocOf [⟨"gpu", "a.c", 1⟩, ⟨"cpu", "a.c", 1⟩, ⟨"cpu", "a.c", 2⟩, ⟨"gpu", "a.c", 1⟩] "a.c" 1
    = ["cpu", "gpu"] := by decide +kernel

/-! ## setmap -/

/-- `get_setmap` as a function of the contribution list: permuting the contributions (files in any
enumeration order, nodes in any order) and listing each association set in any internal order gives
the same key → count map; only the dict insertion order changes (`List.Perm` of the entries). -/
theorem setmap_perm {cs cs' : List (PSet × Nat)} (h : (cs.map norm).Perm (cs'.map norm)) :
    (getSetmap cs).Perm (getSetmap cs') ∧
    (∀ k, lookup (getSetmap cs) k = lookup (getSetmap cs') k) ∧
    (keys (getSetmap cs)).Nodup := by
  refine ⟨getSetmap_perm_norm h, fun k => ?_, nodup_keys_getSetmap cs⟩
  rw [lookup_eq, lookup_eq, C14C.get_perm (getSetmap_perm_norm h)]

/-- files enumerated in any order (`os.scandir` / `rglob`) -/
theorem setmap_perm_files {files files' : List (List (PSet × Nat))} (h : files.Perm files') :
    (getSetmap (contribs files)).Perm (getSetmap (contribs files')) :=
  (setmap_perm ((h.flatten).map norm)).1

/-- … and, independently, the nodes of each file in any order -/
theorem setmap_perm_nodes {files files' : List (List (PSet × Nat))}
    (h : List.Forall₂ (fun f f' => f.Perm f') files files') :
    (getSetmap (contribs files)).Perm (getSetmap (contribs files')) :=
  (setmap_perm ((List.Perm.flatten_congr h).map norm)).1

/-- … and each association set iterated in any order (string-hash seed): the very same dict,
insertion order included -/
theorem setmap_perm_names {cs cs' : List (PSet × Nat)}
    (h : List.Forall₂ (fun c c' => c.1.Perm c'.1 ∧ c.2 = c'.2) cs cs') :
    getSetmap cs = getSetmap cs' := by
  have : cs.map norm = cs'.map norm := by
    induction h with
    | nil => rfl
    | cons hc _ ih => rw [List.map_cons, List.map_cons, ih, norm, norm, canon_perm hc.1, hc.2]
  rw [getSetmap_eq_foldl, getSetmap_eq_foldl, this]

example : getSetmap [(["gpu", "cpu"], 2), ([], 1), (["cpu", "gpu"], 3)] = [(["cpu", "gpu"], 5), ([], 1)] := by
  decide +kernel
example : (List.map norm [(["gpu", "cpu"], 2), ([], 1)]).Perm (List.map norm [([], 1), (["cpu", "gpu"], 2)]) := by
  decide +kernel

/-! ## summary table -/

/-- the sort key `(len(s), sorted(s))` is a total order on platform sets: transitive, total and
antisymmetric — i.e. injective: two sets that compare equal are the same set -/
theorem summary_key_total :
    (∀ a b c : PSet, keyLe a b → keyLe b c → keyLe a c) ∧
    (∀ a b : PSet, keyLe a b || keyLe b a) ∧
    (∀ a b : PSet, keyLe (canon a) (canon b) → keyLe (canon b) (canon a) → ∀ x, x ∈ a ↔ x ∈ b) :=
  ⟨keyLe_trans, keyLe_total, fun _ _ h1 h2 => (canon_eq_iff _ _).mp (keyLe_antisymm _ _ h1 h2)⟩

/-- the printed rows are the same list for every insertion order of the setmap (any dict whose keys
are distinct as sets) -/
theorem summary_rows_perm {F : Type} (ops : FloatOps F) {sm sm' : Setmap}
    (hkeys : (sm.map fun e => canon e.1).Nodup) (h : sm.Perm sm') :
    summaryRows ops sm = summaryRows ops sm' :=
  summaryRowsWith_perm ops entryLe_trans entryLe_total (entryLe_antisymm_on hkeys) h

/-- end to end: the table printed for an analysis does not depend on the enumeration order -/
theorem summary_rows_of_contribs {F : Type} (ops : FloatOps F) {cs cs' : List (PSet × Nat)}
    (h : (cs.map norm).Perm (cs'.map norm)) :
    summaryRows ops (getSetmap cs) = summaryRows ops (getSetmap cs') :=
  summary_rows_perm ops (nodup_canon_keys_getSetmap cs) (setmap_perm h).1

example : ((([(["b"], 1), (["a"], 2), (["a", "b"], 3)] : Setmap).map fun e => canon e.1)).Nodup := by
  decide +kernel

/-! ## metrics, for every float arithmetic -/

/-- For EVERY `add`/`div`/`mul` on an arbitrary carrier (no law assumed — IEEE doubles in particular),
every permutation of the setmap entries and every order `o`, `o'` in which the runtime lists the
platform set: the four metric lines are the same. -/
theorem metrics_perm_anyfloat {F : Type} (ops : FloatOps F) {sm sm' : Setmap} (h : sm.Perm sm')
    {o o' : List String} (ho : ∀ x, x ∈ o ↔ x ∈ o') :
    metricLines ops sm o = metricLines ops sm' o' :=
  metricLines_congr ops (.of_perm h) ho

/-- in particular for a permuted listing of the platform set -/
theorem metrics_perm_anyfloat_perm {F : Type} (ops : FloatOps F) {sm sm' : Setmap} (h : sm.Perm sm')
    {o o' : List String} (ho : o.Perm o') : metricLines ops sm o = metricLines ops sm' o' :=
  metrics_perm_anyfloat ops h (fun _ => ho.mem_iff)

/-- every distance and the whole distance matrix (rows and columns in sorted platform order) -/
theorem distance_matrix_perm_anyfloat {F : Type} (ops : FloatOps F) {sm sm' : Setmap} (h : sm.Perm sm') :
    distanceMatrix ops sm = distanceMatrix ops sm' ∧ ∀ p q, distance ops sm p q = distance ops sm' p q :=
  ⟨distanceMatrix_congr ops (.of_perm h), distance_congr ops (.of_perm h)⟩

/-- `average_coverage` with an explicit `platforms` argument (cbi-tree columns): only the set matters -/
theorem average_coverage_perm_anyfloat {F : Type} (ops : FloatOps F) {sm sm' : Setmap} (h : sm.Perm sm')
    {ps ps' : List String} (hp : ∀ x, x ∈ ps ↔ x ∈ ps') :
    averageCoverage ops sm ps = averageCoverage ops sm' ps' :=
  averageCoverage_congr ops (.of_perm h) hp

example : (([(["A"], 1), (["B"], 2)] : Setmap)).Perm [(["B"], 2), (["A"], 1)] := List.Perm.swap _ _ _

/-! ## duplicates -/

/-- For every enumeration order of the files, every iteration order of the `remaining` sets
(`pick`, `pick'`) and every digest function (`hash`, `hash'`): the duplicate groups are the same
**set of sets** — exactly the content-equality classes with at least two members, each once —
and the printed report (`sorted(sorted(m) for m in matches)`) is the same list. -/
theorem dups_perm {P C H H' : Type} [DecidableEq C] [DecidableEq H] [DecidableEq H']
    (content : P → C) (hash : C → H) (hash' : C → H')
    (pick pick' : List P → List P) (hpick : ∀ l, (pick l).Perm l) (hpick' : ∀ l, (pick' l).Perm l)
    {files files' : List P} (hnd : files.Nodup) (h : files.Perm files')
    (ple : P → P → Bool) (gle : List P → List P → Bool)
    (ptrans : ∀ a b c, ple a b → ple b c → ple a c) (ptotal : ∀ a b, ple a b || ple b a)
    (pantisymm : ∀ a b, ple a b → ple b a → a = b)
    (gtrans : ∀ a b c, gle a b → gle b c → gle a c) (gtotal : ∀ a b, gle a b || gle b a)
    (gantisymm : ∀ a b, gle a b → gle b a → a = b) :
    IsClassPartition content files (findDuplicates pick content hash files) ∧
    SameGroups (findDuplicates pick content hash files) (findDuplicates pick' content hash' files') ∧
    printedDuplicates ple gle (findDuplicates pick content hash files) =
      printedDuplicates ple gle (findDuplicates pick' content hash' files') := by
  have s1 := findDuplicates_spec pick hpick content hash files hnd
  have s2 := findDuplicates_spec pick' hpick' content hash' files' (h.nodup_iff.mp hnd)
  exact ⟨s1, sameGroups_of_partitions (fun _ => h.mem_iff) s1 s2,
    printedSorted_eq ptrans ptotal pantisymm gtrans gtotal gantisymm (fun _ => h.mem_iff) s1 s2⟩

/-- instance for paths as `pathlib` orders them (component lists compared as Python lists): the printed
Duplicates report is one and the same list for every enumeration, pop and hash order -/
theorem dups_printed_paths {C H H' : Type} [DecidableEq C] [DecidableEq H] [DecidableEq H']
    (content : PathParts → C) (hash : C → H) (hash' : C → H')
    (pick pick' : List PathParts → List PathParts)
    (hpick : ∀ l, (pick l).Perm l) (hpick' : ∀ l, (pick' l).Perm l)
    {files files' : List PathParts} (hnd : files.Nodup) (h : files.Perm files') :
    printedDuplicates pathLe pathGroupLe (findDuplicates pick content hash files) =
      printedDuplicates pathLe pathGroupLe (findDuplicates pick' content hash' files') :=
  (dups_perm content hash hash' pick pick' hpick hpick' hnd h pathLe pathGroupLe
    pathLe_trans pathLe_total pathLe_antisymm pathGroupLe_trans pathGroupLe_total pathGroupLe_antisymm).2.2

example : (List.reverse [1, 2, 3]).Perm [1, 2, 3] := List.reverse_perm _
example : findDuplicates (P := Nat) List.reverse (fun p => p % 3) (fun c => c % 2) [0, 1, 2, 3, 4, 6]
    = [[6, 3, 0], [4, 1]] := by decide +kernel

/-! ## coverage export -/

/-- `coverage.json` is the same list of records for every enumeration order of the files
(file names are distinct) -/
theorem coverage_perm {P : Type} (recordOf : P → CovRecord) {files files' : List P}
    (hnd : (files.map fun f => (recordOf f).file).Nodup) (h : files.Perm files') :
    covExport recordOf files = covExport recordOf files' :=
  mergeSort_key_eq_of_perm CovRecord.file (by rw [List.map_map]; exact hnd) (h.map _)

example : (List.map (fun f => (CovRecord.mk f "" [] []).file) ["b.c", "a.c"]).Nodup := by decide +kernel

/-! ## file tree: figures of a directory node -/

/-- the setmap of a tree node (hence its SLOC and coverage columns, by `metrics_perm_anyfloat` /
`average_coverage_perm_anyfloat`) does not depend on the enumeration order of the files; the order of
sibling rows is not a listed result and is left free -/
theorem tree_node_perm {P : Type} (under : P → Bool) (contribOf : P → List (PSet × Nat))
    {files files' : List P} (h : files.Perm files') :
    (nodeSetmap under contribOf files).Perm (nodeSetmap under contribOf files') :=
  (setmap_perm ((((h.filter under).flatMap_right contribOf)).map norm)).1

/-! ## defines contributed by compiler modes -/

/-- The code as it is (`list(dict.fromkeys(args.modes))`) involves no set: the defines are a function of
the command line alone.  It agrees with what the former set-iterating code computed under ANY
iteration order `setOrder` of the set of active modes, whenever that former result was well defined
(no two active modes give one macro different bodies). -/
theorem mode_defines_conservative (cmdline : List Def) (table : String → List Def)
    (flags setOrder : List String) (hnd : setOrder.Nodup) (hm : ∀ m, m ∈ setOrder ↔ m ∈ flags)
    (hc : Consistent ((firstOcc flags).flatMap table)) (name : String) :
    definedAs (modeDefines cmdline table flags) name =
      definedAs (modeDefinesSetOrder cmdline (setOrder.map table)) name := by
  unfold modeDefines modeDefinesSetOrder
  have hp : (firstOcc flags).Perm setOrder :=
    (List.perm_ext_iff_of_nodup (nodup_firstOcc flags) hnd).mpr fun x => by rw [mem_firstOcc, hm]
  have hf : ((firstOcc flags).flatMap table).Perm (setOrder.map table).flatten := by
    rw [← List.flatMap_def]; exact hp.flatMap_right table
  rw [definedAs_append, definedAs_append, definedAs_perm hc hf name]

/-- repeating a mode flag or interleaving other flags does not matter beyond the order of first
activation: the mode list is duplicate free and has exactly the activated modes -/
theorem mode_list_spec (flags : List String) :
    (firstOcc flags).Nodup ∧ ∀ m, m ∈ firstOcc flags ↔ m ∈ flags :=
  ⟨nodup_firstOcc flags, fun _ => mem_firstOcc⟩

/-- the hypothesis of `mode_defines_conservative` as the driver computes it -/
theorem mode_defines_classifier (ds : List Def) : consistentB ds = true ↔ Consistent ds := by
  unfold consistentB Consistent
  simp only [List.all_eq_true, Bool.or_eq_true, bne_iff_ne, ne_eq, beq_iff_eq, imp_iff_not_or]

example : Consistent (List.flatten [[("_OPENMP", "1")], [("SYCL_LANGUAGE_VERSION", "1")]]) :=
  (mode_defines_classifier _).mp (by decide +kernel)
example : firstOcc ["openmp", "sycl", "openmp"] = ["openmp", "sycl"] := by decide +kernel

/-! ## the former definitions were order dependent (repaired findings, for the record) -/

/-- "addition" that keeps its left operand unless that is the start value: no law holds -/
def witnessOps : FloatOps Nat :=
  { ofNat := id, add := fun a b => if a = 0 then b else a, div := fun a _ => a,
    mul := fun a _ => a, zero := 0, hundred := 100, nan := 0 }

/-- D36, before 5d7f56c: `average_coverage` summed in set-iteration order — two listings of the same
platform set give different values for law-free addition -/
theorem avg_unsorted_order_witness :
    averageCoverageUnsorted witnessOps [(["A"], 1), (["B"], 2)] ["A", "B"] ≠
    averageCoverageUnsorted witnessOps [(["A"], 1), (["B"], 2)] ["B", "A"] := by decide +kernel

/-- … whereas the current definition gives the same value for the same two listings -/
example : averageCoverage witnessOps [(["A"], 1), (["B"], 2)] ["A", "B"] =
    averageCoverage witnessOps [(["A"], 1), (["B"], 2)] ["B", "A"] := by decide +kernel

/-- D34, before 9c35d6c: two modes defining `X` differently — the value depended on the set order -/
theorem mode_defines_setorder_witness :
    definedAs (modeDefinesSetOrder [] [[("X", "1")], [("X", "2")]]) "X" ≠
    definedAs (modeDefinesSetOrder [] [[("X", "2")], [("X", "1")]]) "X" := by decide +kernel

/-- D28, before 6255f9a: a group was printed in the iteration order of a `set` … -/
theorem dups_unsorted_print_witness :
    printedDuplicatesUnsorted (P := Nat) id [[1, 2]] ≠ printedDuplicatesUnsorted List.reverse [[1, 2]] := by
  decide +kernel

/-- … and the groups in first-occurrence (enumeration) order of their digests -/
theorem dups_unsorted_group_order_witness :
    findDuplicates (P := Nat) id (fun p => p % 2) id [0, 1, 2, 3] ≠
    findDuplicates (P := Nat) id (fun p => p % 2) id [1, 0, 2, 3] := by decide +kernel

/-- D29, before 2ec5e5c: `coverage.json` listed its records in enumeration order -/
theorem coverage_unsorted_order_witness :
    covExportUnsorted (fun f : String => ⟨f, "", [], []⟩) ["a.c", "b.c"] ≠
    covExportUnsorted (fun f : String => ⟨f, "", [], []⟩) ["b.c", "a.c"] := by decide +kernel

/-- D26, before a8dca66: with the key `len(s)` two insertion orders printed different tables -/
theorem summary_lenonly_witness :
    summaryRowsWith entryLeLenOnly witnessOps [(["A"], 1), (["B"], 2)] ≠
    summaryRowsWith entryLeLenOnly witnessOps [(["B"], 2), (["A"], 1)] := by
  have h1 : ([(["A"], 1), (["B"], 2)] : Setmap).mergeSort entryLeLenOnly = [(["A"], 1), (["B"], 2)] :=
    List.mergeSort_of_pairwise (by decide +kernel)
  have h2 : ([(["B"], 2), (["A"], 1)] : Setmap).mergeSort entryLeLenOnly = [(["B"], 2), (["A"], 1)] :=
    List.mergeSort_of_pairwise (by decide +kernel)
  unfold summaryRowsWith
  rw [h1, h2]
  decide +kernel

/-- D27, before a8ef00c: one float addition per setmap entry is order dependent for law-free `add` -/
theorem distance_pinned_witness :
    distancePinned witnessOps [(["A"], 1), (["B"], 2)] "A" "B" ≠
    distancePinned witnessOps [(["B"], 2), (["A"], 1)] "A" "B" := by decide +kernel

end CbiVerif.C14
