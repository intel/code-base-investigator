import CbiVerif.Lemmas.Dups
/-! # C16 — the duplicates report lists exactly the sets of byte-identical files

All theorems are about `CbiVerif.Dups.findDuplicates hash choose files`, the definition the native
driver executes (op `dups`), for EVERY hash function of the content (also a constant one), EVERY
`set.pop()` strategy `choose` and every enumeration `files`.  `filecmp.cmp(shallow=False)` is content
equality; `Functional files` (a path denotes one file) is the only hypothesis, needed where the
statement speaks about a file by its path.
-/
namespace CbiVerif.C16
open CbiVerif.Dups

set_option linter.unusedSectionVars false
variable {C H H' : Type} [DecidableEq C] [DecidableEq H] [DecidableEq H']

/-- only regular code-base files are listed -/
theorem listed_regular (hash : C → H) (choose : List (File C) → Nat) (files : List (File C)) :
    ∀ g ∈ findDuplicates hash choose files, ∀ a ∈ g, a ∈ files ∧ Regular a :=
  fun _ hg _ ha => mem_candidates ((candidates_partition hash choose files).sub hg ha)

/-- symbolic links are never listed -/
theorem symlinks_never_listed (hash : C → H) (choose : List (File C) → Nat) (files : List (File C)) :
    ∀ g ∈ findDuplicates hash choose files, ∀ a ∈ g, a.isSymlink = false :=
  fun g hg a ha => (listed_regular hash choose files g hg a ha).2.2

/-- files outside the code base (excluded, unrecognised extension, outside the root) are never listed -/
theorem nonmembers_never_listed (hash : C → H) (choose : List (File C) → Nat) (files : List (File C)) :
    ∀ g ∈ findDuplicates hash choose files, ∀ a ∈ g, a.isMember = true :=
  fun g hg a ha => (listed_regular hash choose files g hg a ha).2.1

/-- every group has at least two files -/
theorem two_or_more (hash : C → H) (choose : List (File C) → Nat) (files : List (File C)) :
    ∀ g ∈ findDuplicates hash choose files, 2 ≤ g.length :=
  (candidates_partition hash choose files).two

/-- no path occurs twice in the whole report (so groups are sets, and pairwise disjoint) -/
theorem no_repeat (hash : C → H) (choose : List (File C) → Nat) (files : List (File C)) :
    ((findDuplicates hash choose files).flatten.map File.path).Nodup :=
  no_repeat_of_partition (candidates_partition hash choose files)

/-- the at least two files of a group have pairwise different paths -/
theorem group_paths_distinct (hash : C → H) (choose : List (File C) → Nat) (files : List (File C)) :
    ∀ g ∈ findDuplicates hash choose files, (g.map File.path).Nodup :=
  fun _ hg => List.pairwise_map.mpr (group_paths_of_no_repeat (no_repeat hash choose files) hg)

/-- groups are pairwise disjoint -/
theorem groups_pairwise_disjoint (hash : C → H) (choose : List (File C) → Nat) (files : List (File C)) :
    (findDuplicates hash choose files).Pairwise (fun g₁ g₂ => ∀ a ∈ g₁, ∀ b ∈ g₂, a.path ≠ b.path) :=
  groups_disjoint_of_no_repeat (no_repeat hash choose files)

/-- files within a group have identical content -/
theorem within_identical (hash : C → H) (choose : List (File C) → Nat) (files : List (File C)) :
    ∀ g ∈ findDuplicates hash choose files, ∀ a ∈ g, ∀ b ∈ g, a.content = b.content :=
  fun _ hg a ha _ hb => (((candidates_partition hash choose files).mem_iff hg hb a).mp ha).2

/-- files in different groups differ -/
theorem across_differ (hash : C → H) (choose : List (File C) → Nat) (files : List (File C)) :
    (findDuplicates hash choose files).Pairwise
      (fun g₁ g₂ => ∀ a ∈ g₁, ∀ b ∈ g₂, a.content ≠ b.content) := by
  have p := candidates_partition hash choose files
  -- a file of `g₁` with the content of `g₂` would belong to the class `g₂` as well
  exact p.disjoint.imp_of_mem fun {g₁ g₂} hg₁ hg₂ hd a ha b hb hab =>
    hd a ha ((p.mem_iff hg₂ hb a).mpr ⟨p.sub hg₁ ha, hab⟩)

/-- two distinct regular code-base files with equal content are in a common group -/
theorem twins_listed (hash : C → H) (choose : List (File C) → Nat) (files : List (File C))
    (hf : Functional files) :
    ∀ a ∈ files, Regular a → ∀ b, Twin files a b →
      ∃ g ∈ findDuplicates hash choose files, a ∈ g ∧ b ∈ g := by
  intro a ha hra b ⟨hb, hrb, hne, hc⟩
  have p := candidates_partition hash choose files
  have hcb := mem_candidates_of_functional hf hb hrb
  obtain ⟨g, hg, hag⟩ := p.complete a (mem_candidates_of_functional hf ha hra) b hcb (fun h => hne (h ▸ rfl)) hc.symm
  exact ⟨g, hg, hag, (p.mem_iff hg hag b).mpr ⟨hcb, hc⟩⟩

/-- a listed file has a twin: its group has a second member, under another path -/
theorem exists_twin (hash : C → H) (choose : List (File C) → Nat) (files : List (File C)) {g : List (File C)}
    (hg : g ∈ findDuplicates hash choose files) {a : File C} (ha : a ∈ g) : ∃ b, Twin files a b := by
  obtain ⟨b, hb, hne⟩ := Order.exists_key_ne (key := File.path) (two_or_more hash choose files g hg)
    (group_paths_of_no_repeat (no_repeat hash choose files) hg) a
  have hbr := listed_regular hash choose files g hg b hb
  exact ⟨b, hbr.1, hbr.2, hne, within_identical hash choose files g hg b hb a ha⟩

/-- no file with unique content is listed -/
theorem unique_not_listed (hash : C → H) (choose : List (File C) → Nat) (files : List (File C)) :
    ∀ a, (∀ b, ¬ Twin files a b) → ∀ g ∈ findDuplicates hash choose files, a ∉ g :=
  fun _ hu _ hg ha => (exists_twin hash choose files hg ha).elim hu

/-- **C16.main**: for every hash, every pop strategy and every enumeration the result is an exact
    duplicates report -/
theorem main (hash : C → H) (choose : List (File C) → Nat) (files : List (File C))
    (hf : Functional files) : ExactReport files (findDuplicates hash choose files) where
  listed_regular := listed_regular hash choose files
  two_or_more := two_or_more hash choose files
  no_repeat := no_repeat hash choose files
  within_identical := within_identical hash choose files
  across_differ := across_differ hash choose files
  twins_listed := twins_listed hash choose files hf
  unique_not_listed := unique_not_listed hash choose files

/-- every group of an exact report is a complete class: it contains every regular member with that content -/
theorem full_class {files : List (File C)} {R : List (List (File C))} (hf : Functional files)
    (hR : ExactReport files R) :
    ∀ g ∈ R, ∀ a ∈ g, ∀ x ∈ files, (x ∈ g ↔ Regular x ∧ x.content = a.content) := by
  intro g hg a ha x hx
  rw [(hR.partition hf).mem_iff hg ha x, List.mem_filter, eligible_iff_regular]
  exact and_congr_left fun _ => and_iff_right hx

/-- the groups of the computed report are complete classes -/
theorem group_is_full_class (hash : C → H) (choose : List (File C) → Nat) (files : List (File C))
    (hf : Functional files) :
    ∀ g ∈ findDuplicates hash choose files, ∀ a ∈ g, ∀ x ∈ files,
      (x ∈ g ↔ Regular x ∧ x.content = a.content) :=
  full_class hf (main hash choose files hf)

/-- a file is listed iff it is a regular member having an identical twin -/
theorem listed_iff (hash : C → H) (choose : List (File C) → Nat) (files : List (File C))
    (hf : Functional files) (a : File C) (ha : a ∈ files) :
    (∃ g ∈ findDuplicates hash choose files, a ∈ g) ↔ (Regular a ∧ ∃ b, Twin files a b) := by
  constructor
  · intro ⟨g, hg, hag⟩
    exact ⟨(listed_regular hash choose files g hg a hag).2, exists_twin hash choose files hg hag⟩
  · intro ⟨hr, b, hb⟩
    obtain ⟨g, hg, hag, _⟩ := twins_listed hash choose files hf a ha hr b hb
    exact ⟨g, hg, hag⟩

/-- `Functional` speaks of the set of enumerated files -/
theorem functional_congr {files files' : List (File C)} (hmem : ∀ x, x ∈ files ↔ x ∈ files') (hf : Functional files) :
    Functional files' :=
  fun a ha b hb h => hf a ((hmem a).mpr ha) b ((hmem b).mpr hb) h

theorem exact_report_unique_half {files files' : List (File C)} {R R' : List (List (File C))}
    (hf : Functional files) (hf' : Functional files') (hmem : ∀ x, x ∈ files ↔ x ∈ files')
    (hR : ExactReport files R) (hR' : ExactReport files' R') :
    ∀ g ∈ R, ∃ g' ∈ R', g.Perm g' := by
  intro g hg
  have p := hR.partition hf
  have p' : Order.IsClassPartition File.content (files.filter (·.eligible)) R' :=
    (hR'.partition hf').congr fun x => by rw [List.mem_filter, List.mem_filter, hmem x]
  exact (p.exists_same p' hg).imp fun g' hg' =>
    ⟨hg'.1, (List.perm_ext_iff_of_nodup (p.nodup g hg) (p'.nodup g' hg'.1)).mpr hg'.2⟩

/-- an exact report is unique as a set of sets: it depends only on the set of enumerated files -/
theorem exact_report_unique {files files' : List (File C)} {R R' : List (List (File C))}
    (hf : Functional files) (hmem : ∀ x, x ∈ files ↔ x ∈ files')
    (hR : ExactReport files R) (hR' : ExactReport files' R') : SameSetOfSets R R' := by
  have hf' := functional_congr hmem hf
  exact ⟨exact_report_unique_half hf hf' hmem hR hR',
    exact_report_unique_half hf' hf (fun x => (hmem x).symm) hR' hR⟩

/-- the result, as a set of sets, does not depend on the enumeration order, on the hash function
    (of whatever type, even a constant), or on the order in which `set.pop()` hands out files -/
theorem independent_of_order_hash_choose (hash : C → H) (hash' : C → H')
    (choose choose' : List (File C) → Nat) (files files' : List (File C))
    (hperm : files.Perm files') (hf : Functional files) :
    SameSetOfSets (findDuplicates hash choose files) (findDuplicates hash' choose' files') := by
  have hmem : ∀ x, x ∈ files ↔ x ∈ files' := fun x => hperm.mem_iff
  exact exact_report_unique hf hmem (main hash choose files hf) (main hash' choose' files' (functional_congr hmem hf))

/-- in particular a constant hash (every file in one bucket) gives the same report as an injective one:
    the result never relies on the hash -/
theorem hash_irrelevant (hash : C → H) (choose : List (File C) → Nat) (files : List (File C))
    (hf : Functional files) :
    SameSetOfSets (findDuplicates hash choose files) (findDuplicates (fun _ => ()) choose files) :=
  independent_of_order_hash_choose hash (fun _ => ()) choose choose files files (List.Perm.refl _) hf

/-- the confirmation loop terminates by itself: the iteration bound used by the executable model (the
    bucket size) is not a restriction, any larger bound gives the same groups -/
theorem loop_fuel_irrelevant {F : Type} (content : F → C) (choose : List F → Nat) (n : Nat) (l : List F)
    (h : l.length ≤ n) : confirm content choose n l = confirm content choose l.length l :=
  confirm_fuel content choose n l.length l h (Nat.le_refl _)

/-! ## Non-vacuity: a concrete enumeration satisfying `Functional`, with classes of size 3, 2 and 1,
    a symlinked twin, an excluded twin and a path enumerated twice -/

def exFiles : List (File Nat) :=
  [⟨"r/a.c", false, true, 1⟩, ⟨"r/l.c", true, true, 1⟩, ⟨"r/b.c", false, true, 2⟩,
   ⟨"r/s/a.c", false, true, 1⟩, ⟨"r/x.c", false, false, 1⟩, ⟨"r/u.c", false, true, 3⟩,
   ⟨"r/s/b.h", false, true, 2⟩, ⟨"r/a.c", false, true, 1⟩, ⟨"r/e.c", false, true, 1⟩]

theorem exFiles_functional : Functional exFiles := by unfold Functional; decide +kernel

example : Functional exFiles := exFiles_functional

example : (findDuplicates (fun _ : Nat => 0) (fun _ => 0) exFiles).map (·.map File.path)
    = [["r/a.c", "r/s/a.c", "r/e.c"], ["r/b.c", "r/s/b.h"]] := by decide +kernel

example : (findDuplicates (fun c : Nat => c % 2) (fun l => l.length - 1) exFiles.reverse).map (·.map File.path)
    = [["r/s/a.c", "r/e.c", "r/a.c"], ["r/b.c", "r/s/b.h"]] := by decide +kernel

example : ExactReport exFiles (findDuplicates (fun c : Nat => c) (fun l => l.length / 2) exFiles) :=
  main _ _ _ exFiles_functional

example : Twin exFiles ⟨"r/a.c", false, true, 1⟩ ⟨"r/e.c", false, true, 1⟩ := by
  refine ⟨by decide +kernel, ⟨rfl, rfl⟩, by decide +kernel, rfl⟩

-- hypotheses of `exact_report_unique` / `listed_iff` / `unique_not_listed` on the concrete enumeration
example : ∀ x, x ∈ exFiles ↔ x ∈ exFiles.reverse := fun _ => List.mem_reverse.symm

example : (⟨"r/s/b.h", false, true, 2⟩ : File Nat) ∈ exFiles := by decide +kernel

/-- `r/u.c` has unique content among the regular members (its only content-3 file) -/
example : ∀ b, ¬ Twin exFiles ⟨"r/u.c", false, true, 3⟩ b := by
  intro b ⟨hb, _, hne, hc⟩
  simp only [exFiles, List.mem_cons, List.not_mem_nil, or_false] at hb
  rcases hb with h | h | h | h | h | h | h | h | h <;> subst h <;> simp at hne hc

example : exFiles.Perm exFiles.reverse := (List.reverse_perm _).symm

example : SameSetOfSets (findDuplicates (fun c : Nat => c) (fun _ => 0) exFiles)
    (findDuplicates (fun _ : Nat => ()) (fun l => l.length - 1) exFiles.reverse) :=
  independent_of_order_hash_choose _ _ _ _ _ _ (List.reverse_perm _).symm exFiles_functional

example : ([1, 2, 3] : List Nat).length ≤ 7 := by decide  -- hypothesis of `loop_fuel_irrelevant`

/-- `Functional` cannot be dropped from `twins_listed`: if one path is enumerated with two different
    contents (the file changed during the walk) only its first record reaches the hash table -/
example : findDuplicates (fun c : Nat => c) (fun _ => 0)
    [⟨"p", false, true, 1⟩, ⟨"p", false, true, 2⟩, ⟨"q", false, true, 2⟩] = [] := by decide +kernel

end CbiVerif.C16
