import CbiVerif.Lemmas.FindEngines
import CbiVerif.Lemmas.FindChars
import CbiVerif.Lemmas.FindCache
import CbiVerif.Lemmas.FindCacheMono

/-!
# C08 / C10 — the multi-file engines are one engine

`FindInst.findI` (fields `model` / `spec` / `pp` of op `c08find`) is an INSTANCE of the total fuelled engine of
`Model/Exclude.lean` (op `c10find`, field `cached` of op `c08find`): its record `FindInst.semPP fs` is `Exclude.sem fs` with
every file sent through the C front end.  The other executable multi-file engine is `Inc.find` (`Model/FindInc.lean`, op
`findinc`, C04/C18).

What is proved here (`Lemmas/FindEngines.lean`; the induction on the engine's fuel is `Exclude.Lift.tree`,
`Lemmas/Engine.lean`):

* `findI_is_engine` — `findIN n fs` IS `FindCache.findRefG (semPP fs) n`: the up-front parse of the engine followed by the
  generic fold over the engine's cache-free single-command analysis.  Every fuel, file system, code base, configuration.
* `findI_eq_cached` — … and equals the run WITH the shared parse cache (`findC (semPP fs)`, what field `pp` executes) with no
  side condition at all: under `semPP` there is one language class, so the cache is literally transparent.
* `ref_engine_congr` — congruence of the engine in its semantics record (any two records, any fuel).
* `findI_eq_engine_partial`, `findI_eq_cached_engine_partial` — on C-family inputs (`ClassOK`, decidable) `findIN n fs` equals
  the engine under the record ops `c10find` / `c08find.cached` run (`Exclude.sem fs`), cache-free and — when the run logs no
  language-mixing event — with the shared cache.  The unguarded statement `FindIEqEngine` is false
  (`not_findIEqEngine`): `findI` is the C-family instance and nothing else.
* `C10.entry_engine_is_c08_model_partial` — the same per database entry, from any association state: the engine the C10
  theorems are about, run on one command, is the single-command analysis the C08 composition theorems fold.
* `paths_agree` — the path layer of `Model/FindInc.lean` (`normpathK`, `joinPathK`, `dirnameK`) is the path layer of this
  engine (`PP.normpath`, `joinPath`, `dirname`), as functions.

The agreement of this engine with `Inc.find` itself — another visitor: `Cond.visitList` over `Cond.Tree`, fuel counting
include depth only, attribution recorded per file after the walk — is `C04.engines_agree_partial` (`Props/C04Engines.lean`).
-/
namespace CbiVerif.C08
open CbiVerif.FindFold CbiVerif.PP CbiVerif.FindInst CbiVerif.Exclude
open CbiVerif.FindCache (findC findRefG analyse NoMix semC)
open CbiVerif.FindEngines (Congr EnterAgree ForcedAgree MemoOK)

/-- **`findI` is the engine.**  For every fuel, file system, code base and configuration, the C-family model of `finder.find`
is the up-front parse of the engine of `Model/Exclude.lean` followed by `findG` over that engine's cache-free analysis of one
database entry (`Exclude.runEntryRef`), under the semantics record `semPP fs` — same attribution pairs in the same order,
same warnings, same exception. -/
theorem findI_is_engine (n : Nat) (fs : FSMap) (cb : List String) (cfg : Config PP.Entry) :
    findIN n fs cb cfg = findRefG (semPP fs) n cb cfg :=
  FindEngines.findIN_eq_findRefG n fs cb cfg

/-- what the driver executes (`findI`, no fuel argument) is `findIN` with the driver's default fuel -/
theorem findI_default_fuel (fs : FSMap) (cb : List String) (cfg : Config PP.Entry) :
    findI fs cb cfg = findIN defaultFuel fs cb cfg := rfl

/-- **the parse cache is transparent for the C-family instance, unconditionally.**  The state-threading run (one parse cache
shared by all commands and platforms: `findPP n fs` = `FindCache.findC (semPP fs) n`, field `pp` of op `c08find`) returns
exactly what `findIN n fs` returns.  No `NoMix` hypothesis: under `semPP` every file
has the one class C (`FindCache.OneClass`). -/
theorem findI_eq_cached (n : Nat) (fs : FSMap) (cb : List String) (cfg : Config PP.Entry) :
    findIN n fs cb cfg = findPP n fs cb cfg := by
  rw [findI_is_engine]
  exact (FindCache.findC_eq_findRefG_oneclass (semPP fs) .c (FindEngines.oneClass_semPP fs) n cb cfg).symm

/-- **congruence of the engine in its semantics record** (every fuel, every entry, every starting state).  Two records with
the same node step, `-include` search and `Platform` construction, which (a) parse alike, under class `cl0`, every file
entered from an includer of class `cl0`, (b) parse alike the compiled file and (c) every file an `-include` resolves to,
run the database entry alike.  `P` is any invariant of the `Platform` object kept by the step and the searches. -/
theorem ref_engine_congr {S1 S2 : Sem} {cl0 : LClass} {P : Platform → Prop} (h : Congr S1 S2 cl0 P) (n : Nat)
    (pname : String) (e : PP.Entry) (l : Local)
    (hforced : ForcedAgree S1 S2 cl0 P e.includeFiles) (hfile : EnterAgree S1 S2 cl0 e.file none) :
    runEntryRef S1 n pname e l = runEntryRef S2 n pname e l :=
  FindEngines.congr_entry h n pname e l hforced hfile

/-- FULL STATEMENT (false, see `not_findIEqEngine`): the C-family model equals the engine under the record the other ops run,
on every input. -/
def FindIEqEngine : Prop :=
  ∀ (n : Nat) (fs : FSMap) (cb : List String) (cfg : Config PP.Entry), findIN n fs cb cfg = findRefG (sem fs) n cb cfg

/-- **engine agreement (proved part).**  On a C-family input — `ClassOK fs cb cfg`, decidable: no existing file is Fortran or
assembler by extension, the code-base files and the compiled files are C-family by extension, and either no command has
`-include` files or every existing file is C-family by extension — the C-family model equals the engine under `Exclude.sem fs`
(class by extension, else the includer's), for every fuel: same pairs, warnings, exception.  Fuel exhaustion needs no side
condition: both sides are the same fuelled recursion and fail at the same node. -/
theorem findI_eq_engine_partial (n : Nat) (fs : FSMap) (cb : List String) (cfg : Config PP.Entry)
    (hok : ClassOK fs cb cfg = true) : findIN n fs cb cfg = findRefG (sem fs) n cb cfg :=
  FindEngines.findIN_eq_findRefG_sem n fs cb cfg hok

/-- … and, when the run logs no language-mixing event, the run with the shared parse cache that field `cached` of op
`c08find` executes (`FindCache.findC (semC fs)`; `semC fs = Exclude.sem fs`, the record op `c10find` runs). -/
theorem findI_eq_cached_engine_partial (n : Nat) (fs : FSMap) (cb : List String) (cfg : Config PP.Entry)
    (hok : ClassOK fs cb cfg = true) (hmix : NoMix (semC fs) n cb cfg) :
    findIN n fs cb cfg = findC (semC fs) n cb cfg := by
  rw [FindCache.findC_eq_findRefG (semC fs) n cb cfg hmix]
  exact findI_eq_engine_partial n fs cb cfg hok

/-- one database entry: the single-command analysis of the C-family model is the engine's under `Exclude.sem fs` -/
theorem analyseEntry_eq_engine_partial (n : Nat) (fs : FSMap) (e : PP.Entry) (hfam : CFam fs = true)
    (hfile : extClass e.file = some .c) (hforced : e.includeFiles = [] ∨ AllC fs = true) :
    analyseEntryN n fs e = analyse (sem fs) n e :=
  FindEngines.analyse_semPP_eq_sem fs n e hfam hfile hforced

/-- the path layer of `Model/FindInc.lean` (the engine of C04/C18) is the path layer of this engine -/
theorem paths_agree : (∀ p, Inc.normpathK p = normpath p) ∧ (∀ a b, Inc.joinPathK a b = joinPath a b) ∧
    (∀ p, Inc.dirnameK p = dirname p) :=
  ⟨FindEngines.normpathK_eq, FindEngines.joinPathK_eq, FindEngines.dirnameK_eq⟩

/-! ### non-vacuity and the witness that the guard is needed

The demo code base (also used by the non-vacuity examples of `Props/C08.lean`, Part 2): `h.h` is protected by
`#pragma once`, defines `H`, and shows different lines depending on `A`; it is re-processed for every command. -/

def demoFs : FSMap := [
  ("/r/inc/h.h", "#pragma once\n#ifdef A\nint a;\n#else\nint b;\n#endif\n#define H 1\n"),
  ("/r/a.c", "#include \"inc/h.h\"\n#ifdef H\nint x;\n#endif\n"),
  ("/r/b.c", "#include <h.h>\n#if defined(H) && A > 1\nint y;\n#endif\n")]
def demoCb : List String := ["/r/a.c", "/r/b.c", "/r/inc/h.h"]
def demoA : PP.Entry := { file := "/r/a.c", defines := ["A"], includePaths := [], includeFiles := [] }
def demoB : PP.Entry := { file := "/r/b.c", defines := ["A=2"], includePaths := ["/r/inc"], includeFiles := [] }
def demoG : PP.Entry := { file := "/r/a.c", defines := [], includePaths := [], includeFiles := [] }
def demoCfg : Config PP.Entry := [("cpu", [demoA, demoB]), ("gpu", [demoG])]

def okWith (r : Except PP.Err (Acc NodeKey PP.Warn)) (n : Nat) (has : List (NodeKey × String))
    (hasNot : List (NodeKey × String)) : Bool :=
  match r with
  | .ok a => a.pairs.length == n && has.all (fun kp => a.pairs.contains kp) &&
      hasNot.all (fun kp => !a.pairs.contains kp)
  | .error _ => false

def npairs (r : Except PP.Err (Acc FindCache.NodeKey PP.Warn)) : Nat :=
  match r with | .ok a => a.pairs.length | .error _ => 0

/-- The up-front parse, the three single-command analyses and the run of the engine with the shared cache on the demo code
base, evaluated by the kernel in ONE declaration: within a declaration the kernel reduces equal closed terms once, so each
file is parsed once.  The non-vacuity examples below and in `Props/C08.lean` (Part 2)
are read off these values. -/
theorem demo_eval :
    prepare demoFs demoCb = .ok () ∧
    analyseEntry demoFs demoA = .ok { keys := [("/r/a.c", 0), ("/r/inc/h.h", 0), ("/r/inc/h.h", 1), ("/r/inc/h.h", 2),
      ("/r/inc/h.h", 3), ("/r/inc/h.h", 5), ("/r/inc/h.h", 6), ("/r/a.c", 1), ("/r/a.c", 2), ("/r/a.c", 3)] } ∧
    analyseEntry demoFs demoB = .ok { keys := [("/r/b.c", 0), ("/r/inc/h.h", 0), ("/r/inc/h.h", 1), ("/r/inc/h.h", 2),
      ("/r/inc/h.h", 3), ("/r/inc/h.h", 5), ("/r/inc/h.h", 6), ("/r/b.c", 1), ("/r/b.c", 2), ("/r/b.c", 3)] } ∧
    analyseEntry demoFs demoG = .ok { keys := [("/r/a.c", 0), ("/r/inc/h.h", 0), ("/r/inc/h.h", 1), ("/r/inc/h.h", 3),
      ("/r/inc/h.h", 4), ("/r/inc/h.h", 5), ("/r/inc/h.h", 6), ("/r/a.c", 1), ("/r/a.c", 2), ("/r/a.c", 3)] } ∧
    (ClassOK demoFs demoCb demoCfg = true ∧ NoMix (semC demoFs) defaultFuel demoCb demoCfg) ∧
    okWith (findC (semC demoFs) defaultFuel demoCb demoCfg) 30
      [(("/r/inc/h.h", 2), "cpu"), (("/r/inc/h.h", 4), "gpu"), (("/r/b.c", 2), "cpu")]
      [(("/r/inc/h.h", 4), "cpu"), (("/r/inc/h.h", 2), "gpu")] = true := by
  -- the two functions that read `demoFs` are named and handed the characters of the texts (`Lemmas/FindChars.lean`)
  rw [analyseEntry, analyseEntry, analyseEntry, analyseEntryN, analyseEntryN, analyseEntryN, semPP, semC, sem, prepare_eq]
  generalize hP : parseAsFS demoFs = P
  generalize hQ : parseOne demoFs = Q
  rw [demoFs] at hP hQ
  repeat rw [parseAsFS_cons] at hP
  repeat rw [parseOne_cons] at hQ
  subst hP hQ
  decide +kernel

/-- the side conditions hold on the demo code base of Part 2 (three files, two platforms, three commands, a header reached
by a quote and by an angle include), kernel-checked with the driver's fuel … -/
example : ClassOK demoFs demoCb demoCfg = true ∧ NoMix (semC demoFs) defaultFuel demoCb demoCfg := demo_eval.2.2.2.2.1

/-- … the cached engine's run there is the expected one (so `findI_eq_cached_engine_partial` equates two successful,
non-trivial runs) … -/
example : okWith (findC (semC demoFs) defaultFuel demoCb demoCfg) 30
    [(("/r/inc/h.h", 2), "cpu"), (("/r/inc/h.h", 4), "gpu"), (("/r/b.c", 2), "cpu")]
    [(("/r/inc/h.h", 4), "cpu"), (("/r/inc/h.h", 2), "gpu")] = true := demo_eval.2.2.2.2.2

/-- a code base with an `-include` file: `pre.h` (forced) defines `A`, `a.c` shows a line under `A`; the header `x.def` has
no extension class and inherits C from its includer -/
def forcedFs : FSMap := [
  ("/r/pre.h", "#pragma once\n#define A 1\n"),
  ("/r/a.c", "#include \"x.def\"\n#if A\nint a;\n#endif\n"),
  ("/r/x.def", "int x;\n")]
def forcedE : PP.Entry := { file := "/r/a.c", defines := [], includePaths := [], includeFiles := ["pre.h", "pre.h"] }
def plainE : PP.Entry := { file := "/r/a.c", defines := [], includePaths := [], includeFiles := [] }

/-- … `ClassOK` fails with the `-include` (an existing file has no class by extension) and holds without it; the per-entry
hypotheses of `analyseEntry_eq_engine_partial` hold for the plain command -/
example : ClassOK forcedFs ["/r/a.c"] [("p", [forcedE])] = false ∧ ClassOK forcedFs ["/r/a.c"] [("p", [plainE])] = true ∧
    CFam forcedFs = true ∧ extClass plainE.file = some .c := by decide +kernel

/-- with every file C-family by extension the `-include` case is covered: the second `-include pre.h` is skipped
(`#pragma once`: 2 + 3 attributions, not 4 + 3), and `int a;` (node 1 of `a.c`) is attributed because `pre.h` defined `A` -/
def forcedFs2 : FSMap := [
  ("/r/pre.h", "#pragma once\n#define A 1\n"),
  ("/r/a.c", "#if A\nint a;\n#endif\n")]
example : ClassOK forcedFs2 ["/r/a.c"] [("p", [forcedE])] = true ∧
    okWith (findIN defaultFuel forcedFs2 ["/r/a.c"] [("p", [forcedE])]) 5 [(("/r/a.c", 1), "p"), (("/r/pre.h", 1), "p")] [] = true := by
  decide +kernel

/-- **the guard is needed**: a compiled file whose extension has no language.  The C-family model sends it through the C
front end and the run succeeds (one attribution); the engine under `Exclude.sem` raises "Could not determine language", as
the code does (no attribution). -/
def oddFs : FSMap := [("/r/a.xyz", "int x;\n")]
def oddCfg : Config PP.Entry := [("p", [{ file := "/r/a.xyz", defines := [], includePaths := [], includeFiles := [] }])]

theorem not_findIEqEngine : ¬ FindIEqEngine := by
  intro h
  have h1 := congrArg npairs (h 8 oddFs [] oddCfg)
  exact absurd h1 (by decide +kernel)

example : ClassOK oddFs [] oddCfg = false := by decide +kernel

end CbiVerif.C08

namespace CbiVerif.C10
open CbiVerif.PP CbiVerif.Exclude CbiVerif.FindInst

/-- **the C10 engine, run on one command, is the C08 model's single-command analysis** (proved part: C-family inputs).
From ANY association state `l` and under any platform name, the cache-free engine `Exclude.runEntryRef` — the reference of
`C10.find_eq_ref` — gives the same state under the record op `c10find` runs (`Exclude.sem fs`) and under the C-family
record `FindInst.semPP fs` that `FindInst.findI` (op `c08find`, fields `model` / `spec` / `pp`) is an instance of. -/
theorem entry_engine_is_c08_model_partial (fs : FSMap) (n : Nat) (pname : String) (e : Entry) (l : Local)
    (hfam : FindInst.CFam fs = true) (hfile : extClass e.file = some .c)
    (hforced : e.includeFiles = [] ∨ FindInst.AllC fs = true) :
    runEntryRef (sem fs) n pname e l = runEntryRef (semPP fs) n pname e l :=
  (FindEngines.runEntryRef_semPP_eq_sem fs n pname e l hfam hfile hforced).symm

/-- non-vacuity: the hypotheses hold for the command of `C08.plainE` (a header without extension class is included) -/
example : FindInst.CFam C08.forcedFs = true ∧ extClass C08.plainE.file = some .c ∧ C08.plainE.includeFiles = [] := by
  decide +kernel

end CbiVerif.C10
