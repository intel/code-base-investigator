import CbiVerif.Lemmas.CLexText
import CbiVerif.Lemmas.CLexPart
/-!
# C05 — a physical line is counted iff it holds code outside comments

The property theorems; their lemmas are in `CbiVerif/Lemmas/CLex*.lean`.

* Model (`CbiVerif.CClean`): `one_space_line`, `c_cleaner`, `c_file_source`, the `LineGroup`
  folding of `FileParser.parse_file` — the very definitions the driver executes.
* Specification (`CbiVerif.CLexRef`): splice → decomment → counted lines / logical lines.

All statements are for texts of **any** length and any number of lines.
-/
namespace CbiVerif.C05
open CbiVerif.CClean CbiVerif.CLexRef CbiVerif.CText CbiVerif.CLexSim

/-- **C05.step_table.**  The per-character obligation between `c_cleaner.process` (one character, put-back
    included) and the reference scanner — from related states the next states are related and what the
    cleaner appends to its buffer is what the reference lets survive (modulo one `/` held back inside a
    character constant) — holds in all 2 × 11 × 2 × 9 = 396 cases (kernel `decide`). -/
theorem step_table : (allB.all fun d => allW.all fun w => allB.all fun bl => allC.all fun c =>
    stepOK d w bl c) = true := stepOK_all

/-- **C05.newline_table.**  The same for `logical_newline` at an unspliced newline (22 cases). -/
theorem newline_table : (allB.all fun d => allW.all fun w => newlineOK d w) = true := newlineOK_all

/-- **C05.sim.**  One physical line of any length: from related states with no `/` owed at either end, the
    cleaner ends in the related state, its buffer for this physical line is the one-space normalisation
    of what the reference lets survive on the line, and it ends the logical line iff the reference does. -/
theorem sim (d : Bool) (w w' : DMode) (l : PLine) (es : List REmit) (ends : Bool)
    (h : refLine w (l.chars.map (·.1)) l.continued = some (w', es, ends))
    (hw : holdL w = []) (hw' : holdL w' = []) :
    ∃ d', (procLine (absStack d w) l).1 = absStack d' w' ∧
      (procLine (absStack d w) l).2.1.toC = ({} : CBuf).addAll es ∧ (procLine (absStack d w) l).2.2 = ends ∧
      (ends = true → d' = false) := line_sim d w w' l es ends h hw hw'

example : refLine .code ("a /* x".toList.map classify) false = some (.blockC, [.ns .other, .sp], false) := by decide +kernel

/-- **C05.main.**  For every well-formed text outside the recorded finding classes F-C05-1
    (`k1`) and F-C05-2 (`k2`), `c_file_source` terminates normally and the physical lines it counts
    are exactly the lines on which a non-white character survives splicing and comment removal. -/
theorem main (t : List Char) (hwf : CLexRef.wf t = true) (hk1 : CLexRef.k1 t = false) (hk2 : CLexRef.k2 t = false) :
    CClean.countedLines t = .ok (CLexRef.countedLines t) := by
  obtain ⟨out, hc, _, herr, h⟩ := source_ok t hwf hk1 hk2
  unfold CClean.countedLines
  rw [herr, hc]
  exact congrArg Except.ok h.counted

/-- **C05.directive_extent.**  For every well-formed text outside F-C05-1/2 the logical lines yielded by
    `c_file_source`, as `parse_file` classifies them (`FileParser.is_directive`), are exactly the specification's
    logical lines that hold code: same order, a line is a directive iff its first token is `#` (its first surviving
    non-white character is `#` and the next character is not another `#`: `##` is a different token), and its
    `lines` are exactly the counted physical lines among all the physical lines it spans (continuation lines
    included). -/
theorem directive_extent (t : List Char) (hwf : CLexRef.wf t = true) (hk1 : CLexRef.k1 t = false)
    (hk2 : CLexRef.k2 t = false) : CClean.logical t = .ok (CLexRef.logical t) := by
  obtain ⟨out, _, hl, herr, h⟩ := source_ok t hwf hk1 hk2
  unfold CClean.logical
  rw [herr, hl]
  exact congrArg Except.ok h.logical

/-- what the property says about the node list and the file total -/
def NodesEq : Prop :=
  ∀ t : List Char, CLexRef.wf t = true → CLexRef.k1 t = false → CLexRef.k2 t = false →
    ∃ r, parseFile t = .ok r ∧
      r.nodes.map (fun nd => (nd.kind == NKind.directive, nd.lines)) = CLexRef.nodes t ∧
      r.totalSloc = (CLexRef.countedLines t).length ∧ ∀ nd ∈ r.nodes, nd.numLines = nd.lines.length ∧ 1 ≤ nd.numLines

theorem parse_wf (t : List Char) (hwf : CLexRef.wf t = true) (hk1 : CLexRef.k1 t = false) (hk2 : CLexRef.k2 t = false) :
    parseFile t = .ok (parseOf (CLexRef.logical t)) := by
  rw [parseFile_eq, directive_extent t hwf hk1 hk2]; rfl

/-- the counted lines are those of the logical lines, in order.  A statement about the specification, obtained
    through the model: a BLANK logical line of `c_file_source` holds no counted line. -/
theorem logical_lines (t : List Char) (hwf : CLexRef.wf t = true) (hk1 : CLexRef.k1 t = false) (hk2 : CLexRef.k2 t = false) :
    (CLexRef.logical t).flatMap (·.2) = CLexRef.countedLines t := by
  obtain ⟨out, hc, hl, _, h⟩ := source_ok t hwf hk1 hk2
  rw [hc, hl, ← h.logical, List.flatMap_map]
  exact h.yielded_lines.trans h.counted

theorem nodes_lines (t : List Char) (hwf : CLexRef.wf t = true) (hk1 : CLexRef.k1 t = false)
    (hk2 : CLexRef.k2 t = false) (r : ParseResult) (h : parseFile t = .ok r) :
    r.nodes.flatMap (·.lines) = CLexRef.countedLines t := by
  obtain rfl := Except.ok.inj ((parse_wf t hwf hk1 hk2).symm.trans h)
  rw [parseOf_lines, logical_lines t hwf hk1 hk2]

/-- **C05.nodes_of_ok.**  Whenever `parse_file` does not raise on a well-formed text outside F-C05-1/2,
    its node list is the specification's: every directive line is a node of its own with exactly its
    counted lines, maximal runs of other logical lines form the code nodes, `num_lines = len(lines) ≥ 1`
    for every node, and `total_sloc` is the number of counted lines. -/
theorem nodes_of_ok (t : List Char) (hwf : CLexRef.wf t = true) (hk1 : CLexRef.k1 t = false)
    (hk2 : CLexRef.k2 t = false) (r : ParseResult) (h : parseFile t = .ok r) :
    r.nodes.map (fun nd => (nd.kind == NKind.directive, nd.lines)) = CLexRef.nodes t ∧
    r.totalSloc = (CLexRef.countedLines t).length ∧ ∀ nd ∈ r.nodes, nd.numLines = nd.lines.length ∧ 1 ≤ nd.numLines := by
  have hlines := nodes_lines t hwf hk1 hk2 r h
  obtain rfl := Except.ok.inj ((parse_wf t hwf hk1 hk2).symm.trans h)
  have hrows := (parseOf_rows _).trans (nodes_eq t).symm
  refine ⟨hrows, ?_, fun nd hnd => ⟨parseOf_counts _ nd hnd, ?_⟩⟩
  · rw [← hlines]; exact sum_numLines _ (parseOf_counts _)
  · rw [parseOf_counts _ nd hnd]
    exact List.length_pos_iff.mpr (nodes_nonempty t _ (hrows ▸ List.mem_map_of_mem hnd))

/-- **C05.nodes** (= `NodesEq`).  For every well-formed text outside the two recorded finding classes F-C05-1/2,
    `parse_file` does not raise and its node list, `num_lines` and `total_sloc` are the specification's
    (no exclusion is left for lines starting with `##`: F-C05-3 is repaired, `hashhash_fixed`). -/
theorem nodes : NodesEq := fun t hwf hk1 hk2 =>
  ⟨_, parse_wf t hwf hk1 hk2, nodes_of_ok t hwf hk1 hk2 _ (parse_wf t hwf hk1 hk2)⟩

/-- **C05.parse_total.**  On **every** text (well-formed or not) `parse_file` raises only what `c_file_source`
    raises: the `LineGroup` folding and the directive test raise nothing (before the repair of F-C05-3 a logical
    line starting with `##` raised `ParseError("Not a directive.")` for the whole file). -/
theorem parse_total (t : List Char) (h : (cFileSource t).err = none) : ∃ r, parseFile t = .ok r := by
  rw [parseFile_eq, CClean.logical, h]
  exact ⟨_, rfl⟩

/-- **C05.partition.**  For **every** text on which `parse_file` does not raise (well-formed or not):
    concatenating `node.lines` over the node list gives a strictly increasing list — no physical line is
    counted twice — all of them lie in `1..n` (n = number of physical lines), `num_lines = len(lines)` for
    every node, and `total_sloc` is the sum of the nodes' `num_lines` = the number of counted lines.
    (`num_lines ≥ 1` holds for well-formed texts, see `nodes`; it fails on ill-formed ones, see
    `empty_node_illformed`.) -/
theorem partition (t : List Char) (r : ParseResult) (h : parseFile t = .ok r) :
    (r.nodes.flatMap (·.lines)).Pairwise (· < ·) ∧
    (∀ m ∈ r.nodes.flatMap (·.lines), 1 ≤ m ∧ m ≤ (rawLines t).length) ∧
    (∀ nd ∈ r.nodes, nd.numLines = nd.lines.length) ∧
    r.totalSloc = (r.nodes.map (·.numLines)).sum ∧ r.totalSloc = (r.nodes.flatMap (·.lines)).length := by
  obtain ⟨lg, hlg, rfl⟩ := parseFile_ok h
  obtain ⟨herr, hrows⟩ := logical_ok hlg
  have hsub : ((parseOf lg).nodes.flatMap (·.lines)).Sublist (List.range' 1 (rawLines t).length) := by
    rw [parseOf_lines, hrows, List.flatMap_map]
    exact (filter_flatMap_sublist _ _ _).trans (source_sublist t herr)
  refine ⟨List.Pairwise.sublist hsub List.pairwise_lt_range', fun m hm => ?_, parseOf_counts lg, rfl, sum_numLines _ (parseOf_counts lg)⟩
  have := List.mem_range'_1.mp (hsub.subset hm)
  omega

/-! ## the recorded finding classes are real: witnesses (model ≠ specification on a well-formed text) -/

/-- F-C05-1: `/` + backslash-newline, the slash being code (here: division) — line 1 is not counted -/
def w1 : List Char := ['/', '\\', '\n', 'a', '\n']
theorem witness_k1 : CLexRef.wf w1 = true ∧ CLexRef.k1 w1 = true ∧
    (CClean.countedLines w1).toOption = some [2] ∧ CLexRef.countedLines w1 = [1, 2] := by decide +kernel

/-- F-C05-2: a continuation line holding only white space inside a string literal is counted -/
def w2 : List Char := ['"', 'a', '\\', '\n', ' ', ' ', '\\', '\n', 'b', '"', '\n']
theorem witness_k2 : CLexRef.wf w2 = true ∧ CLexRef.k2 w2 = true ∧
    (CClean.countedLines w2).toOption = some [1, 2, 3] ∧ CLexRef.countedLines w2 = [1, 3] := by decide +kernel

/-- F-C05-3 (repaired): a logical line whose first token is `##` is code, not a directive, and `parse_file` does not
    raise: `x` / `## a` / ` #\` + `# b` (spliced to ` ## b`) / `# ## c` (first token `#`: a directive) / `y` -/
def w3 : List Char := "x\n## a\n #\\\n# b\n# ## c\ny\n".toList
theorem hashhash_fixed : CLexRef.wf w3 = true ∧ CLexRef.k1 w3 = false ∧ CLexRef.k2 w3 = false ∧
    (parseFile w3).toOption.map (fun r => r.nodes.map fun nd => (nd.kind == NKind.directive, nd.lines)) =
      some [(false, [1, 2, 3, 4]), (true, [5]), (false, [6])] ∧
    CLexRef.nodes w3 = [(false, [1, 2, 3, 4]), (true, [5]), (false, [6])] := by
  -- the kernel decodes a string literal byte by byte each time it meets it: `rw` puts the character list in its place
  unfold w3; rw [String.toList_ofList]; decide +kernel

/-- F-C05-4 (recorded, judged by `g++ -E` in the harness stream `rawstr`): C++11 raw string literals are outside the C
    reading of phases 2–3 that both the specification and `c_cleaner` implement.
    `w4` = `const char* s = R"x(a"b)x"; /* c1` / ` c2` / ` c3 */` / `int z;` is *excluded* by `wf` (the `"` after `x;`
    opens a literal that is "unterminated" at the newline) — the cleaner counts lines 1–4, a C++ compiler sees code on
    1 and 4 only.  `w5` = `R"(a" /* )";` / `int y; /* */` is even *accepted* by `wf`, and specification and cleaner agree
    on [1] although line 2 holds code in C++.  The theorems of this file say nothing wrong — they are about the C
    reading — and this one records the gap. -/
def w4 : List Char := "const char* s = R\"x(a\"b)x\"; /* c1\n c2\n c3 */\nint z;\n".toList
def w5 : List Char := "R\"(a\" /* )\";\nint y; /* */\n".toList
theorem rawstring_gap : CLexRef.wf w4 = false ∧ (CClean.countedLines w4).toOption = some [1, 2, 3, 4] ∧
    CLexRef.wf w5 = true ∧ CLexRef.k1 w5 = false ∧ CLexRef.k2 w5 = false ∧
    (CClean.countedLines w5).toOption = some [1] ∧ CLexRef.countedLines w5 = [1] := by
  unfold w4 w5; rw [String.toList_ofList, String.toList_ofList]; decide +kernel

/-- on an ill-formed text (stray backslash) `parse_file` can build a code node without any counted line:
    `#x\\` / `` / ` \` / ` ` -/
def w0 : List Char := ['#', 'x', '\\', '\\', '\n', '\n', ' ', '\\', '\n', ' ', '\n']
theorem empty_node_illformed : CLexRef.wf w0 = false ∧
    (parseFile w0).toOption.map (·.nodes) = some [⟨.directive, [1], 1⟩, ⟨.code, [], 0⟩] := by decide +kernel

/-! ## non-vacuity: concrete non-trivial inputs satisfy the hypotheses -/

/-- `a /* c */ b` / `#define X \` / ` 1 // x` / `"/*" '\''` / `/* m` / `*/ z` -/
def ex1 : List Char :=
  "a /* c */ b\n#define X \\\n 1 // x\n\"/*\" '\\''\n/* m\n*/ z\n".toList

example : CLexRef.wf ex1 = true ∧ CLexRef.k1 ex1 = false ∧ CLexRef.k2 ex1 = false := by
  unfold ex1; rw [String.toList_ofList]; decide +kernel
example : CLexRef.countedLines ex1 = [1, 2, 3, 4, 6] ∧
    CLexRef.logical ex1 = [(false, [1]), (true, [2, 3]), (false, [4]), (false, [6])] := by
  unfold ex1; rw [String.toList_ofList]; decide +kernel
example : (parseFile ex1).toOption.map (fun r => (r.totalSloc, r.nodes.length)) = some (5, 3) := by
  unfold ex1; rw [String.toList_ofList]; decide +kernel

end CbiVerif.C05
