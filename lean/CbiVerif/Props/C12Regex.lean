import CbiVerif.Lemmas.CompilersRe
import CbiVerif.Lemmas.Compilers
import CbiVerif.Generated.Compilers
/-!
# C12 — the regular-expression matching of `_ExtendMatchAction` inside the model

`Model/Regex.lean` is the matcher the native driver executes for `re.findall(pattern, value)`
(`Model/CompilersRe.lean: findallFor / computeFor / emulateRe`).  Termination is by construction: every function
of the matcher, the scan and the parser is defined by structural recursion (on the expression, on the text, or
on an explicit fuel bounded by the text length) — there is no `partial`, no well-founded recursion.

Proved here:
* soundness of the back-tracking matcher with respect to the declarative language `Regex.Match` (`Spec/Regex.lean`);
* the `findall` scan reports matches of that language that lie inside the text, in order, without overlap;
* a metacharacter-free pattern finds exactly the leftmost non-overlapping occurrences (`findall_literal`);
* the closed form of the shipped nvcc architecture pattern on EVERY value (`nvcc_findall_closed_form`), its values
  on option values of the documented shapes, and that the regenerated built-in table still carries that rule.

Not proved HERE: completeness / priority-exactness of the matcher for arbitrary expressions (`MatcherComplete` below)
— proved in `Props/C12RegexComplete.lean` (`matcher_complete`, `matcher_priority_exact_partial`, `findallStr_eq_spec`);
the pattern parser is tied to CPython by differential testing (`parse_literal`, `parse_roundtrip_partial`,
`parse_in_fragment` there; for the shipped pattern `nvcc_pattern_parses` is a kernel evaluation).
-/
namespace CbiVerif.C12
open CbiVerif.Regex CbiVerif.Compilers CbiVerif.Gen.Compilers

/-! ## soundness -/

/-- every match attempt that succeeds reports a match of the language of the expression (and, after an empty
    match at the same place, a non-empty one) -/
theorem matcher_sound (r : Re) (adv : Bool) (s s' : List Char) (caps : Caps) (h : matchAt r adv s = some (s', caps)) :
    Match r s s' ∧ (∃ w, s = w ++ s') ∧ (adv = true → s'.length ≠ s.length) :=
  have ⟨hm, hadv⟩ := matchAt_sound r adv s s' caps h
  ⟨hm, hm.suffix, hadv⟩

/-- the general form, for any continuation: a success of `matchRe` factors through a match of the language -/
theorem matchRe_factors {R : Type} (r : Re) (s : List Char) (caps : Caps) (k : Cont R) (x : R)
    (h : matchRe r s caps k = some x) : ∃ s' caps', Match r s s' ∧ k s' caps' = some x :=
  matchRe_sound r s caps k x h

example : matchAt (.seq (.chr 'a') (.star (.chr 'b'))) false "abbc".toList = some (['c'], []) := by decide +kernel

/-- every match reported by `findall` lies inside the text, is the text at its position, and is a match of the
    language of the expression -/
theorem findall_hits_sound (r : Re) (s : List Char) (h : Hit) (hh : h ∈ hits r s) :
    h.start + h.text.length ≤ s.length ∧ h.text = (s.drop h.start).take h.text.length ∧
      Match r (s.drop h.start) (s.drop (h.start + h.text.length)) := by
  obtain ⟨k, h1, h2, h3, h4⟩ := scan_sound r _ 0 s false h hh
  have : h.start = k := by omega
  rw [this]; exact ⟨h2, h3, h4⟩

/-- the matches are reported left to right and do not overlap -/
theorem findall_hits_ordered (r : Re) (s : List Char) :
    List.Pairwise (fun a b : Hit => a.start + a.text.length ≤ b.start) (hits r s) :=
  scan_ordered r _ 0 s false

example : (hits (.plus (.cls false [.digit])) "a12b345".toList).map (fun h => (h.start, String.ofList h.text)) =
    [(1, "12"), (4, "345")] := by decide +kernel

/-- the matcher finds a match whenever the language has one at that position.  Proved for every expression in
    `Props/C12RegexComplete.lean` (`matcher_complete`); instances proved here: `findall_literal`, `nvcc_findall_closed_form`. -/
def MatcherComplete : Prop :=
  ∀ (r : Re) (s s' : List Char), Match r s s' → (matchAt r false s).isSome = true

/-! ## literal patterns -/

/-- a metacharacter-free, non-empty pattern `p`: `findall` reports exactly the occurrences of `p` found by the
    leftmost, non-overlapping scan (`scanWith` with "the text starts with `p`"), each as the text `p` -/
theorem findall_literal (p : List Char) (hp : p ≠ []) (s : List Char) :
    hits (lit p) s = scanWith (fun t => (stripPrefix p t).map fun rest => (rest, [])) (2 * s.length + 3) 0 s :=
  scan_congr (lit p) _ (fun adv t => matchAt_lit p hp adv t) _ 0 s false

theorem findall_literal_fields (p : List Char) (hp : p ≠ []) (s : List Char) :
    findall (lit p) 0 s =
      (scanWith (fun t => (stripPrefix p t).map fun rest => (rest, [])) (2 * s.length + 3) 0 s).map fun h => [h.text] := by
  simp only [findall, findall_literal p hp s]; rfl

example : ("ab".toList ≠ []) ∧ (hits (lit "ab".toList) "abxababab".toList).map (fun h => (h.start, String.ofList h.text)) =
    [(0, "ab"), (3, "ab"), (5, "ab"), (7, "ab")] := by decide +kernel
/-- overlapping candidates: `aa` in `aaaaa` is found at 0 and 2 only -/
example : (hits (lit "aa".toList) "aaaaa".toList).map (·.start) = [0, 2] := by decide +kernel
/-- the parser maps a metacharacter-free pattern to `lit` -/
example : parse "sm_80" = .ok (lit "sm_80".toList, 0) := by decide +kernel

/-! ## the shipped nvcc architecture rule: `pattern = '(?:sm_|compute_)(\d+)'`, `format = "sm_$value"` -/

def nvccPattern : String := "(?:sm_|compute_)(\\d+)"

theorem nvcc_pattern_parses : parse nvccPattern = .ok (nvRe, 1) := by
  -- a string literal is `String.ofList` of its characters: with `toList (ofList cs)` rewritten to `cs` the kernel
  -- evaluates the parser on the characters and does not decode the literal
  rw [parse, nvccPattern, String.toList_ofList]
  decide +kernel

/-- one match attempt with the shipped pattern, at every text: an architecture name `sm_N` / `compute_N` -/
theorem nvcc_match_closed_form (adv : Bool) (s : List Char) :
    matchAt nvRe adv s = (nvAt s).map fun (dr : List Char × List Char) => (dr.2, [(1, dr.1)]) :=
  matchAt_nv adv s

/-- `re.findall('(?:sm_|compute_)(\d+)', v)` for EVERY value `v`: the architecture numbers named in `v`, left to
    right (`nvArchs`: the leftmost non-overlapping scan for `sm_`/`compute_` followed by a non-empty digit run) -/
theorem nvcc_findall_closed_form (v : String) :
    findallFor nvccPattern v = some ((nvArchs v.toList).map String.ofList) := by
  have hscan := scan_congr nvRe _ (fun adv t => matchAt_nv adv t) (2 * v.toList.length + 3) 0 v.toList false
  simp only [findallFor, nvcc_pattern_parses, findall, hits, hscan, nvArchs, List.map_map]
  simp only [Nat.le_refl, if_true]
  congr 1

/-- shapes of documented option values -/
theorem nvAt_sm (d rest : List Char) (c : Char) (d' : List Char) (hd : d = c :: d') (hdig : d.all Char.isDigit = true)
    (hrest : match rest with | [] => True | x :: _ => x.isDigit = false) :
    nvAt ("sm_".toList ++ d ++ rest) = some (d, rest) ∧ nvAt ("compute_".toList ++ d ++ rest) = some (d, rest) := by
  have hall : ∀ x ∈ d, x.isDigit = true := by simpa using hdig
  have hr : rest.takeWhile Char.isDigit = [] ∧ rest.dropWhile Char.isDigit = rest := by
    cases rest with
    | nil => exact ⟨rfl, rfl⟩
    | cons x t => simp [List.takeWhile, List.dropWhile, show x.isDigit = false from hrest]
  have hda : digitsAt (d ++ rest) = some (d, rest) := by
    rw [hd] at hall ⊢
    simp only [digitsAt, List.cons_append, hall c (by simp), if_true]
    rw [← List.cons_append, List.takeWhile_append_of_pos hall, List.dropWhile_append_of_pos hall, hr.1, hr.2,
      List.append_nil]
  constructor
  · simp only [nvAt, List.append_assoc, stripPrefix_append, hda]
  · have h1 : stripPrefix "sm_".toList ("compute_".toList ++ (d ++ rest)) = none := by simp [stripPrefix]
    simp only [nvAt, List.append_assoc, stripPrefix_append, h1, hda]

example : nvAt "sm_80,sm_70".toList = some ("80".toList, ",sm_70".toList) := by decide +kernel

/-- no architecture name starts with a character other than `s` / `c` -/
theorem nvAt_other (c : Char) (t : List Char) (h1 : c ≠ 's') (h2 : c ≠ 'c') : nvAt (c :: t) = none := by
  have e1 : (c == 's') = false := by simpa using h1
  have e2 : (c == 'c') = false := by simpa using h2
  simp [nvAt, stripPrefix, e1, e2]

/-! the parse of the pattern is `nvcc_pattern_parses`; the value is given to the matcher as its characters, as there -/
example : findallFor nvccPattern "sm_80" = some ["80"] := by
  rw [findallFor, nvcc_pattern_parses, String.toList_ofList]
  decide +kernel
example : findallFor nvccPattern "arch=compute_80,code=sm_80" = some ["80", "80"] := by
  rw [findallFor, nvcc_pattern_parses, String.toList_ofList]
  decide +kernel
example : findallFor nvccPattern "arch=compute_80,code=[sm_80,sm_90]" = some ["80", "80", "90"] := by
  rw [findallFor, nvcc_pattern_parses, String.toList_ofList]
  decide +kernel
example : findallFor nvccPattern "sm_,compute,lto_80,sm_9a" = some ["9"] := by
  rw [findallFor, nvcc_pattern_parses, String.toList_ofList]
  decide +kernel
example : findallFor nvccPattern "native" = some [] := by
  rw [findallFor, nvcc_pattern_parses, String.toList_ofList]
  decide +kernel

/-- the regenerated built-in table still carries the rule the closed form is about (an edit of the shipped
    pattern breaks this proof: the check then reports it and looks for a command line that shows the difference) -/
theorem builtin_nvcc_rule :
    (match resolve (loadCompilers builtinFiles .absent).1 "nvcc" with
      | .found c => ["--gpu-architecture"].map fun f => (patternOf c.parser f)
      | _ => []) = [some nvccPattern] := by decide +kernel

/-- hence, for every value `v` of nvcc's architecture flags, the model computes the closed form -/
theorem builtin_nvcc_computes (c : Compiler) (hc : resolve (loadCompilers builtinFiles .absent).1 "nvcc" = .found c) (v : String) :
    computeFor c.parser "--gpu-architecture" v = some ((nvArchs v.toList).map String.ofList) := by
  have h := builtin_nvcc_rule
  rw [hc] at h
  have hp : patternOf c.parser "--gpu-architecture" = some nvccPattern := by simpa using h
  simp only [computeFor, hp, nvcc_findall_closed_form]

example : ∃ c, resolve (loadCompilers builtinFiles .absent).1 "nvcc" = .found c := by
  have h : (match resolve (loadCompilers builtinFiles .absent).1 "nvcc" with | .found _ => true | _ => false) = true := by
    decide +kernel
  split at h
  · exact ⟨_, ‹_›⟩
  · cases h

/-! ## patterns outside the fragment are refused, never guessed -/
example : (parse "^sm_(\\d+)").toOption = none ∧ (parse "a{2}").toOption = none ∧ (parse "a*?").toOption = none ∧
    (parse "(a*)*").toOption = none ∧ (parse "\\bsm").toOption = none ∧ (parse "(a)\\1").toOption = none ∧
    (parse "(?i)a").toOption = none := by decide +kernel

/-! ## Python's `findall` conventions on small cases (kernel evaluations) -/
example : findallStr "a*" "baac" = .ok [[""], ["aa"], [""], [""]] := by decide +kernel
example : findallStr "(a)|b" "ab" = .ok [["a"], [""]] := by decide +kernel
example : findallStr "(\\w+)=(\\d+)" "x=1,yy=22" = .ok [["x", "1"], ["yy", "22"]] := by decide +kernel
example : findallStr "[a-z]+\\d*" "sm_80,x1" = .ok [["sm"], ["x1"]] := by decide +kernel
example : findallStr "a$" "aa\n" = .ok [["a"]] := by decide +kernel

end CbiVerif.C12
