import CbiVerif.Lemmas.FindIncErase
import CbiVerif.Lemmas.ExpandPP
import CbiVerif.Lemmas.LexChars
/-! # C04 — `#include` resolution and attribution across files follow compiler rules.

Spec: `Spec/IncludeSearch.lean` (the compiler's search rule), `Spec/IncludeSem.lean` (flat conditional-group
machine with textual inclusion).  Model: `Model/IncludeMemo.lean` (`find_include_file` with its memo, the
two argparse append lists), `Model/MultiFile.lean` + `Model/FindInc.lean` (`finder.find`).  The driver ops
`findinc`, `incmemo`, `incargv` execute exactly these definitions.

All theorems are full-strength statements about the model; nothing here is `_partial`. -/
namespace CbiVerif.C04
open CbiVerif.PP (PNode Tok Table Entry)
open CbiVerif.Cond CbiVerif.MF CbiVerif.IncludeSearch CbiVerif.IncMemo CbiVerif.Inc

/-! ## memo_transparent -/

/-- For EVERY history of look-ups, the memoised resolver (memo keyed as the code keys it now:
`(spelling, None if system else includer dir)`) returns at every step what the memo-free loop returns. -/
theorem memo_transparent (E : Env) (paths : List String) (qs : List Query) :
    IncMemo.run E paths [] qs = qs.map (resolveM E paths) :=
  runBy_spec Query.key (resolveM E paths) (key_determines E paths) [] (sound_nil _ _) qs

/-- the same from any memo that only holds answers of the memo-free loop (the invariant of the induction) -/
theorem memo_transparent_from (E : Env) (paths : List String) (m : Memo Key)
    (h : Sound Query.key (resolveM E paths) m) (qs : List Query) :
    IncMemo.run E paths m qs = qs.map (resolveM E paths) :=
  runBy_spec Query.key (resolveM E paths) (key_determines E paths) m h qs

/-- … and the memo-free loop is the compiler's rule of `Spec/IncludeSearch` when the list handed over is
`-I` directories followed by `-isystem` directories -/
theorem memo_transparent_spec (E : Env) (ipaths isystem : List String) (qs : List Query) :
    IncMemo.run E (ipaths ++ isystem) [] qs =
      qs.map fun q => resolve E (!q.sys) q.dir ipaths isystem q.name := by
  rw [memo_transparent]
  exact List.map_congr_left fun q _ => resolveM_eq_spec E ipaths isystem q

def envEx : Env := { isfile := fun p => p == "b/x.h" || p == "a/x.h" || p == "i/y.h", join := fun d n => d ++ "/" ++ n }

/-- non-vacuity of `memo_transparent_from`: a non-empty sound memo, and a history with hits, misses and a failure -/
example : Sound Query.key (resolveM envEx ["i"]) [(("x.h", some "a"), some "a/x.h")] :=
  (findBy_spec Query.key _ (key_determines envEx ["i"]) [] ⟨"x.h", "a", false⟩ (sound_nil _ _)).2

example : IncMemo.run envEx ["i"] []
    [⟨"x.h", "a", false⟩, ⟨"x.h", "b", false⟩, ⟨"x.h", "b", true⟩, ⟨"x.h", "a", false⟩, ⟨"y.h", "b", true⟩, ⟨"y.h", "b", false⟩] =
    [some "a/x.h", some "b/x.h", none, some "a/x.h", some "i/y.h", some "i/y.h"] := by decide +kernel

/-- The memo of the pinned tree (keyed by spelling only, defect D13) is NOT transparent: the same generic
`runBy` with `key := name` answers the second query wrongly. -/
theorem spelling_key_not_transparent :
    ∃ (E : Env) (paths : List String) (qs : List Query),
      runBy (fun q => q.name) (resolveM E paths) [] qs ≠ qs.map (resolveM E paths) :=
  ⟨envEx, [], [⟨"x.h", "a", false⟩, ⟨"x.h", "b", false⟩], by decide +kernel⟩

/-- … and a failed `<y.h>` poisons a later resolvable `"y.h"` under the spelling key (the C18 side of D13) -/
theorem spelling_key_poisons :
    runBy (fun q => q.name) (resolveM envEx []) [] [⟨"x.h", "q", true⟩, ⟨"x.h", "a", false⟩] = [none, none] ∧
    [(⟨"x.h", "q", true⟩ : Query), ⟨"x.h", "a", false⟩].map (resolveM envEx []) = [none, some "a/x.h"] := by decide +kernel

/-! ## search_order -/

/-- the first existing candidate wins (and only an existing one) -/
theorem search_order (E : Env) (dirs : List String) (name p : String) :
    resolveIn E dirs name = some p ↔
      E.isfile p = true ∧ ∃ as bs, candidates E dirs name = as ++ p :: bs ∧ ∀ a ∈ as, E.isfile a = false := by
  -- `List.find?_eq_some_iff_append`, up to how "not a file" is spelt
  simp only [resolveIn, List.find?_eq_some_iff_append, Bool.not_eq_eq_eq_not, Bool.not_true]

theorem search_none (E : Env) (dirs : List String) (name : String) :
    resolveIn E dirs name = none ↔ ∀ c ∈ candidates E dirs name, E.isfile c = false := by
  simp only [resolveIn, List.find?_eq_none, Bool.not_eq_true]

/-- `<>` never consults the includer's directory: the answer does not depend on it … -/
theorem angle_ignores_includer_dir (E : Env) (dir dir' : String) (ipaths isystem : List String) (name : String) :
    resolve E false dir ipaths isystem name = resolve E false dir' ipaths isystem name := rfl

/-- … it is the search along the command's directories only -/
theorem angle_only_command_dirs (E : Env) (dir : String) (ipaths isystem : List String) (name : String) :
    resolve E false dir ipaths isystem name = resolveIn E (ipaths ++ isystem) name := by
  simp [resolve, searchList]

/-- `""`: the includer's directory first … -/
theorem quote_includer_dir_first (E : Env) (dir : String) (ipaths isystem : List String) (name : String)
    (h : E.isfile (E.join dir name) = true) :
    resolve E true dir ipaths isystem name = some (E.join dir name) := by
  simp [resolve, searchList, resolveIn, candidates, h]

/-- … then exactly the angle search -/
theorem quote_falls_back (E : Env) (dir : String) (ipaths isystem : List String) (name : String)
    (h : E.isfile (E.join dir name) = false) :
    resolve E true dir ipaths isystem name = resolve E false dir ipaths isystem name := by
  simp [resolve, searchList, resolveIn, candidates, h]

/-- independence of earlier look-ups: whatever was looked up before (other directories, the other form,
failures), the memoised resolver answers the next query by the compiler's rule -/
theorem independent_of_history (E : Env) (ipaths isystem : List String) (hist : List Query) (q : Query) :
    (IncMemo.run E (ipaths ++ isystem) [] (hist ++ [q])).getLast? =
      some (resolve E (!q.sys) q.dir ipaths isystem q.name) := by
  rw [memo_transparent_spec]
  simp

example : quote_includer_dir_first envEx "a" [] [] "x.h" (by decide) = quote_includer_dir_first envEx "a" [] [] "x.h" (by decide) := rfl
example : envEx.isfile (envEx.join "q" "x.h") = false := by decide +kernel

/-! ## isystem_after_I -/

/-- The list handed to the resolver is all `-I` directories in command-line order followed by all `-isystem`
directories in command-line order — for every command line, however the two kinds are interleaved. -/
theorem isystem_after_I (argv : List Flag) : handed argv = commandDirs argv := by
  unfold handed collect commandDirs
  rw [foldl_step]
  simp

/-- two command lines with the same `-I` subsequence and the same `-isystem` subsequence hand over the same list -/
theorem isystem_after_I_interleaving (argv argv' : List Flag)
    (hI : argv.filterMap Flag.getI = argv'.filterMap Flag.getI)
    (hS : argv.filterMap Flag.getSys = argv'.filterMap Flag.getSys) : handed argv = handed argv' := by
  rw [isystem_after_I, isystem_after_I, commandDirs, commandDirs, hI, hS]

example : handed [.isystem "s1", .I "a", .other "-O2", .isystem "s2", .I "b"] = ["a", "b", "s1", "s2"] := by decide +kernel

/-! ## once_once -/

/-- A second inclusion of a once-file changes neither attribution nor world state: if the include directive
`idx` of `file` resolves to a file whose real path is on the once-list, evaluating it enters no file and leaves
the association map, the macro table, the once-list, the set of parsed files, the warnings and the error
status as they were (only the memo and the ghost log of visits may grow). -/
theorem once_once (fs : FS) (pfs : ParsedFS) (file : String) (w : World) (idx : Nat) (n : PNode)
    (hn : pfs.node file idx = some n) (hk : n.kind = .include) (herr : w.st.err = none)
    (path : String) (sys : Bool) (ht : includeTarget w.plat.tbl n.toks = .ok (path, sys))
    (inc : String)
    (hres : (lookupWith true fs.env w.plat.incPaths w.plat.memo ⟨path, dirnameK file, sys⟩).1 = some inc)
    (hskip : w.plat.skip.contains (fs.realpath inc) = true) :
    let r := enter true fs pfs file w idx
    r.1 = none ∧ r.2.st.assoc = w.st.assoc ∧ r.2.plat.tbl = w.plat.tbl ∧ r.2.plat.skip = w.plat.skip ∧
    r.2.st.inserted = w.st.inserted ∧ r.2.st.warns = w.st.warns ∧ r.2.st.dwarns = w.st.dwarns ∧ r.2.st.err = none := by
  simp only [enter, herr, hn, hk, includeStep, ht, hres, hskip, if_true]
  simp

/-- … hence the associator step on that node is that world (no recursion into the file) -/
theorem once_once_exec (fs : FS) (pfs : ParsedFS) (fuel : Nat) (file : String) (w : World) (idx : Nat)
    (h : (enter true fs pfs file w idx).1 = none) :
    (sem (ops fs pfs) fuel file).exec w idx = (enter true fs pfs file w idx).2 :=
  sem_exec_none (ops fs pfs) fuel file w idx h

/-- a `#pragma once` directive puts the (real path of the) file on the once-list … -/
theorem once_registers (fs : FS) (pfs : ParsedFS) (file : String) (w : World) (idx : Nat) (n : PNode) (t : Tok) (ts : List Tok)
    (hn : pfs.node file idx = some n) (hk : n.kind = .pragma) (htoks : n.toks = t :: ts) (ho : t.spell = "once")
    (herr : w.st.err = none) :
    file ∈ (enter true fs pfs file w idx).2.plat.skip := by
  simp only [enter, herr, hn, hk, htoks, ho]
  by_cases hc : file ∈ w.plat.skip <;> simp [hc]

/-- … and nothing ever removes it: the once-list only grows over the processing of any file at any depth -/
theorem once_persists (fs : FS) (pfs : ParsedFS) (fuel : Nat) (file : String) (w : World) (x : String)
    (hx : x ∈ w.plat.skip) : x ∈ (assocFile (ops fs pfs) fuel file w).plat.skip :=
  (skipHas true fs pfs x).file fuel trivial hx

/-! ## forced_includes_first -/

/-- `-include` files are processed, in command-line order, before the file itself and with the same
`Platform`: the world in which the entry's own file is associated is the one the forced includes leave. -/
theorem forced_includes_first (fs : FS) (pfs : ParsedFS) (fuel : Nat) (pname : String) (st : PState) (e : Entry)
    (tbl : Table) (herr : st.err = none) (hd : buildDefines e.defines [] = .ok tbl) :
    let run := assocFile (ops fs pfs) fuel
    let w0 : World := { st := st, plat := { name := pname, tbl := tbl, incPaths := e.includePaths } }
    let w1 := e.includeFiles.foldl (forcedWith true run fs pfs e.file) w0
    runEntryWith true run fs pfs pname st e =
      (if w1.st.err.isSome then w1 else run (fs.realpath e.file) w1).st := by
  simp [runEntryWith, herr, hd]

/-- the forced includes themselves are taken left to right -/
theorem forced_in_order (fs : FS) (pfs : ParsedFS) (run : String → World → World) (src : String) (w : World)
    (f : String) (rest : List String) :
    (f :: rest).foldl (forcedWith true run fs pfs src) w =
      rest.foldl (forcedWith true run fs pfs src) (forcedWith true run fs pfs src w f) := rfl

/-- a forced include that resolves to a (parsable) file not on the once-list is processed like any file: under the
current world — macros of `-D` and of earlier forced includes, same once-list — and the world it leaves is the
one the next forced include / the source file starts in -/
theorem forced_processes (fs : FS) (pfs : ParsedFS) (run : String → World → World) (src : String) (w : World) (inc f : String)
    (p : Parsed) (herr : w.st.err = none)
    (hres : (lookupWith true fs.env w.plat.incPaths w.plat.memo ⟨inc, dirnameK src, false⟩).1 = some f)
    (hskip : w.plat.skip.contains (fs.realpath f) = false)
    (hp : pfs.get (fs.realpath f) = some (.ok p)) :
    forcedWith true run fs pfs src w inc =
      run (fs.realpath f)
        { st := PState.insertFile { w.st with visits := w.st.visits ++ [⟨src, 0, 0, inc, false, w.plat.incPaths,
                  resolveM fs.env w.plat.incPaths ⟨inc, dirnameK src, false⟩⟩] } pfs (fs.realpath f)
          plat := { w.plat with memo := (lookupWith true fs.env w.plat.incPaths w.plat.memo ⟨inc, dirnameK src, false⟩).2 } } := by
  have he := insertFile_err_none { w.st with visits := w.st.visits ++ [⟨src, 0, 0, inc, false, w.plat.incPaths,
    resolveM fs.env w.plat.incPaths ⟨inc, dirnameK src, false⟩⟩] } pfs (fs.realpath f) p herr hp
  have h0 : w.st.err.isSome = false := by simp [herr]
  unfold forcedWith
  simp only [h0, Bool.false_eq_true, if_false, hres, hskip]
  split
  · rename_i hc
    exact absurd hc (by rw [show (PState.insertFile _ pfs (fs.realpath f)).err = none from he]; simp)
  · rfl

/-- **once-files and `-include`** (fix d95f59a): a forced include that resolves to a file on the once-list —
because an earlier `-include` of the same file, or anything processed before, said `#pragma once` — is not
processed again: attribution, macro table, once-list, parsed files, warnings and error status are unchanged. -/
theorem forced_once (fs : FS) (pfs : ParsedFS) (run : String → World → World) (src : String) (w : World) (inc f : String)
    (herr : w.st.err = none)
    (hres : (lookupWith true fs.env w.plat.incPaths w.plat.memo ⟨inc, dirnameK src, false⟩).1 = some f)
    (hskip : w.plat.skip.contains (fs.realpath f) = true) :
    let w' := forcedWith true run fs pfs src w inc
    w'.st.assoc = w.st.assoc ∧ w'.plat.tbl = w.plat.tbl ∧ w'.plat.skip = w.plat.skip ∧
    w'.st.inserted = w.st.inserted ∧ w'.st.warns = w.st.warns ∧ w'.st.dwarns = w.st.dwarns ∧ w'.st.err = none := by
  have hm : fs.realpath f ∈ w.plat.skip := by simpa using hskip
  simp [forcedWith, herr, hres, hm]

/-! ## include_semantics -/

/-- **Textual inclusion.**  The tree associator of the code (per-file `SourceTree`, `branch_taken`, memoised
include resolution, recursion into included files with the same `Platform`) and the flat reference machine
(ISO C conditional-group stack over the lines of each file, an included file's lines processed under the world
at the point of inclusion and its world handed back, include resolution by the compiler's rule evaluated afresh
each time) compute the same world, up to the memo — for every file, every include depth `fuel`, every starting
world whose memo is sound, provided every file is a well-nested program. -/
theorem include_semantics (fs : FS) (pfs : ParsedFS) (hwf : WFparsed pfs) (fuel : Nat) (file : String) (w : World)
    (h : WarnInv fs w) :
    (assocFile (ops fs pfs) fuel file w).erase = runFileRef (opsSpec fs pfs) fuel file w.erase :=
  (assocFile_erase fs pfs hwf fuel file w h.sound).symm

/-- **Whole analysis.**  The model of `finder.find` equals the reference analysis (`findSpec`: flat machine,
textual inclusion, compiler's rule, forced includes first) on every code base, configuration and include-depth
bound, for every file system whose files are well-nested programs: same attribution of every node of every
file to platforms, same parsed files, same warnings, same error status. -/
theorem include_semantics_find (fs : FS) (codebase : List String) (config : List (String × List Entry)) (fuel : Nat)
    (hwf : WFparsed (parseAll fs)) :
    Inc.find fs codebase config fuel = findSpec fs codebase config fuel :=
  (find_erase fs codebase config fuel hwf).symm

/-- the executable well-formedness check of the driver (the reference machine's own structural verdict) is sound:
a `true` answer gives the hypothesis (via `C01.structured_of_wellNested`) -/
theorem wfCheck_sound (ls : List Lbl) (h : wfCheck ls = true) : ∃ b : Block, ls = b.lines := by
  simp only [wfCheck, Bool.and_eq_true, List.all_eq_true] at h
  have hn : ∀ l ∈ ls, l.normal := by
    intro l hl hk
    have := h.1 l hl
    unfold normalB at this
    rcases hk with hk | hk | hk <;> simp [hk] at this <;> exact this
  obtain ⟨b, hb⟩ := CbiVerif.C01.structured_of_wellNested trivSem () ls hn h.2
  exact ⟨b, hb.symm⟩

theorem WFparsed_of_check (pfs : ParsedFS) (h : pfs.wf = true) : WFparsed pfs := by
  intro f p hg
  obtain ⟨e, he, hp⟩ := Option.map_eq_some_iff.mp hg
  have := List.all_eq_true.mp h e (List.mem_of_find?_eq_some he)
  rw [hp] at this
  exact wfCheck_sound p.lbls this

/-- the hypothesis of `include_semantics_find`, checked by computation (what the driver reports as `wf`) -/
theorem include_semantics_find_checked (fs : FS) (codebase : List String) (config : List (String × List Entry)) (fuel : Nat)
    (h : (parseAll fs).wf = true) :
    Inc.find fs codebase config fuel = findSpec fs codebase config fuel :=
  include_semantics_find fs codebase config fuel (WFparsed_of_check _ h)

example : wfCheck [⟨0, .ifk, 0⟩, ⟨1, .other, 1⟩, ⟨2, .code, 0⟩, ⟨3, .elsek, 0⟩, ⟨4, .code, 0⟩, ⟨5, .endk, 0⟩, ⟨6, .code, 0⟩] = true := by decide +kernel
example : wfCheck [⟨0, .ifk, 0⟩, ⟨1, .code, 0⟩] = false := by decide +kernel

/-- the generic core of `include_semantics` (any per-directive semantics): tree visitor = flat machine across
files, by induction on the include fuel -/
theorem include_semantics_generic {W : Type} (F : FileOps W) (hwf : WellNested F) (fuel : Nat) (file : String) (w : W) :
    assocFile F fuel file w = runFileRef F fuel file w :=
  assocFile_eq_ref F hwf fuel file w

/-- non-vacuity: a starting world satisfying the hypothesis of `include_semantics` -/
example (fs : FS) : WarnInv fs { st := {}, plat := { name := "p" } } :=
  ⟨sound_nil _ _, StInv.empty fs⟩

/-- non-vacuity of `WellNested`: a two-file toy system (a guarded header included twice) -/
def toyOps : FileOps (List String) where
  evalIf _ w _ := (!w.contains "G", w)
  enter file w i := if file == "main" && (i == 0 || i == 1) then (some "h", w) else (none, "G" :: w)
  labels file := if file == "main" then [⟨0, .other, 0⟩, ⟨1, .other, 1⟩, ⟨2, .code, 0⟩]
                 else [⟨0, .ifk, 0⟩, ⟨1, .other, 1⟩, ⟨2, .code, 0⟩, ⟨3, .endk, 0⟩]
  record w file out := w ++ out.map (fun i => file ++ toString i)
  noFuel w := "FUEL" :: w
  crash w := "CRASH" :: w

example : WellNested toyOps := by
  intro file
  by_cases h : file = "main"
  · exact ⟨.cons (.dir 0 0) (.cons (.dir 1 1) (.cons (.code 2) .nil)), by simp [toyOps, h, Block.lines, Item.lines]⟩
  · exact ⟨.cons (.cond 0 0 (.cons (.dir 1 1) (.cons (.code 2) .nil)) (.endif 3)) .nil,
      by simp [toyOps, h, Block.lines, Item.lines, Conts.lines]⟩

/-! ### a concrete file system for the non-vacuity examples (checked by evaluation) -/
/-- `/r/src/a.c` = `#include <x.h>` / `#include "x.h"` / `#pragma once`; `x.h` exists in `/r/inc` and `/r/src` -/
def fsEx : FS := { files := [("/r/src/a.c", ""), ("/r/inc/x.h", ""), ("/r/src/x.h", "")] }
def tokAngle : List Tok := [⟨.op, "<", true, true⟩, ⟨.ident, "x", false, true⟩, ⟨.punct, ".", false, true⟩, ⟨.ident, "h", false, true⟩, ⟨.op, ">", false, true⟩]
def tokQuote : List Tok := [⟨.str, "x.h", true, true⟩]
def nAngle : PNode := { kind := .include, lines := [1], toks := tokAngle }
def nQuote : PNode := { kind := .include, lines := [2], toks := tokQuote }
def nOnce : PNode := { kind := .pragma, lines := [3], toks := [⟨.ident, "once", true, true⟩] }
def pfsEx : ParsedFS :=
  [("/r/src/a.c", .ok { nodes := #[nAngle, nQuote, nOnce], lbls := [⟨0, .other, 0⟩, ⟨1, .other, 1⟩, ⟨2, .other, 2⟩], directives := [] }),
   ("/r/inc/x.h", .ok { nodes := #[], lbls := [], directives := [] }),
   ("/r/src/x.h", .ok { nodes := #[], lbls := [], directives := [] })]
/-- a world in which `/r/inc/x.h` already said `#pragma once` -/
def wEx : World := { st := {}, plat := { name := "p", incPaths := ["/r/inc"], skip := ["/r/inc/x.h"] } }

-- the compiler's rule on this tree: `<x.h>` → -I directory, `"x.h"` → beside the includer
example : resolveM fsEx.env ["/r/inc"] ⟨"x.h", "/r/src", true⟩ = some "/r/inc/x.h" := by decide +kernel
example : resolveM fsEx.env ["/r/inc"] ⟨"x.h", "/r/src", false⟩ = some "/r/src/x.h" := by decide +kernel
example : dirnameK "/r/src/a.c" = "/r/src" := by decide +kernel

/-- non-vacuity of `once_once`: all its hypotheses hold for the angle include of `a.c` in `wEx` -/
example :
    let r := enter true fsEx pfsEx "/r/src/a.c" wEx 0
    r.1 = none ∧ r.2.st.assoc = wEx.st.assoc ∧ r.2.plat.tbl = wEx.plat.tbl ∧ r.2.plat.skip = wEx.plat.skip ∧
    r.2.st.inserted = wEx.st.inserted ∧ r.2.st.warns = wEx.st.warns ∧ r.2.st.dwarns = wEx.st.dwarns ∧ r.2.st.err = none :=
  once_once fsEx pfsEx "/r/src/a.c" wEx 0 nAngle rfl rfl rfl "x.h" true rfl "/r/inc/x.h" (by decide +kernel) (by decide +kernel)

/-- … while the quote include of the same spelling resolves to the other file, which is not once-listed, and is entered -/
example : (enter true fsEx pfsEx "/r/src/a.c" wEx 1).1 = some "/r/src/x.h" := by decide +kernel

/-- non-vacuity of `once_registers` / `once_persists` -/
example : "/r/src/a.c" ∈ (enter true fsEx pfsEx "/r/src/a.c" wEx 2).2.plat.skip :=
  once_registers fsEx pfsEx "/r/src/a.c" wEx 2 nOnce ⟨.ident, "once", true, true⟩ [] rfl rfl rfl (by decide +kernel) rfl
example (fuel : Nat) : "/r/inc/x.h" ∈ (assocFile (ops fsEx pfsEx) fuel "/r/src/a.c" wEx).plat.skip :=
  once_persists fsEx pfsEx fuel "/r/src/a.c" wEx "/r/inc/x.h" (by decide +kernel)

/-- non-vacuity of `forced_includes_first` / `forced_processes`: `-include x.h` for `/r/src/a.c` -/
example (fuel : Nat) :=
  forced_includes_first fsEx pfsEx fuel "p" {} ⟨"/r/src/a.c", [], ["/r/inc"], ["x.h"]⟩ [] rfl rfl
example (run : String → World → World) :=
  forced_processes fsEx pfsEx run "/r/src/a.c" { st := {}, plat := { name := "p", incPaths := ["/r/inc"] } } "x.h" "/r/src/x.h"
    { nodes := #[], lbls := [], directives := [] } rfl (by decide +kernel) (by decide +kernel) rfl
/-- non-vacuity of `forced_once`: `-include ../inc/x.h` when `/r/inc/x.h` is already once-listed (e.g. by an earlier -include of it) -/
example (run : String → World → World) :=
  forced_once fsEx pfsEx run "/r/src/a.c" wEx "../inc/x.h" "/r/inc/x.h" rfl (by decide +kernel) (by decide +kernel)

/-- non-vacuity of `isystem_after_I_interleaving` -/
example := isystem_after_I_interleaving [.isystem "s", .I "a", .I "b"] [.I "a", .other "-O2", .isystem "s", .I "b"] (by decide +kernel) (by decide +kernel)

/-- non-vacuity of `include_semantics` / `WFparsed_of_check`: the parsed files above are well nested -/
example : WFparsed pfsEx := WFparsed_of_check pfsEx (by decide +kernel)
example (fuel : Nat) := include_semantics fsEx pfsEx (WFparsed_of_check pfsEx (by decide +kernel)) fuel "/r/src/a.c" wEx
  ⟨sound_nil _ _, StInv.empty fsEx⟩

/-! ## the value of a controlling expression in the multi-file model: one expander (C03), one evaluator (C02) -/

/-- The multi-file model (`finder.find` across `#include`s) gives an `#if`/`#elif` the value `PP.condValue`, i.e. the
evaluation by `Eval.evaluatePP` (the C02 evaluator `Eval.cbiEval`) of the expansion by the total step machine `MX.cbiExpand`
(the model of the C03 theorems) under the platform's macro table — the same definition as the single-file model of C01
(`C01.cond_is_expand_then_eval`, and `C01.cond_object_like_partial`, `C01.ifdef_decided_by_table`, … apply to it verbatim);
a failure of either stage is recorded as the failure of the analysis and is sticky. -/
theorem cond_is_expand_then_eval (w : World) (toks : List Tok) (h : w.st.err = none) :
    evalCondW w toks =
      match CbiVerif.MX.cbiExpand w.plat.tbl toks with
      | .ok ts => (match CbiVerif.Eval.evaluatePP ts with | .ok b => (b, w) | .error e => (false, w.setErr e))
      | .error e => (false, w.setErr e)
      | .fuel => (false, w.setErr (.other "ModelOutOfFuel")) := by
  unfold evalCondW
  rw [h]
  exact CbiVerif.PP.condValue_elim w.plat.tbl toks (fun b => (b, w)) (fun e => (false, w.setErr e))

/-- non-vacuity: `#if A > 1 && defined(B)` under `-DA=2 -DB`, through the function-like macro `GT` -/
example : (evalCondW { st := {}, plat := { name := "p", tbl :=
      [("A", ⟨"A", none, false, false, [], [⟨.num, "2", false, true⟩]⟩), ("B", ⟨"B", none, false, false, [], [⟨.num, "1", false, true⟩]⟩),
       ("GT", ⟨"GT", some ["x", "y"], false, false, [true, true],
          [⟨.ident, "x", false, true⟩, ⟨.op, ">", true, true⟩, ⟨.ident, "y", true, true⟩]⟩)] } }
    (CbiVerif.PP.tokenize "GT(A, 1) && defined(B)")).1 = true := by
  rw [CbiVerif.PP.tokenize_ofList]
  decide +kernel

end CbiVerif.C04
