import CbiVerif.Props.C04Engines
/-! # C04 — the two multi-file engines agree on requests with `-include` files

`Props/C04Engines.lean` proves `engines_agree_partial` under `Engines.EngOK`, which excludes every command with an
`-include` file.  Here the side condition admits them (`Lemmas/EnginesAgreeForced.lean`): the `-include` loop of
`Model/Exclude.lean` (`runForcedRef`: `findForced` = memoised look-up + once-list test, `enterRef` without includer,
`assocTreeRef`) is simulated by the fold of `Inc.forcedWith` (look-up, ghost visit / warning, once-list test,
`insertFile`, `assocFile`) — one step (`forced_one`) from `request_rel` (the include request of both engines, shared with
the `#include` directive), `enterRef_cases` and `file_agree`, the loop
(`forced_agree`) by induction on the list with both failures sticky — and the entry / entries / configuration layers run
over it (`engines_agree_partial` is their special case with an empty loop).

Side condition (`Engines.EngOKF`, decidable, evaluated by op `engines_f`): `EngOK` with the clause "no `-include` file"
replaced by "a command has `-include` files only if every existing file is C-family by extension" (`FindInst.AllC`,
as in `FindInst.ClassOK`): a forced include is parsed with no includer, so an extension-less one would make
`Exclude.sem` fail ("Could not determine language") where `Inc.find` parses it.  `EngOK → EngOKF`. -/
namespace CbiVerif.C04
open CbiVerif.PP CbiVerif.Engines

/-- **engine agreement with `-include` files (proved part).**  On a link-free, single-language-class request whose commands
name `-include` files only when every existing file is C-family by extension (`EngOKF`), whenever neither run fails — which
includes "neither fuel was exhausted" — the cache-free engine of ops `c08find` / `c10find` and the model of `finder.find`
the C04 / C13 / C18 theorems are about attribute exactly the same (file, node, platform) triples.  Full statement:
`ExcludeEngineEqFindInc` (`Props/C04Engines.lean`). -/
theorem engines_agree_forced_partial (fs : Inc.FS) (cb : List String) (cfg : List (String × List Entry)) (n fuel : Nat)
    (hok : EngOKF fs cfg = true)
    (hx : (runExclude fs cfg n).err = none) (hi : (Inc.find fs cb cfg fuel).err = none) :
    ∀ f i p, Has (runExclude fs cfg n).assoc f i p ↔ Has (Inc.find fs cb cfg fuel).assoc f i p :=
  (find_top fs cb cfg n fuel treesOK hok).agree hx hi

/-- … in the form the driver evaluates (op `engines_f`: fields `eng_okf`, `both_ok`, `agree`) -/
theorem engines_agree_forced_checked (fs : Inc.FS) (cb : List String) (cfg : List (String × List Entry)) (n fuel : Nat)
    (hok : EngOKF fs cfg = true) (hb : bothOk fs cb cfg n fuel = true) : agree fs cb cfg n fuel = true :=
  agreeOf_of_has hb (engines_agree_forced_partial fs cb cfg n fuel hok)

/-- the side condition of `engines_agree_partial` is the special case without `-include` files -/
theorem engOK_imp_engOKF (fs : Inc.FS) (cfg : List (String × List Entry)) (h : EngOK fs cfg = true) :
    EngOKF fs cfg = true := engOKF_of_engOK fs cfg h

/-- **`C04.include_semantics_find` transfers to the engine ops `c08find` / `c10find` execute, `-include` files included**
(proved part: `EngOKF`; full statement `IncludeSemanticsExcludeEngine`).  For well-nested files, whenever neither run fails,
the engine of `Model/Exclude.lean` attributes exactly the triples the reference analysis does (`Inc.findSpec`: flat ISO C
conditional-group machine, textual inclusion — the `-include` files first, in order, each unless on the once-list —, the
compiler's search rule evaluated afresh at every include). -/
theorem include_semantics_exclude_engine_forced_partial (fs : Inc.FS) (cb : List String)
    (cfg : List (String × List Entry)) (n fuel : Nat) (hok : EngOKF fs cfg = true)
    (hwf : Inc.WFparsed (Inc.parseAll fs))
    (hx : (runExclude fs cfg n).err = none) (hs : (Inc.findSpec fs cb cfg fuel).err = none) :
    ∀ f i p, Has (runExclude fs cfg n).assoc f i p ↔ Has (Inc.findSpec fs cb cfg fuel).assoc f i p := by
  rw [← include_semantics_find fs cb cfg fuel hwf] at hs ⊢
  exact engines_agree_forced_partial fs cb cfg n fuel hok hx hs

/-- … and to the run with the shared parse cache (`Exclude.find`, what op `c10find` returns), when it logs no
language-mixing event and the up-front parse succeeds (`C10.find_eq_ref`) -/
theorem include_semantics_cached_engine_forced_partial (fs : Inc.FS) (cb cb' : List String)
    (cfg : List (String × List Entry)) (n fuel : Nat) (hok : EngOKF fs cfg = true)
    (hwf : Inc.WFparsed (Inc.parseAll fs))
    (hpre : C10.PreOK (Exclude.sem fs.files) cb' cfg) (hmix : C10.NoMix (Exclude.sem fs.files) n cb' cfg)
    (hx : (Exclude.find (Exclude.sem fs.files) n cb' cfg).loc.err = none) (hs : (Inc.findSpec fs cb cfg fuel).err = none) :
    ∀ f i p, Has (Exclude.find (Exclude.sem fs.files) n cb' cfg).loc.assoc f i p ↔ Has (Inc.findSpec fs cb cfg fuel).assoc f i p := by
  rw [C10.find_eq_ref _ n cb' cfg hpre hmix] at hx ⊢
  exact include_semantics_exclude_engine_forced_partial fs cb cfg n fuel hok hwf hx hs

/-! ### non-vacuity -/

/-- a `#pragma once` prefix header that defines a macro, named twice by `-include` (the second is stopped by the
once-list), a second prefix header without guard named twice (processed twice), one `-include` that does not resolve
(warning on the side of `Inc.find`), and a source file that includes the first header again; two platforms -/
def engFsF : Inc.FS := { files := [
  ("/r/inc/pre.h", "#pragma once\n#ifdef A\n#define P 1\n#else\n#define P 2\n#endif\n"),
  ("/r/inc/q.h", "#if P == 1\nint q1;\n#else\nint q2;\n#endif\n"),
  ("/r/a.c", "#include \"inc/pre.h\"\n#if P == 1\nint x;\n#endif\n")] }
def engCfgF : List (String × List Entry) :=
  [("cpu", [{ file := "/r/a.c", defines := ["A"], includePaths := ["/r/inc"],
              includeFiles := ["inc/pre.h", "pre.h", "q.h", "nope.h", "q.h"] }]),
   ("gpu", [{ file := "/r/a.c", defines := [], includePaths := ["/r/inc"], includeFiles := ["q.h", "inc/pre.h"] }])]

/-- Both runs on `engFsF` / `engCfgF`, the well-formedness check of the parsed files, and both runs on the file system
extended by an extension-less header (last example below), evaluated by the kernel in one declaration: `Inc.find` parses
every file up front, so its two runs and the check share the parse of the files of `engFsF`. -/
theorem engF_eval : bothOk engFsF ["/r/a.c"] engCfgF 200 4 = true ∧
    (((runExclude engFsF engCfgF 200).assoc.map (·.2.length)).sum =
        ((Inc.find engFsF ["/r/a.c"] engCfgF 4).assoc.map (·.2.length)).sum ∧
      10 ≤ ((runExclude engFsF engCfgF 200).assoc.map (·.2.length)).sum) ∧
    (Inc.parseAll engFsF).wf = true ∧
    ((runExclude { files := ("/r/inc/vector", "int v;\n") :: engFsF.files }
        [("p", [{ file := "/r/a.c", defines := [], includePaths := ["/r/inc"], includeFiles := ["vector"] }])] 200).err.isSome = true ∧
      (Inc.find { files := ("/r/inc/vector", "int v;\n") :: engFsF.files } ["/r/a.c"]
        [("p", [{ file := "/r/a.c", defines := [], includePaths := ["/r/inc"], includeFiles := ["vector"] }])] 4).err = none) := by
  rw [bothOk, runExclude, runExclude, Inc.find, Inc.find, Inc.findWith, Inc.findWith]
  generalize hS : Exclude.sem engFsF.files = S
  generalize hp : Inc.parseAll engFsF = pfs
  generalize hS' : Exclude.sem _ = S'
  generalize hp' : Inc.parseAll _ = pfs'
  rw [Exclude.sem, engFsF] at hS hS'
  rw [engFsF] at hp hp'
  repeat rw [Exclude.parseAsFS_cons] at hS
  repeat rw [Exclude.parseAsFS_cons] at hS'
  repeat rw [Inc.parseAll_cons] at hp
  repeat rw [Inc.parseAll_cons] at hp'
  subst hS hp hS' hp'
  decide +kernel

/-- the hypotheses of `engines_agree_forced_partial` / `engines_agree_forced_checked` hold there (kernel-checked),
although `EngOK` does not … -/
example : EngOKF engFsF engCfgF = true ∧ EngOK engFsF engCfgF = false ∧
    bothOk engFsF ["/r/a.c"] engCfgF 200 4 = true := ⟨by decide +kernel, by decide +kernel, engF_eval.1⟩

/-- … both runs are non-trivial and of the same size … -/
example : ((runExclude engFsF engCfgF 200).assoc.map (·.2.length)).sum =
      ((Inc.find engFsF ["/r/a.c"] engCfgF 4).assoc.map (·.2.length)).sum ∧
    10 ≤ ((runExclude engFsF engCfgF 200).assoc.map (·.2.length)).sum := engF_eval.2.1

/-- … and the well-formedness hypothesis of the transfer theorem holds -/
example : Inc.WFparsed (Inc.parseAll engFsF) := WFparsed_of_check _ engF_eval.2.2.1

/-- the clause about `-include` files is not vacuous: with an existing extension-less file a command with `-include` files falsifies
`EngOKF`, a command without does not; links and Fortran headers still falsify it -/
example : EngOKF { files := ("/r/inc/vector", "int v;\n") :: engFsF.files } engCfgF = false ∧
    EngOKF { files := ("/r/inc/vector", "int v;\n") :: engFs.files } engCfg = true ∧
    EngOKF { engFsF with links := [("/r/l", "/r/inc")] } engCfgF = false ∧
    EngOKF { files := ("/r/m.f90", "") :: engFsF.files } engCfgF = false := by decide +kernel

/-- the clause is needed: an extension-less `-include` file makes the engine of `Model/Exclude.lean` fail ("Could not
determine language") where `Inc.find` succeeds -/
example : (runExclude { files := ("/r/inc/vector", "int v;\n") :: engFsF.files }
      [("p", [{ file := "/r/a.c", defines := [], includePaths := ["/r/inc"], includeFiles := ["vector"] }])] 200).err.isSome = true ∧
    (Inc.find { files := ("/r/inc/vector", "int v;\n") :: engFsF.files } ["/r/a.c"]
      [("p", [{ file := "/r/a.c", defines := [], includePaths := ["/r/inc"], includeFiles := ["vector"] }])] 4).err = none :=
  engF_eval.2.2.2

end CbiVerif.C04
