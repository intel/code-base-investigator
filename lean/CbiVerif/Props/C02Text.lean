import CbiVerif.Props.C02
import CbiVerif.Lemmas.EvalFlags
import CbiVerif.Lemmas.LexLayout
import CbiVerif.Model.ExpandPP
import CbiVerif.Model.EvalText
import CbiVerif.Model.CondFragment
/-!
# C02 — from the TEXT of an `#if` expression to its ISO C truth value

`Props/C02.lean` proves the evaluator model on token lists (`main_partial`) and the lexer model on the one layout
"blank token blank … blank" (`lexer_roundtrip`).  This file closes the gap between the two for every white-space layout:

1. `evaluator_ignores_flags` — `Eval.cbiExpr` / `Eval.cbiEval` (the evaluator the end-to-end models execute through
   `Eval.evaluatePP`) depend on a token only through its kind and text, not on `prev_white` / `expandable`, for EVERY token
   list (residual calls of any nesting included);
2. `lexer_reads_layout` — for every list of tokens of the classes of `#if` expressions and every admissible layout
   (`Model/LexLayout.lean`: any run of blanks / tabs / newlines before, between and after the tokens, and NO white space
   between two tokens that are `separable`), `PP.tokenize` returns exactly those tokens, with `prev_white` set exactly after a
   non-empty run; `separable_sound`, `separable_paren`, `separable_op_word` say what `separable` means and which pairs
   always are;
3. `text_main_partial` — for every parse tree of the C grammar satisfying the hypotheses of `main_partial`, without a
   `defined` operator (that operator is replaced by the macro expander, not by the evaluator), and every admissible layout
   of its source tokens: lexer model then evaluator model give the ISO C truth value.  `text_cond_partial`
   (`Props/C02TextCond.lean`) adds the macro expander the end-to-end models run in between (`PP.condValue`), for every
   object-like macro table that defines none of the identifiers of the expression; `Props/C02Defined.lean` removes both
   restrictions (`defined` anywhere, identifiers that are object-like macros).

Lemmas: `Lemmas/EvalFlags.lean`, `Lemmas/LexLayout.lean`.
-/
namespace CbiVerif.C02
open CbiVerif.PP CbiVerif.Climb CbiVerif.CExpr CbiVerif.Eval CbiVerif.EvalBridge CbiVerif.LexLayout

/-! ## 1. the evaluator reads kind and text only -/

/-- Two token lists that agree in kinds and texts (and may differ in every `prev_white` / `expandable` flag) get the same
    value with the same number of unconsumed tokens, hence the same truth value or the same failure. -/
theorem evaluator_ignores_flags (ts ts' : List Tok)
    (h : ts.map (fun t => (t.kind, t.text)) = ts'.map (fun t => (t.kind, t.text))) :
    cbiEval ts = cbiEval ts' ∧ EvalFlags.mapRes (cbiExpr ts) = EvalFlags.mapRes (cbiExpr ts') ∧
    evaluatePP ts = evaluatePP ts' := by
  have e := EvalFlags.erase_of_key ts ts' h
  refine ⟨?_, ?_, ?_⟩
  · rw [← EvalFlags.cbiEval_erase ts, ← EvalFlags.cbiEval_erase ts', e]
  · rw [← EvalFlags.cbiExpr_erase ts, ← EvalFlags.cbiExpr_erase ts', e]
  · simp only [evaluatePP, e]

/-- erasing the flags (what `Eval.evaluatePP` does before it calls the evaluator) changes nothing -/
theorem evaluator_ignores_flags_erase (ts : List Tok) :
    cbiEval (ts.map eraseFlags) = cbiEval ts ∧ cbiExpr (ts.map eraseFlags) = EvalFlags.mapRes (cbiExpr ts) :=
  ⟨EvalFlags.cbiEval_erase ts, EvalFlags.cbiExpr_erase ts⟩

/-- non-vacuity: `f ( 1 , 2 ) + - 3` with every flag set differently; a residual call, so the argument-list parser is
    exercised as well -/
example :
    let ts : List Tok := [⟨.ident, "f", true, false⟩, ⟨.punct, "(", false, true⟩, ⟨.num, "1", true, true⟩, ⟨.punct, ",", true, false⟩,
      ⟨.num, "2", false, false⟩, ⟨.punct, ")", true, true⟩, ⟨.op, "+", true, true⟩, ⟨.op, "-", false, false⟩, ⟨.num, "3", true, true⟩]
    cbiExpr ts = .ok (⟨false, -3⟩, []) ∧ cbiExpr (ts.map eraseFlags) = .ok (⟨false, -3⟩, []) ∧ ts ≠ ts.map eraseFlags := by
  decide +kernel

/-! ## 2. the lexer reads every admissible layout -/

/-- token-list form: any list of tokens of the accepted classes, any admissible layout -/
theorem lexer_reads_layout (ts : List Tok) (h : ∀ t ∈ ts, LexRT.lexOK t = true) (w : Layout)
    (hw : admissible w ts = true) : tokenize (layout w ts) = flagged w ts :=
  tokenize_layout w ts h hw

/-- … in particular kinds and texts are those of the list, in order, nothing dropped, split or merged -/
theorem lexer_reads_layout_tokens (ts : List Tok) (h : ∀ t ∈ ts, LexRT.lexOK t = true) (w : Layout)
    (hw : admissible w ts = true) :
    (tokenize (layout w ts)).map (fun t => (t.kind, t.text)) = ts.map (fun t => (t.kind, t.text)) := by
  rw [tokenize_layout w ts h hw]
  exact flagged_key w ts hw

/-- the layout of `lexer_roundtrip` (one blank around every token) and the tightest layout (a blank only between two tokens
    that are not separable) are admissible for every token list: `lexer_reads_layout` contains `lexer_roundtrip` -/
theorem extreme_layouts_admissible (ts : List Tok) :
    admissible (blanks ts.length) ts = true ∧ admissible (tight ts) ts = true :=
  ⟨blanks_admissible ts, tight_admissible ts⟩

/-- two tokens written with nothing between them are read as exactly those two tokens -/
theorem separable_sound (t1 t2 : Tok) (h1 : LexRT.lexOK t1 = true) (h2 : LexRT.lexOK t2 = true)
    (hs : separable t1 t2 = true) :
    tokenize (String.ofList (LexRT.spellChars t1 ++ LexRT.spellChars t2)) =
      [⟨t1.kind, t1.text, false, true⟩, ⟨t2.kind, t2.text, false, true⟩] := by
  have := tokenize_layout ⟨[], [[], []]⟩ [t1, t2] (by intro t ht; simp at ht; rcases ht with rfl | rfl <;> assumption)
    (by simp [admissible, gapsOK, hs])
  simpa [layout, body, flagged, flag] using this

/-- `(` and `)` need no white space on either side, whatever token is next to them -/
theorem separable_paren (t : Tok) (ht : LexRT.lexOK t = true) :
    separable lpTok t = true ∧ separable rpTok t = true ∧ separable t lpTok = true ∧ separable t rpTok = true :=
  LexLayout.separable_paren t ht

/-- an operator needs no white space before an integer constant, an identifier or a character constant -/
theorem separable_op_word (o t : Tok) (ho : o.kind = .op) (ht : LexRT.lexOK t = true)
    (hk : t.kind = .num ∨ t.kind = .ident ∨ t.kind = .chr) : separable o t = true :=
  LexLayout.separable_op_word o t ho ht hk

/-- what is NOT separable (the lexer would read something else), and what is: the regenerated lists decide -/
example :
    separable (opTok "<") (opTok "<") = false ∧ separable (opTok "<") (opTok "=") = false ∧
    separable (opTok "&") (opTok "&") = false ∧ separable (opTok "!") (opTok "=") = false ∧
    separable (numTok "1") (numTok "2") = false ∧ separable (identTok "a") (numTok "1") = false ∧
    separable (numTok "0x1e") (opTok "+") = false ∧ separable (numTok "1") (identTok "u") = false ∧
    separable (numTok "0x1f") (opTok "+") = true ∧ separable (numTok "1") (opTok "+") = true ∧
    separable (opTok "<") (opTok "-") = true ∧ separable (opTok "-") (opTok "!") = true ∧
    separable (opTok "<<") (opTok "~") = true ∧ separable (chrTok "a") (identTok "b") = true ∧
    separable (opTok "?") (opTok ":") = true ∧ separable (identTok "defined") lpTok = true := by decide +kernel

/-- the same pairs through the lexer: `1<<2`, `0x1f+1` are read token by token, `0x1e+1` is ONE pp-number (as in ISO C) -/
example :
    (tokenize "1<<2").map (·.text) = ["1", "<<", "2"] ∧ (tokenize "0x1f+1").map (·.text) = ["0x1f", "+", "1"] ∧
    (tokenize "0x1e+1").map (·.text) = ["0x1e+1"] ∧
    cGlue (opTok "-") (opTok "-") = true ∧ cGlue (opTok "+") (opTok "+") = true ∧ cGlue (opTok "-") (opTok "+") = false ∧
    cGlue (opTok "/") (opTok "*") = true ∧ cGlue (identTok "L") (chrTok "a") = true := by decide +kernel

/-- source tokens of a parse tree: every admissible layout of the text is read back as the tokens of the tree -/
theorem lexer_reads_source_layout (a : CExpr.Ast) (h : LexSource.lexable a = true) (w : Layout)
    (hw : admissible w (renderSrc a) = true) : tokenize (layout w (renderSrc a)) = flagged w (renderSrc a) :=
  lexer_reads_layout _ (LexSource.renderSrc_ok a h) w hw

/-! ## 3. text → truth value -/

/-- without `defined`, the tokens the evaluator receives are the source tokens -/
theorem render_eq_renderSrc (env : Env) (a : CExpr.Ast) (h : noDefined a = true) : render env a = renderSrc a := by
  unfold render
  induction a with
  | lit l => rfl
  | chr c => rfl
  | ident n => rfl
  | defd n p => exact absurd h Bool.false_ne_true
  | paren a ih => simp only [toClimb, Climb.Ast.render, renderSrc, ih h]
  | un op a ih => simp only [toClimb, Climb.Ast.render, renderSrc, ih h]
  | bin op l r ihl ihr =>
    obtain ⟨h1, h2⟩ := Bool.and_eq_true_iff.mp h
    simp only [toClimb, Climb.Ast.render, renderSrc, ihl h1, ihr h2]
  | tern c t e ihc iht ihe =>
    obtain ⟨h12, h3⟩ := Bool.and_eq_true_iff.mp h
    obtain ⟨h1, h2⟩ := Bool.and_eq_true_iff.mp h12
    simp only [toClimb, Climb.Ast.render, renderSrc, ihc h1, iht h2, ihe h3]

theorem cEval_noDefined (env env' : Env) (a : CExpr.Ast) (h : noDefined a = true) : cEval env a = cEval env' a := by
  induction a with
  | lit l => rfl
  | chr c => rfl
  | ident n => rfl
  | defd n p => exact absurd h Bool.false_ne_true
  | paren a ih => exact ih h
  | un op a ih => simp only [cEval, ih h]
  | bin op l r ihl ihr =>
    obtain ⟨h1, h2⟩ := Bool.and_eq_true_iff.mp h
    by_cases hland : op = .land
    · subst hland; simp only [cEval, ihl h1, ihr h2]
    · by_cases hlor : op = .lor
      · subst hlor; simp only [cEval, ihl h1, ihr h2]
      · rw [EvalMain.cEval_strict hland hlor, EvalMain.cEval_strict hland hlor, ihl h1, ihr h2]
  | tern c t e ihc iht ihe =>
    obtain ⟨h12, h3⟩ := Bool.and_eq_true_iff.mp h
    obtain ⟨h1, h2⟩ := Bool.and_eq_true_iff.mp h12
    simp only [cEval, ihc h1, iht h2, ihe h3]

/-- `main_partial` for every token list with the kinds and texts of `render env a` (what a lexer or an expander returns for
    the tree, whatever the flags), also for the evaluator as the end-to-end models call it -/
theorem main_partial_key (env : Env) (a : CExpr.Ast) (v : CExpr.Val) (hg : a.grammatical = true)
    (hc : a.constsOK = true) (hk8 : usesBigUnsuffixed a = false) (hv : cEval env a = some v) (ts : List Tok)
    (hK : ts.map (fun t => (t.kind, t.text)) = (render env a).map (fun t => (t.kind, t.text))) :
    cbiEval ts = .ok v.truth ∧ evaluatePP ts = .ok v.truth := by
  obtain ⟨h1, _, h3⟩ := evaluator_ignores_flags _ _ hK
  rw [h1, h3]
  simp only [evaluatePP, EvalFlags.cbiEval_erase, main_partial env a v hg hc hk8 hv, and_self]

/-- the full statement at the level of the text: for every well-formed parse tree (with `defined`, with D8 constants), every
    macro table that defines none of its identifiers, every admissible layout — lexer, expander and evaluator give the C
    truth value.  (`PP.condValue` is what the end-to-end models of C01/C04/C08/C10/C17/C18 execute.)
    State: proved outside D8 (`cond_defined_partial`, `Props/C02Defined.lean`, which also lets the operand of `defined` be a
    macro name; `cond_objmacro_partial` adds identifiers that ARE object-like macros, for object-like tables).
    Open: D8 only (`main_refuted`): `text_main_outside_D8_partial` (`Props/C02Defined.lean`) proves the statement for EVERY
    table — function-like macros, `defined` in replacement lists, any size — because an expression none of whose identifiers
    names a macro never makes the expander consult the table except through `defined`.
    (The side condition "no identifier LEAF is spelled `defined`" is needed: the lone word
    `defined` is not a C expression, the expander rejects it, while the tree `.ident "defined"` has the C value 0 —
    `text_main_needs_no_defined_leaf`.) -/
def text_main : Prop :=
  ∀ (tbl : Table) (a : CExpr.Ast) (v : CExpr.Val) (w : Layout), a.grammatical = true → a.constsOK = true →
    LexSource.lexable a = true → (∀ n ∈ CbiVerif.CondFrag.identLeaves a, n ≠ "defined") →
    (∀ t ∈ renderSrc a, t.kind = .ident → t.text ≠ "defined" → tbl.get t.text = none) →
    cEval (fun n => (tbl.get n).isSome) a = some v → admissible w (renderSrc a) = true →
    condValue tbl (tokenize (layout w (renderSrc a))) = .ok v.truth

/-- **Text-level main theorem (proved part).**  For every parse tree `a` of the C grammar that satisfies the hypotheses of
    `main_partial` (grammatical, legal constants, outside the recorded class D8, a C value `v` in its evaluated positions),
    whose leaves are single lexer tokens and which contains no `defined` operator, and for EVERY admissible white-space layout
    `w` of its source tokens: lexing the TEXT with the lexer model and evaluating the tokens with the evaluator model gives
    the ISO C truth value of `a`.
    Missing for `text_main`: the macro expander between lexer and evaluator (`text_cond_partial` adds it for object-like
    tables and `defined`-free trees; `cond_defined_partial` / `cond_objmacro_partial` in `Props/C02Defined.lean` close the
    `defined` operator — in any position, operand any identifier, macro names included — and identifiers that ARE object-like
    macros); still open: the class D8 (and, for identifiers that are macros, function-like tables). -/
theorem text_main_partial (env : Env) (a : CExpr.Ast) (v : CExpr.Val) (w : Layout)
    (hg : a.grammatical = true) (hc : a.constsOK = true) (hk8 : usesBigUnsuffixed a = false)
    (hv : cEval env a = some v) (hl : LexSource.lexable a = true) (hd : noDefined a = true)
    (hw : admissible w (renderSrc a) = true) :
    cbiEval (tokenize (layout w (renderSrc a))) = .ok v.truth ∧
    evaluatePP (tokenize (layout w (renderSrc a))) = .ok v.truth := by
  refine main_partial_key env a v hg hc hk8 hv _ ?_
  rw [render_eq_renderSrc env a hd]
  exact lexer_reads_layout_tokens (renderSrc a) (LexSource.renderSrc_ok a hl) w hw

/-! ## 4. non-vacuity -/

/-- `-7/2==-3&&(1?2u:0)>-1||!X` written as tightly as the lexer allows, with tabs and several blanks, and with
    one blank everywhere: the three layouts are admissible (also for ISO C), give three different texts, and each text is
    evaluated to the C value of the tree -/
def sampleT : CExpr.Ast :=
  .bin .lor
    (.bin .land
      (.bin .eq (.bin .div (.un .neg (num 7)) (num 2)) (.un .neg (num 3)))
      (.bin .gt (.paren (.tern (num 1) (numU 2) (num 0))) (.un .neg (num 1))))
    (.un .lnot (.ident "X"))

def wLoose : Layout :=
  ⟨['\t'], [[' ', ' '], [], ['\t'], [], [' '], [], [], [' ', '\t', ' '], [], [], [' '], [], [' '], [], [], [], ['\t', '\t'], [], [], [], [' ']]⟩

/-- the hypotheses of `text_main_partial` for `sampleT` -/
theorem sampleT_ok : sampleT.grammatical = true ∧ sampleT.constsOK = true ∧ usesBigUnsuffixed sampleT = false ∧
    LexSource.lexable sampleT = true ∧ noDefined sampleT = true ∧ (renderSrc sampleT).length = 21 ∧
    cEval envNone sampleT = some (Val.ofBool true) := by decide +kernel

example : sampleT.grammatical = true ∧ sampleT.constsOK = true ∧ usesBigUnsuffixed sampleT = false ∧
    LexSource.lexable sampleT = true ∧ noDefined sampleT = true ∧ (renderSrc sampleT).length = 21 ∧
    cEval envNone sampleT = some (Val.ofBool true) := sampleT_ok

theorem sampleT_eval (w : Layout) (hw : admissible w (renderSrc sampleT) = true) :
    cbiEval (tokenize (layout w (renderSrc sampleT))) = .ok true :=
  (text_main_partial envNone sampleT _ w sampleT_ok.1 sampleT_ok.2.1 sampleT_ok.2.2.1 sampleT_ok.2.2.2.2.2.2
    sampleT_ok.2.2.2.1 sampleT_ok.2.2.2.2.1 hw).1

theorem tight_sampleT : tight (renderSrc sampleT) = ⟨[], List.replicate 21 []⟩ := by decide +kernel
theorem wLoose_ok : admissible wLoose (renderSrc sampleT) = true := by decide +kernel

example : cAdmissible (tight (renderSrc sampleT)) (renderSrc sampleT) = true ∧
    layout (tight (renderSrc sampleT)) (renderSrc sampleT) = "-7/2==-3&&(1?2u:0)>-1||!X" ∧
    cbiEval (tokenize (layout (tight (renderSrc sampleT)) (renderSrc sampleT))) = .ok true := by
  refine ⟨?_, ?_, sampleT_eval _ (tight_admissible _)⟩
  · rw [cAdmissible, tight_admissible, tight_sampleT]; decide +kernel
  · rw [tight_sampleT]; decide +kernel

example : cAdmissible wLoose (renderSrc sampleT) = true ∧
    layout wLoose (renderSrc sampleT) = "\t-  7/\t2== -3&& \t (1? 2u: 0)>-\t\t1||!X " ∧
    cbiEval (tokenize (layout wLoose (renderSrc sampleT))) = .ok true ∧
    (tokenize (layout wLoose (renderSrc sampleT))).map (·.pw) =
      [true, true, false, true, false, true, false, false, true, false, false, true, false, true, false, false, false, true,
       false, false, false] := by
  refine ⟨?_, by decide +kernel, sampleT_eval _ wLoose_ok, ?_⟩
  · rw [cAdmissible, wLoose_ok]; decide +kernel
  · rw [lexer_reads_layout _ (LexSource.renderSrc_ok _ sampleT_ok.2.2.2.1) _ wLoose_ok]; decide +kernel

example : admissible (blanks (renderSrc sampleT).length) (renderSrc sampleT) = true ∧
    layout (blanks (renderSrc sampleT).length) (renderSrc sampleT) =
      " - 7 / 2 == - 3 && ( 1 ? 2u : 0 ) > - 1 || ! X " := ⟨blanks_admissible _, by decide +kernel⟩

/-- hypotheses of `lexer_reads_layout` / `lexer_reads_source_layout` for `sampleT` in the loose layout -/
example : (renderSrc sampleT).all LexRT.lexOK = true ∧ admissible wLoose (renderSrc sampleT) = true ∧
    tokenize (layout wLoose (renderSrc sampleT)) = flagged wLoose (renderSrc sampleT) :=
  have h := LexSource.renderSrc_ok _ sampleT_ok.2.2.2.1
  ⟨List.all_eq_true.mpr h, wLoose_ok, lexer_reads_layout _ h _ wLoose_ok⟩

/-- hypotheses of `separable_sound`, `separable_paren`, `separable_op_word`: `2u` directly before `<<`, `~` directly before `'a'` -/
example : LexRT.lexOK (numTok "2u") = true ∧ LexRT.lexOK (opTok "<<") = true ∧ separable (numTok "2u") (opTok "<<") = true ∧
    (tokenize "2u<<").map (fun t => (t.kind, t.text, t.pw)) = [(.num, "2u", false), (.op, "<<", false)] ∧
    LexRT.lexOK (chrTok "a") = true ∧ (opTok "~").kind = .op ∧ separable (opTok "~") (chrTok "a") = true ∧
    separable lpTok (chrTok "\\n") = true ∧ separable (numTok "0x1e") rpTok = true := by decide +kernel
/-- **Witness of an observation about the present code** (not a violation of C02: the text is not a well-formed C
    expression).  As long as `Lexer.operator` has no `--`, the code reads `1--1` as `1 - - 1` and evaluates it to 2 (true); ISO C
    reads `--` (longest match) and rejects the directive.  Hence the tight layout of `1 - -1` is admissible for the code's
    lexer but not `cAdmissible`; with one blank (`1- -1`) it is.  (Stated under the condition on the regenerated list, so that
    adding `--` to `Lexer.operator` — a change towards C — does not break an obligation.) -/
theorem lexer_accepts_pair_C_joins : operators.contains "--" = false →
    (let ts := renderSrc (.bin .sub (num 1) (.un .neg (num 1)))
     admissible (tight ts) ts = true ∧ cAdmissible (tight ts) ts = false ∧ layout (tight ts) ts = "1--1" ∧
     (tokenize "1--1").map (·.text) = ["1", "-", "-", "1"] ∧ cbiEval (tokenize "1--1") = .ok true ∧
     cAdmissible ⟨[], [[], [' '], [], []]⟩ ts = true ∧ layout ⟨[], [[], [' '], [], []]⟩ ts = "1- -1") := by decide +kernel
-- (the condition holds for the list regenerated from the present code: `Gen.lexOperators` has no "--"; it is not restated as an
-- `example`, which would turn the addition of `--` to `Lexer.operator` into a failed obligation)

end CbiVerif.C02
