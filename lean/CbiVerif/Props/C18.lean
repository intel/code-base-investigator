import CbiVerif.Lemmas.FindIncDir
import CbiVerif.Lemmas.Warn
/-! # C18 — nothing is dropped silently: unhonoured input is always reported.

Model: the warning events of `Model/FindInc.lean` (unresolved include nodes, unknown directives of parsed
files) and `Model/Warn.lean` (database-level events; the `WarningAggregator` with the regexes, messages and
counted level regenerated from the code into `Generated/Logging.lean`).  The driver ops `findinc`,
`warncount`, `warnrender`, `dbevents`, `dirwarns` execute these definitions. -/
namespace CbiVerif.C18
open CbiVerif.PP (PNode Tok Table Entry)
open CbiVerif.Cond CbiVerif.MF CbiVerif.IncludeSearch CbiVerif.IncMemo CbiVerif.Inc CbiVerif.Warn

/-! ## one_warning_per_unresolved_visit -/

/-- **Whole analysis.**  For every file system, code base, configuration and include-depth bound: the include
warnings issued are exactly the evaluated include directives whose request the compiler's rule (computed
without the memo) does not resolve — in order, one per visit, carrying file, line, requested name and form. -/
theorem one_warning_per_unresolved_visit (fs : FS) (codebase : List String) (config : List (String × List Entry)) (fuel : Nat) :
    let st := Inc.find fs codebase config fuel
    st.warns = st.visits.filter (fun v => v.spec.isNone) ∧
    ∀ v ∈ st.visits, v.spec = resolveM fs.env v.paths ⟨v.name, dirnameK v.file, v.sys⟩ :=
  let h := find_inv fs codebase config fuel
  ⟨h.warns, h.ghost⟩

/-- the counts per kind (`k = true`: system / angle form, `k = false`: user / quote form) -/
theorem warning_count_per_kind (fs : FS) (codebase : List String) (config : List (String × List Entry)) (fuel : Nat) (k : Bool) :
    let st := Inc.find fs codebase config fuel
    (st.warns.filter (fun v => v.sys == k)).length =
      (st.visits.filter (fun v => v.spec.isNone && v.sys == k)).length := by
  have h := (find_inv fs codebase config fuel).warns
  simp only [unresolved] at h
  simp only [h, List.filter_filter]
  congr 2
  funext v
  exact Bool.and_comm _ _

/-- **Every program and history.**  Processing any file at any depth from any world whose memo is sound (i.e.
is the result of earlier look-ups, successful or failed) keeps "warnings = unresolved visits". -/
theorem one_warning_per_unresolved_visit_file (fs : FS) (pfs : ParsedFS) (fuel : Nat) (file : String) (w : World)
    (h : WarnInv fs w) : WarnInv fs (assocFile (ops fs pfs) fuel file w) :=
  (warnInv fs pfs).file fuel trivial h

/-- a memoised failure does not suppress a later warning: whatever the (sound) memo holds, an include
directive the compiler's rule cannot resolve appends exactly one warning naming file, line, name and form -/
theorem unresolved_include_warns (fs : FS) (pfs : ParsedFS) (file : String) (w : World) (idx : Nat) (n : PNode)
    (h : WarnInv fs w) (path : String) (sys : Bool) (ht : includeTarget w.plat.tbl n.toks = .ok (path, sys))
    (hnone : resolveM fs.env w.plat.incPaths ⟨path, dirnameK file, sys⟩ = none) :
    (includeStep true fs pfs file w idx n).2.st.warns =
      w.st.warns ++ [⟨file, idx, n.lines.headD 0, path, sys, w.plat.incPaths, none⟩] := by
  obtain ⟨h1, _⟩ := lookupWith_true_spec fs w.plat.incPaths w.plat.memo ⟨path, dirnameK file, sys⟩ h.sound
  simp only [includeStep, ht, h1, hnone]

/-- a resolvable include never warns, whatever was looked up (and failed) before -/
theorem resolvable_include_silent (fs : FS) (pfs : ParsedFS) (file : String) (w : World) (idx : Nat) (n : PNode)
    (h : WarnInv fs w) (path : String) (sys : Bool) (ht : includeTarget w.plat.tbl n.toks = .ok (path, sys))
    (inc : String) (hsome : resolveM fs.env w.plat.incPaths ⟨path, dirnameK file, sys⟩ = some inc) :
    (includeStep true fs pfs file w idx n).2.st.warns = w.st.warns := by
  obtain ⟨h1, _⟩ := lookupWith_true_spec fs w.plat.incPaths w.plat.memo ⟨path, dirnameK file, sys⟩ h.sound
  simp only [includeStep, ht, h1, hsome]
  split
  · rfl
  · split
    · exact (insertFile_frame _ pfs _).1
    · exact (insertFile_frame _ pfs _).1

/-- **forced includes** (fix c7a50cc): a `-include NAME` that the compiler's rule (quote search from the source file's
directory, then the command's directories) cannot resolve appends exactly one warning — user-include kind, the
entry's source file, line 0, the requested name — and processes nothing -/
theorem forced_missing_warns (fs : FS) (pfs : ParsedFS) (run : String → World → World) (src : String) (w : World) (inc : String)
    (h : WarnInv fs w) (herr : w.st.err = none)
    (hnone : resolveM fs.env w.plat.incPaths ⟨inc, dirnameK src, false⟩ = none) :
    let w' := forcedWith true run fs pfs src w inc
    w'.st.warns = w.st.warns ++ [⟨src, 0, 0, inc, false, w.plat.incPaths, none⟩] ∧
    w'.st.assoc = w.st.assoc ∧ w'.st.inserted = w.st.inserted ∧ w'.plat.tbl = w.plat.tbl ∧ w'.plat.skip = w.plat.skip := by
  obtain ⟨h1, _⟩ := lookupWith_true_spec fs w.plat.incPaths w.plat.memo ⟨inc, dirnameK src, false⟩ h.sound
  simp [forcedWith, herr, h1, hnone]

/-- its message, as rendered for the log and counted by the aggregator in the user-include category -/
example : render { kind := .userInclude, file := "/r/src/a.c", line := 0, name := "nothere.h", spelling := "-include nothere.h" } =
    "/r/src/a.c:0: user include 'nothere.h' not found\n    0 | -include nothere.h" := by
  apply congrArg String.ofList
  decide +kernel

/-- a forced include that resolves does not warn for itself, whatever the memo holds: the world handed on (to the
processing of the file, or kept as it is when the file is once-listed / cannot be parsed) has the warnings of before -/
theorem forced_found_silent (fs : FS) (pfs : ParsedFS) (run : String → World → World) (src : String) (w : World) (inc f : String)
    (h : WarnInv fs w) (herr : w.st.err = none)
    (hsome : resolveM fs.env w.plat.incPaths ⟨inc, dirnameK src, false⟩ = some f) :
    ∃ w2 : World, w2.st.warns = w.st.warns ∧
      (forcedWith true run fs pfs src w inc = w2 ∨ forcedWith true run fs pfs src w inc = run (fs.realpath f) w2) := by
  obtain ⟨h1, _⟩ := lookupWith_true_spec fs w.plat.incPaths w.plat.memo ⟨inc, dirnameK src, false⟩ h.sound
  have h0 : w.st.err.isSome = false := by simp [herr]
  unfold forcedWith
  simp only [h0, Bool.false_eq_true, if_false, h1, hsome]
  split
  · refine ⟨_, ?_, Or.inl rfl⟩
    rfl
  · split
    · refine ⟨_, ?_, Or.inl rfl⟩
      exact (insertFile_frame _ pfs _).1
    · refine ⟨_, ?_, Or.inr rfl⟩
      exact (insertFile_frame _ pfs _).1

/-- the memo keyed by spelling only (pinned tree, D13) violates it: after a failed `<x.h>` the resolvable
`"x.h"` is answered `none` (→ spurious warning) -/
def envEx : Env := { isfile := fun p => p == "a/x.h", join := fun d n => d ++ "/" ++ n }

theorem spelling_key_spurious_warning :
    runBy (fun q => q.name) (resolveM envEx []) [] [⟨"x.h", "q", true⟩, ⟨"x.h", "a", false⟩] = [none, none] ∧
    resolveM envEx [] ⟨"x.h", "a", false⟩ = some "a/x.h" := by decide

/-- non-vacuity: worlds with a non-trivial sound memo exist (a memoised failure) -/
example (fs : FS) (h : resolveM fs.env ["i"] ⟨"y.h", "d", true⟩ = none) :
    WarnInv fs { st := {}, plat := { name := "p", incPaths := ["i"], memo := [(("y.h", none), none)] } } := by
  -- the memo that one look-up of `<y.h>` leaves
  have hs := (findBy_spec Query.key _ (key_determines fs.env ["i"]) [] ⟨"y.h", "d", true⟩ (sound_nil _ _)).2
  rw [findBy, h] at hs
  exact ⟨hs, StInv.empty fs⟩

/-! ## unknown_directive_once_per_occurrence -/

/-- the list of directives that are unknown but deliberately not reported (regenerated from the code) -/
theorem unhandled_exact : CbiVerif.Gen.unhandledDirectives = ["line", "warning", "error"] := rfl

/-- one warning per occurrence of an unknown directive, none for anything else: the events of a file are the
directive lines that are unrecognised, have a name token and are not `#line/#warning/#error`, in source order,
each carrying the file, the line, the directive name and its spelling -/
theorem unknown_directive_once_per_occurrence (file : String) (ds : List Directive) :
    (directiveEvents file ds).map (fun e => (e.kind, e.file, e.line, e.name, e.spelling)) =
      (ds.filter fun d => !d.recognised && decide (d.ntokens ≥ 2) && !["line", "warning", "error"].contains d.name).map
        (fun d => (Kind.unknownDirective, file, d.line, d.name, d.spelling)) := by
  simp only [directiveEvents, List.map_map, Function.comp_def]
  rfl

theorem unknown_directive_count (file : String) (ds : List Directive) :
    (directiveEvents file ds).length = (ds.filter Directive.warns).length := by
  simp [directiveEvents]

theorem line_warning_error_silent (d : Directive) (h : d.name = "line" ∨ d.name = "warning" ∨ d.name = "error") :
    d.warns = false := by
  rcases h with h | h | h <;> simp [Directive.warns, unhandled_exact, h]

theorem recognised_silent (d : Directive) (h : d.recognised = true) : d.warns = false := by
  simp [Directive.warns, h]

theorem unknown_warns (d : Directive) (hr : d.recognised = false) (hn : d.ntokens ≥ 2)
    (hl : d.name ≠ "line" ∧ d.name ≠ "warning" ∧ d.name ≠ "error") : d.warns = true := by
  simp [Directive.warns, unhandled_exact, hr, hn, hl.1, hl.2.1, hl.2.2]

example : (⟨3, false, 3, "foo", "#foo bar"⟩ : Directive).warns = true := by decide
example : (⟨3, false, 2, "line", "#line 7"⟩ : Directive).warns = false := by decide

/-- **Whole analysis.**  Every file is parsed at most once (`state.trees` is keyed by real path), so the
unknown-directive warnings of an analysis are the per-file batches of the files parsed, each batch once. -/
theorem unknown_directive_once_per_file (fs : FS) (codebase : List String) (config : List (String × List Entry)) (fuel : Nat) :
    let st := Inc.find fs codebase config fuel
    st.dwarns = st.inserted.flatMap (fileEvents (parseAll fs)) ∧ st.inserted.Nodup :=
  let h := find_dinv fs codebase config fuel
  ⟨h.dwarns, h.nodup⟩

/-! ## totals_eq_counts -/

/-- the patterns of the aggregator are, in order: any character, the user phrase, the system phrase — the very
phrases the producer of the include warning uses (both sides regenerated from the code) -/
theorem aggregator_patterns :
    CbiVerif.Gen.metaWarnings.map (·.1) = [".", CbiVerif.Gen.includeKindUser, CbiVerif.Gen.includeKindSystem] := rfl

/-- each closing message names its own category (labels not swapped) -/
theorem labels_consistent :
    (CbiVerif.Gen.metaWarnings.map fun mw => containsSub mw.2.toList (mw.1 ++ " files could not be found").toList) =
      [false, true, true] ∧
    (CbiVerif.Gen.metaWarnings.head?.map fun mw => containsSub mw.2.toList " warnings generated".toList) = some true := by
  simp only [Gen.metaWarnings, List.map_cons, List.map_nil, List.head?_cons, Option.map_some, String.toList_append]
  -- the characters of the literals, without decoding them (head of `Lemmas/Warn.lean`)
  repeat rw [String.toList_ofList]
  decide +kernel

/-- the aggregator counts records of level WARNING (and only those, see `only_warnings_counted`) -/
theorem aggregator_counts_warning_level : CbiVerif.Gen.aggregatorLevel = "WARNING" := rfl

/-- **Printed totals = numbers of warnings issued per category**, for every list of issued events, under the
hypothesis that no message contains the phrase of a category it does not belong to. -/
theorem totals_eq_counts (es : List Event)
    (hU : ∀ e ∈ es, e.kind ≠ .userInclude → containsSub (renderL e) CbiVerif.Gen.includeKindUser.toList = false)
    (hS : ∀ e ∈ es, e.kind ≠ .systemInclude → containsSub (renderL e) CbiVerif.Gen.includeKindSystem.toList = false) :
    counts (recordsOf es) =
      [es.length, (es.filter fun e => e.kind == .userInclude).length, (es.filter fun e => e.kind == .systemInclude).length] := by
  refine counts_of_categories renderL es (fun e _ => ?_) (fun e he => ?_) (fun e he => ?_)
  · rw [matchesRegex_dot]; exact renderL_visible e
  · rw [matchesRegex_phrase user_phrase_ne_dot]
    by_cases hk : e.kind = .userInclude
    · simp only [hk, beq_self_eq_true, renderL]; exact include_contains_phrase false e
    · rw [hU e he hk]; simp [hk]
  · rw [matchesRegex_phrase system_phrase_ne_dot]
    by_cases hk : e.kind = .systemInclude
    · simp only [hk, beq_self_eq_true, renderL]; exact include_contains_phrase true e
    · rw [hS e he hk]; simp [hk]

/-- the closing lines print exactly those counters (a zero counter prints nothing) -/
theorem closing_prints_counts (rs : List Record) :
    closing rs = (CbiVerif.Gen.metaWarnings.zip (counts rs)).filterMap fun p =>
      if p.2 == 0 then none else some (fillIn p.1.2 p.2) := by
  simp only [closing, counts, List.zip_map_right, List.filterMap_map]
  rfl

/-- non-vacuity of `totals_eq_counts`: a mixed list of events satisfying the hypothesis -/
def evsEx : List Event :=
  [{ kind := .userInclude, file := "/r/a.c", line := 3, name := "x.h", spelling := "#include \"x.h\"" },
   { kind := .systemInclude, file := "/r/a.c", line := 4, name := "y.h", spelling := "#include <y.h>" },
   { kind := .unknownDirective, file := "/r/a.c", line := 5, col := 1, name := "foo", spelling := "#foo" },
   { kind := .unknownArgs, name := "-Wall -frob" }]

example : (∀ e ∈ evsEx, e.kind ≠ .userInclude → containsSub (renderL e) CbiVerif.Gen.includeKindUser.toList = false) ∧
    (∀ e ∈ evsEx, e.kind ≠ .systemInclude → containsSub (renderL e) CbiVerif.Gen.includeKindSystem.toList = false) := by
  decide +kernel

/-- **Finding D30** (the complement of the hypothesis): a user-include warning for a file whose path contains
the words "system include" is counted in the system total as well -/
theorem d30_witness :
    ∃ es : List Event, counts (recordsOf es) ≠
      [es.length, (es.filter fun e => e.kind == .userInclude).length, (es.filter fun e => e.kind == .systemInclude).length] :=
  ⟨[{ kind := .userInclude, file := "/r/system include/a.c", line := 1, name := "x.h", spelling := "#include \"x.h\"" }], by decide +kernel⟩

/-! ## quiet_when_honoured -/

/-- if every evaluated include directive resolves, no include warning is issued … -/
theorem quiet_when_honoured (fs : FS) (codebase : List String) (config : List (String × List Entry)) (fuel : Nat)
    (h : ∀ v ∈ (Inc.find fs codebase config fuel).visits, v.spec.isSome = true) :
    (Inc.find fs codebase config fuel).warns = [] := by
  rw [(find_inv fs codebase config fuel).warns, unresolved, List.filter_eq_nil_iff]
  intro v hv
  have := h v hv
  cases hs : v.spec <;> simp_all

/-- … if no parsed file has a reportable unknown directive, no directive warning … -/
theorem quiet_directives (file : String) (ds : List Directive) (h : ∀ d ∈ ds, d.warns = false) :
    directiveEvents file ds = [] := by
  simp only [directiveEvents, List.map_eq_nil_iff, List.filter_eq_nil_iff]
  intro d hd
  simp [h d hd]

/-- … if every supported database entry names an existing file, a known compiler and only known options (and
there is at least one such entry), no database warning … -/
theorem quiet_database (dbpath : String) (es : List DbEntry)
    (h : ∀ e ∈ es, e.supported = true → e.exists_ = true ∧ e.known = true ∧ e.unrecognised = [])
    (hne : ∃ e ∈ es, e.supported = true) : dbEvents dbpath es = [] := by
  have h1 : es.flatMap entryEvents = [] := by
    rw [List.flatMap_eq_nil_iff]
    intro e he
    unfold entryEvents
    by_cases hs : e.supported = true
    · obtain ⟨a, b, c⟩ := h e he hs
      simp [hs, a, b, c]
    · simp [hs]
  obtain ⟨e, he, hs⟩ := hne
  have h2 : es.all (fun e => !e.supported || !e.exists_) = false := by
    rw [List.all_eq_false]
    exact ⟨e, he, by simp [hs, (h e he hs).1]⟩
  simp [dbEvents, h1, h2]

/-- … and without warnings the aggregator prints no closing line at all -/
theorem quiet_closing : counts [] = [0, 0, 0] ∧ closing [] = [] := by
  constructor <;> rfl

/-- records below WARNING (INFO, DEBUG) or above never move a counter -/
theorem only_warnings_counted (regex : String) (r : Record) (h : r.level ≠ "WARNING") : inspect regex r = false := by
  simp [inspect, level_is_warning, h]

/-! ### concrete non-vacuity examples (checked by evaluation) -/
/-- `/r/src/a.c` includes `<x.h>` (exists in `/r/inc`) and `<gone.h>` (nowhere) -/
def fsEx : FS := { files := [("/r/src/a.c", ""), ("/r/inc/x.h", "")] }
def nFound : PNode := { kind := .include, lines := [1], toks := [⟨.str, "../inc/x.h", true, true⟩] }
def tokGone : List Tok := [⟨.op, "<", true, true⟩, ⟨.ident, "gone", false, true⟩, ⟨.punct, ".", false, true⟩, ⟨.ident, "h", false, true⟩, ⟨.op, ">", false, true⟩]
def nGone : PNode := { kind := .include, lines := [2], toks := tokGone }
def w0 : World := { st := {}, plat := { name := "p", incPaths := ["/r/inc"] } }
private theorem w0_inv : WarnInv fsEx w0 := ⟨sound_nil _ _, StInv.empty fsEx⟩

example := unresolved_include_warns fsEx [] "/r/src/a.c" w0 1 nGone w0_inv "gone.h" true rfl (by decide +kernel)
example := resolvable_include_silent fsEx [] "/r/src/a.c" w0 0 nFound w0_inv "../inc/x.h" false rfl "/r/inc/x.h" (by decide +kernel)
/-- the second visit of the unresolvable include, now answered from the memo, warns again -/
example :
    let w1 := (includeStep true fsEx [] "/r/src/a.c" w0 1 nGone).2
    w1.plat.memo = [(("gone.h", none), none)] ∧
    ((includeStep true fsEx [] "/r/src/a.c" w1 1 nGone).2.st.warns.map fun v => (v.file, v.line, v.name, v.sys)) =
      [("/r/src/a.c", 2, "gone.h", true), ("/r/src/a.c", 2, "gone.h", true)] := by decide +kernel

/-- non-vacuity of the forced-include theorems: `-include nothere.h` / `-include x.h` for `/r/src/a.c` with `-I /r/inc` -/
example (run : String → World → World) := forced_missing_warns fsEx [] run "/r/src/a.c" w0 "nothere.h" w0_inv rfl (by decide +kernel)
example (run : String → World → World) := forced_found_silent fsEx [] run "/r/src/a.c" w0 "x.h" "/r/inc/x.h" w0_inv rfl (by decide +kernel)

example := line_warning_error_silent ⟨7, false, 3, "line", "#line 7"⟩ (.inl rfl)
example := unknown_warns ⟨7, false, 2, "ident", "#ident \"x\""⟩ rfl (by decide) (by decide)
example := quiet_directives "/r/a.c" [⟨1, true, 3, "define", "#define A 1"⟩, ⟨2, false, 2, "error", "#error e"⟩] (by decide)
example := quiet_database "/r/db.json" [⟨"/r/a.c", true, true, "gcc", true, [], 1⟩, ⟨"/r/x.o", false, false, "ld", false, [], 1⟩]
  (by decide) ⟨⟨"/r/a.c", true, true, "gcc", true, [], 1⟩, by simp, rfl⟩
example := only_warnings_counted "." ⟨"INFO", "Compiler 'gcc' recognized.".toList⟩ (by decide)
example : dbEvents "/r/db.json" [⟨"/r/gone.c", true, false, "gcc", true, [], 1⟩, ⟨"/r/a.c", true, true, "mycc", false, ["-Wall", "--weird"], 1⟩] =
    [{ kind := .missingFile, name := "/r/gone.c" }, { kind := .unknownCompiler, name := "mycc" }, { kind := .unknownArgs, name := "-Wall --weird" }] := by decide +kernel

end CbiVerif.C18
