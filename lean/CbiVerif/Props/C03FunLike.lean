import CbiVerif.Lemmas.MacroFunSim
import CbiVerif.Lemmas.MacroFunSimple
import CbiVerif.Lemmas.MacroObjSpec
import CbiVerif.Lemmas.LexLiteral
/-! # C03 — function-like macro expansion

Model `M` = `CbiVerif.MX.cbiExpand` (the step machine the driver executes).  Reference = `CbiVerif.MX.Ref` (recursive: collect the
call, expand every argument on its own, substitute, rescan with the macro's name disabled).  Fragment = `CbiVerif.MX.FunTbl`
(function-like macros without `#` / `##` / variadic parameters; object-like macros unrestricted) and `CbiVerif.MX.fitsb`
(decidable: every enabled function-like macro name met during the expansion — in the text, in an argument, in a substituted
replacement list — is followed, in the same token list, by a complete call with enough arguments or by a token other than `(`;
no `defined`; nesting budget `d` not exhausted).

* `funlike_partial` — model = reference on the fragment: arguments containing object-like and function-like macro names
  (pre-expansion), nested calls in arguments, function-like names in replacement lists completed inside the replacement list,
  self-reference (painted), any table size, any nesting budget below the limit;
* `terminates_funlike_partial` — `cost + 2` loop iterations suffice (`cost` is computed by the reference recursion);
* `no_backstop_funlike` — the `max_level` backstop plays no role: the run with limit `d + 2` gives the same result;
* `funlike_simple_partial`, `terminates_funlike_simple_partial`, `no_backstop_funlike_simple` — the syntactic sub-fragment
  (`SimpleTbl`, `simpleText`: arguments without macro names, replacement lists without function-like names) where the fragment
  condition and the fuel bound are *proved* (nesting budget `|tbl| + 1`, closed-form iteration bound inside `fuelFor`);
* `FunLikeFull` — what remains open, kept visible;
* against the specification itself: `Props/C03FunConf.lean` (`funlike_conforms_partial`, `funlike_simple_conforms_partial`). -/
namespace CbiVerif.C03
open CbiVerif.PP CbiVerif.MX

/-- **function-like fragment (model side)**: for every table whose function-like macros have no `#` / `##` / variadic parameter
    (`FunTbl`), every nesting budget `d` with `d + 1 < max_level` and every text inside the fragment for that budget (`fitsb`),
    whenever the granted fuel covers the reference's iteration bound, the stack machine returns exactly the recursive expansion
    `Ref` started with no name disabled — no error, no backstop, fuel not exhausted. -/
theorem funlike_partial (tbl : Table) (ts : List Tok) (d : Nat) (hT : FunTbl tbl) (hfit : fitsb tbl d [] ts = true)
    (hd : d + 1 < CbiVerif.Gen.maxLevel) (hfuel : cost tbl d [] ts + 2 ≤ fuelFor tbl ts) :
    cbiExpand tbl ts = .ok (Ref tbl d [] ts) :=
  expandWith_fun realCfg tbl rfl hT d ts hfit hd (fuelFor tbl ts) hfuel

/-- **termination (function-like fragment)**: `cost tbl d [] ts + 2` loop iterations suffice (any larger fuel gives the same result) -/
theorem terminates_funlike_partial (tbl : Table) (ts : List Tok) (d : Nat) (hT : FunTbl tbl) (hfit : fitsb tbl d [] ts = true)
    (hd : d + 1 < CbiVerif.Gen.maxLevel) (fuel : Nat) (hfuel : cost tbl d [] ts + 2 ≤ fuel) :
    expandWith realCfg tbl fuel ts = .ok (Ref tbl d [] ts) :=
  expandWith_fun realCfg tbl rfl hT d ts hfit hd fuel hfuel

/-- **no backstop (function-like fragment)**: the run with nesting limit `d + 2` gives the same result as the real limit -/
theorem no_backstop_funlike (tbl : Table) (ts : List Tok) (d : Nat) (hT : FunTbl tbl) (hfit : fitsb tbl d [] ts = true)
    (hd : d + 1 < CbiVerif.Gen.maxLevel) (hfuel : cost tbl d [] ts + 2 ≤ fuelFor tbl ts) :
    cbiExpand tbl ts = expandWith { lim := d + 2 } tbl (fuelFor tbl ts) ts := by
  rw [funlike_partial tbl ts d hT hfit hd hfuel]
  exact (expandWith_fun { lim := d + 2 } tbl rfl hT d ts hfit (Nat.lt_succ_self _) (fuelFor tbl ts) hfuel).symm

/-- the fragment on concrete definitions and texts (lexer and `#define` parser included): all hypotheses of `funlike_partial`
    hold with budget `d`, and the expansion has the spellings `expect` -/
def inFragment (defs : List String) (text : String) (d : Nat) (expect : List String) : Bool :=
  match buildTable [] defs with
  | .ok tbl =>
    let ts := tokenize text
    funTblb tbl && fitsb tbl d [] ts && decide (d + 1 < CbiVerif.Gen.maxLevel) && decide (cost tbl d [] ts + 2 ≤ fuelFor tbl ts) &&
      (match cbiExpand tbl ts with | .ok r => r.map spellTok == expect | _ => false) &&
      (Ref tbl d [] ts).map spellTok == expect
  | .error _ => false

/-- non-vacuity, "simple" calls: arguments without macro names, replacement lists without function-like names -/
example : inFragment ["ADD(x,y) x+y*K", "K 2"] "ADD(1,(a,b)) ADD(p q,)" 3
    ["1", "+", "(", "a", ",", "b", ")", "*", "2", "p", "q", "+", "*", "2"] = true := by rw [inFragment]; lex_decide

/-- beyond "simple": arguments that contain object-like macro names are completely expanded before substitution -/
example : inFragment ["F(x) [x]", "N 3 N", "M N+1"] "F(M) F(N N)" 4
    ["[", "3", "N", "+", "1", "]", "[", "3", "N", "3", "N", "]"] = true := by rw [inFragment]; lex_decide

/-- beyond "simple": nested calls in arguments, calls of other function-like macros in a replacement list (completed inside it),
    self-reference (the inner `F` is painted, not expanded) -/
example : inFragment ["F(x,y) x+G(y)*N", "G(a) (a a)", "N 3 N", "R(x) R(x)-1"] "F(N, G(1)) + R(F(2,3))" 6
    ["3", "N", "+", "(", "(", "1", "1", ")", "(", "1", "1", ")", ")", "*", "3", "N", "+",
     "R", "(", "2", "+", "(", "3", "3", ")", "*", "3", "N", ")", "-", "1"] = true := by rw [inFragment]; lex_decide

/-! ## the syntactic sub-fragment "simple": no hypothesis about the run is left -/

/-- **simple function-like fragment**: tables (`SimpleTbl`) whose function-like macros have no `#` / `##` / variadic parameter,
    keyed by their own name, no replacement list containing `defined` or the name of a function-like macro; texts (`simpleText`)
    in which every function-like macro name is followed, in the text, by a complete parenthesis-balanced call with enough
    arguments, the arguments containing no macro name and no `defined` (or by a token other than `(`: not a call, the name
    stays).  With `|tbl| + 2 < max_level` the stack machine returns exactly the recursive expansion with nesting budget
    `|tbl| + 1` — no error, no backstop, and the fuel `fuelFor` grants is proved sufficient (closed-form bound
    `|ts| * Cb (bodyMax tbl) (|tbl| + 1)`). -/
theorem funlike_simple_partial (tbl : Table) (ts : List Tok) (hT : SimpleTbl tbl) (hts : simpleText tbl ts = true)
    (hsz : tbl.length + 2 < CbiVerif.Gen.maxLevel) :
    cbiExpand tbl ts = .ok (Ref tbl (tbl.length + 1) [] ts) := by
  obtain ⟨hfit, hcost⟩ := simple_fits tbl hT ts hts
  exact funlike_partial tbl ts (tbl.length + 1) hT.funTbl hfit hsz (by unfold fuelFor; omega)

/-- **termination (simple fragment)**: the fuel `fuelFor tbl ts` granted by `cbiExpand` suffices -/
theorem terminates_funlike_simple_partial (tbl : Table) (ts : List Tok) (hT : SimpleTbl tbl) (hts : simpleText tbl ts = true)
    (hsz : tbl.length + 2 < CbiVerif.Gen.maxLevel) : cbiExpand tbl ts ≠ .fuel := by
  rw [funlike_simple_partial tbl ts hT hts hsz]; exact fun h => XR.noConfusion h

/-- **no backstop (simple fragment)**: the run with nesting limit `|tbl| + 3` gives the same result as the real limit -/
theorem no_backstop_funlike_simple (tbl : Table) (ts : List Tok) (hT : SimpleTbl tbl) (hts : simpleText tbl ts = true)
    (hsz : tbl.length + 2 < CbiVerif.Gen.maxLevel) :
    cbiExpand tbl ts = expandWith { lim := tbl.length + 3 } tbl (fuelFor tbl ts) ts := by
  obtain ⟨hfit, hcost⟩ := simple_fits tbl hT ts hts
  exact no_backstop_funlike tbl ts (tbl.length + 1) hT.funTbl hfit hsz (by unfold fuelFor; omega)

/-- the hypotheses are satisfiable (definitions and text through the real `#define` parser and lexer), and the result is the
    C standard's: object-like names in the replacement list are expanded on rescan, parenthesised commas stay in one argument -/
example :
    (match buildTable ["K=2"] ["ADD(x,y) x+y*K", "NEG(x) (-x)", "LIM K+1"] with
     | .ok tbl =>
       let ts := tokenize "ADD(1,(a,b)) + NEG(q) * LIM + ADD(p q,) NEG;"
       simpleTblb tbl && simpleText tbl ts && decide (tbl.length + 2 < CbiVerif.Gen.maxLevel) &&
         (match cbiExpand tbl ts with | .ok r => r.map spellTok | _ => []) ==
           ["1", "+", "(", "a", ",", "b", ")", "*", "2", "+", "(", "-", "q", ")", "*", "2", "+", "1", "+", "p", "q", "+", "*", "2", "NEG", ";"]
     | .error _ => false) = true := by lex_decide

/-- beyond "simple": a function-like macro name that is not followed by `(` is not a call and stays — in the text and in a replacement
    list, where the substituted argument decides (`G v` with `v ↦ (1)` is a call, with `v ↦ 2` it is not) -/
example : inFragment ["G(a) [a]", "AP(v) G v"] "G + AP((1)) AP(2);" 4
    ["G", "+", "[", "1", "]", "G", "2", ";"] = true := by rw [inFragment]; lex_decide

/-- **what remains open** for tables of the fragment (kept visible, not claimed): with a sufficiently large nesting limit and
    fuel the machine agrees with the specification (Prosser's algorithm) on *every* text the specification accepts — including
    calls completed by tokens that follow the replacement list or the argument (a function-like name at the very end of a token
    list), and `defined` in the text.  (`#`, `##`, variadic parameters are outside `FunTbl`; for them `C03.Full` is the statement.)

    State (`Props/C03FunConf.lean`): `Ref` = `Spec.Prosser.expand` is proved on the part of the fragment where every call has
    exactly as many arguments as parameters and no call argument holds a macro name (`funlike_conforms_partial`, decidable
    condition `confb`; `funlike_simple_conforms_partial` for the syntactic sub-fragment).  As it stands the statement below is
    *not provable*: `ref_vs_prosser_witness` is a text inside `fitsb` that the specification accepts and on which the machine
    (like gcc) and Prosser's algorithm give different tokens — a function-like name left over by the expansion of an argument
    and called during the rescan; C11 6.10.3.4 p.4 leaves that nesting unspecified.  A provable full statement has to accept
    either result there (or restrict `out` to texts whose call arguments leave no uncalled function-like name behind). -/
def FunLikeFull : Prop :=
  ∀ (tbl : Table) (ts : List Tok) (out : List CbiVerif.Spec.Prosser.T), FunTbl tbl →
    CbiVerif.Spec.Prosser.prosserToks (tbl.map fun e => ⟨e.1, e.2.args, false, e.2.replacement.map (toSpec [])⟩) (ts.map (toSpec [])) = .ok out →
    ∃ lim fuel r, expandWith { lim := lim } tbl fuel ts = .ok r ∧ r.map spellTok = out.map (·.text)

end CbiVerif.C03
