import CbiVerif.Lemmas.MacroStrSim
import CbiVerif.Lemmas.LexLiteral
import CbiVerif.Lemmas.MacroFunSpecA
/-! # C03 — function-like macros with `#` and `##` (model = extended reference)

Model `M` = `CbiVerif.MX.cbiExpand` (the step machine the driver executes).  Reference = `CbiVerif.MX.RefS`: the recursive reference of
`Props/C03FunLike.lean` with the substituted replacement list given by the model of `MacroFunction.replace` itself
(`MX.replaceFn`: the `#` / `##` pass `strcatPass`, then `substArgs`), applied to the argument list `expand` builds (`pre_expanded`; an
argument that is only an operand of `#` / `##` is not macro-expanded).  No hypothesis about the table is left: any mix of
object-like macros and function-like macros with `#`, `##` (chains, empty operands, multi-token operands; `#` as repaired for
finding D10, see `Props/C03Stringify.lean`) — they are part of `replaceFn`; variadic macros may be defined but not called.

* `strcat_partial` — model = `RefS` on the decidable fragment `fitsbS` (every enabled function-like macro name met during the run
  is followed, in the same token list, by a complete call on which `replaceFn` succeeds, or by a token other than `(`; no
  `defined`; nesting budget not exhausted);
* `terminates_strcat_partial`, `no_backstop_strcat` — `costS + 2` loop iterations suffice; the `max_level` backstop plays no role.

What this isolates: against the specification only the *non-recursive* function `replaceFn` remains to be compared with
`Spec.Prosser.subst` (6.10.3.2 / 6.10.3.3) — not proved here (`StrcatConformsFull`); the recursion, rescanning, painting and
argument pre-expansion around it are discharged. -/
namespace CbiVerif.C03
open CbiVerif.PP CbiVerif.MX

/-- **macros with `#` / `##`, model side**: for every table, every nesting budget `d` with `d + 1 < max_level` and every text inside
    the fragment for that budget (`fitsbS`), whenever the granted fuel covers the reference's iteration bound, the stack machine
    returns exactly the recursive expansion `RefS` started with no name disabled — no error, no backstop, fuel not exhausted. -/
theorem strcat_partial (tbl : Table) (ts : List Tok) (d : Nat) (hfit : fitsbS tbl d [] ts = true)
    (hd : d + 1 < CbiVerif.Gen.maxLevel) (hfuel : costS tbl d [] ts + 2 ≤ fuelFor tbl ts) :
    cbiExpand tbl ts = .ok (RefS tbl d [] ts) :=
  expandWith_str realCfg tbl rfl d ts hfit hd (fuelFor tbl ts) hfuel

/-- **termination (macros with `#` / `##`)**: `costS tbl d [] ts + 2` loop iterations suffice -/
theorem terminates_strcat_partial (tbl : Table) (ts : List Tok) (d : Nat) (hfit : fitsbS tbl d [] ts = true)
    (hd : d + 1 < CbiVerif.Gen.maxLevel) (fuel : Nat) (hfuel : costS tbl d [] ts + 2 ≤ fuel) :
    expandWith realCfg tbl fuel ts = .ok (RefS tbl d [] ts) :=
  expandWith_str realCfg tbl rfl d ts hfit hd fuel hfuel

/-- **no backstop (macros with `#` / `##`)**: the run with nesting limit `d + 2` gives the same result as the real limit -/
theorem no_backstop_strcat (tbl : Table) (ts : List Tok) (d : Nat) (hfit : fitsbS tbl d [] ts = true)
    (hd : d + 1 < CbiVerif.Gen.maxLevel) (hfuel : costS tbl d [] ts + 2 ≤ fuelFor tbl ts) :
    cbiExpand tbl ts = expandWith { lim := d + 2 } tbl (fuelFor tbl ts) ts := by
  rw [strcat_partial tbl ts d hfit hd hfuel]
  exact (expandWith_str { lim := d + 2 } tbl rfl d ts hfit (Nat.lt_succ_self _) (fuelFor tbl ts) hfuel).symm

/-- the fragment on concrete definitions and texts (lexer and `#define` parser included): all hypotheses of `strcat_partial` hold
    with budget `d`, and machine and reference have the spellings `expect` -/
def inStrcatFragment (defs : List String) (text : String) (d : Nat) (expect : List String) : Bool :=
  match buildTable [] defs with
  | .ok tbl =>
    let ts := tokenize text
    fitsbS tbl d [] ts && decide (d + 1 < CbiVerif.Gen.maxLevel) && decide (costS tbl d [] ts + 2 ≤ fuelFor tbl ts) &&
      (match cbiExpand tbl ts with | .ok r => r.map spellTok == expect | _ => false) &&
      (RefS tbl d [] ts).map spellTok == expect
  | .error _ => false

/-- non-vacuity, `#`: the operand is not macro-expanded (`STR(N)`), one level of indirection expands it first (`XSTR(N)`),
    multi-token operands, a string literal operand is escaped -/
example : inStrcatFragment ["STR(x) #x", "XSTR(x) STR(x)", "N 3"] "STR(N) XSTR(N) STR(a + b) STR(\"q\")" 4
    ["\"N\"", "\"3\"", "\"a + b\"", "\"\\\"q\\\"\""] = true := by rw [inStrcatFragment]; lex_decide

/-- non-vacuity, `##`: single-token operands, a chain, empty operands (placemarkers), an operand that is not macro-expanded
    (`CAT(N,N)` gives `NN`), the pasted identifier is rescanned (`CAT(N,1)` gives `N1`, a macro), a non-parameter operand -/
example : inStrcatFragment ["CAT(a,b) a##b", "CAT3(a,b,c) q a##b##c", "N 3", "N1 7", "PRE(x) p_##x + x"] "CAT(x,y) CAT(N,N) CAT(N,1) CAT(,z) CAT3(,,) CAT3(u,,w) PRE(N)" 4
    ["xy", "NN", "7", "z", "q", "q", "uw", "p_N", "+", "3"] = true := by rw [inStrcatFragment]; lex_decide

/-- non-vacuity, `#` and `##` in one replacement list; the parameter used plainly is macro-expanded, the operands are not -/
example : inStrcatFragment ["M(x,y) #x x##y x", "k 5"] "M(k, 2) M(a b, c)" 3
    ["\"k\"", "k2", "5", "\"a b\"", "a", "bc", "a", "b"] = true := by rw [inStrcatFragment]; lex_decide

/-- **what remains open** for macros with `#` / `##` (kept visible, not claimed): on the syntactic fragment "simple" with `#` / `##`
    allowed in replacement lists (macros keyed by name, no function-like macro name in a replacement list; every call in the text
    complete, with exactly as many arguments as parameters, arguments without macro names) whatever the specification assigns is
    what the machine produces (finding D10 being repaired, no exclusion of white space or character constants in `#` operands is
    left; `Props/C03Stringify.lean` has the statements about `stringify` itself).  By `strcat_partial` what is missing is a
    statement about the non-recursive function `replaceFn` against `Spec.Prosser.subst` (it needs the two lexers to agree on
    pasted and stringified spellings; for `#` without `##` it is `replaceFn_hash_conforms_partial` in `Props/C03StrConf.lean`),
    plus the hide-set bookkeeping of `Lemmas/MacroFunSpecB.lean` for tokens made by `#` / `##`. -/
def StrcatConformsFull : Prop :=
  ∀ (tbl : Table) (ts : List Tok) (out : List CbiVerif.Spec.Prosser.T),
    (∀ n m, tbl.get n = some m → m.name = n ∧ m.variadic = false ∧ ∀ t ∈ m.replacement, ObjTok tbl t) →
    simpleText tbl ts = true → exactArity tbl ts = true →
    CbiVerif.Spec.Prosser.prosserToks (specTableF tbl) (ts.map (toSpec [])) = .ok out →
    ∃ r, cbiExpand tbl ts = .ok r ∧ r.map spellTok = out.map (·.text)

end CbiVerif.C03
