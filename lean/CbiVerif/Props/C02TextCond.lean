import CbiVerif.Props.C02Defined
/-!
# C02 — text → lexer → macro expander → evaluator, for object-like macro tables

`text_main_partial` (`Props/C02Text.lean`) composes the lexer model with the evaluator model.  The end-to-end models of
C01/C04/C08/C10/C17/C18 run the macro expander in between: the value of a controlling expression is
`PP.condValue tbl (tokenize text)` = `MX.cbiExpand` then `Eval.evaluatePP`.  `text_cond_partial` states that composition for
expressions without a `defined` operator and every table of object-like macros (`TblOK`, any size below the nesting limit,
recursive definitions included) that defines none of the identifiers of the expression.  It is the case of
`cond_defined_partial` (`Props/C02Defined.lean`: every table, `defined` anywhere) in which the environment does not matter
(`cEval_noDefined`); the hypotheses on the table are not used.
-/
namespace CbiVerif.C02
open CbiVerif.PP CbiVerif.Climb CbiVerif.CExpr CbiVerif.Eval CbiVerif.EvalBridge CbiVerif.LexLayout CbiVerif.MX

set_option linter.unusedVariables false in -- `hT`, `hsz`: see above
/-- **Text → lexer → expander → evaluator (proved part of `text_main`).**  Hypotheses of `text_main_partial`, a table of
    object-like macros below the nesting limit, and no token of the expression names a macro of the table or is spelled
    `defined`: the value `PP.condValue` the end-to-end models give to the TEXT, in every admissible layout, is the ISO C
    truth value of the tree. -/
theorem text_cond_partial (tbl : Table) (hT : TblOK tbl) (hsz : tbl.length + 2 < CbiVerif.Gen.maxLevel)
    (env : Env) (a : CExpr.Ast) (v : CExpr.Val) (w : Layout)
    (hg : a.grammatical = true) (hc : a.constsOK = true) (hk8 : usesBigUnsuffixed a = false)
    (hv : cEval env a = some v) (hl : LexSource.lexable a = true) (hd : noDefined a = true)
    (hfree : ∀ t ∈ renderSrc a, tbl.get t.text = none ∧ t.text ≠ "defined")
    (hw : admissible w (renderSrc a) = true) :
    condValue tbl (tokenize (layout w (renderSrc a))) = .ok v.truth :=
  cond_defined_partial tbl a v w hg hc hk8 (cEval_noDefined env _ a hd ▸ hv) hl
    (fun n hn => (hfree _ (CondFrag.identLeaf_mem_renderSrc a n hn)).symm) hw

/-- non-vacuity: a mutually recursive object-like table that does not define `X`; the expression of `C02Text` in its tight
    and in its loose layout -/
def tblT : Table :=
  [("AA", ⟨"AA", none, false, false, [], [⟨.ident, "BB", false, true⟩]⟩),
   ("BB", ⟨"BB", none, false, false, [], [⟨.ident, "AA", false, true⟩, ⟨.num, "1", true, true⟩]⟩)]

example : TblOK tblT ∧ tblT.length + 2 < CbiVerif.Gen.maxLevel ∧
    (∀ t ∈ renderSrc sampleT, tblT.get t.text = none ∧ t.text ≠ "defined") ∧
    condValue tblT (tokenize (layout (tight (renderSrc sampleT)) (renderSrc sampleT))) = .ok true ∧
    condValue tblT (tokenize (layout wLoose (renderSrc sampleT))) = .ok true := by
  have hl : LexSource.lexable sampleT = true := by decide +kernel
  refine ⟨tblOK_of_check _ (by decide +kernel), by decide, by decide +kernel, ?_, ?_⟩ <;>
  · rw [lexer_reads_source_layout sampleT hl _ (by decide +kernel)]
    decide +kernel

end CbiVerif.C02
