import CbiVerif.Props.C11Full
import CbiVerif.Lemmas.ArgvExtras
/-! # C11 (full parser) — the extras list and `namespace.file` are exactly the unrecognised arguments / operands

`C11Full.ExtrasAreExactlyUnrecognised` (stated in `Props/C11Full.lean`) is proved here:
`extras_are_exactly_unrecognised`.  The proof goes through

* `ArgvExtras.link_single` — per argument in flag position of a command line without recorded shapes, the class
  the parser model gives it (`Argparse.classify`, the class inside the token of `ArgparseFull.tokenize`) and the
  shape the reference reading gives it (`Unrecognised.shape`) say the same (`ArgvExtras.Link`);
* `ArgvExtras.sweep_scanU` — the one-pass form of the full model (`ArgvSweep.sweep`, proved equal to the index
  loop in `Lemmas/ArgvSweep.lean`) and `Unrecognised.scanU` stay in step;
* `C11Full.main_full` — the full model does not abort on a tame command line.

The objects are the ones the driver executes (`ArgparseFull.fullModel`, op `c11full`; `Unrecognised.leftover`,
the `leftover` oracle of `harness/props/c11.py`). -/
namespace CbiVerif.C11Extras
open CbiVerif.Argparse CbiVerif.ArgparseFull CbiVerif.Extract CbiVerif.ArgvLemmas CbiVerif.C11Full

/-- the per-argument link, in words a reader can check against `Unrecognised.shape`: an argument in flag position
that is not a separate-form flag and has none of the recorded shapes is, for the parser model,
a positional exactly when the reference reading calls it an operand, an unknown option string exactly when the
reference calls it unrecognised, a bare `-O`/`-g`/`-c` exactly when …, and so on (`ArgvExtras.Link`). -/
theorem classification_is_reference_shape (a : List Char) (h1 : takesValue a = false) (h2 : tagsOf1 a = []) :
    ArgvExtras.Link (classify table a) (Unrecognised.shape a) false := by
  rw [table_eq]; exact ArgvExtras.link_single a h1 h2

example : takesValue "-Wall".toList = false ∧ tagsOf1 "-Wall".toList = [] ∧
    classify table "-Wall".toList = .unknown ∧ Unrecognised.shape "-Wall".toList = .unknownOpt ∧
    classify table "-1.5".toList = .positional ∧ Unrecognised.shape "-1.5".toList = .operand ∧
    classify table "-x y".toList = .positional ∧ Unrecognised.shape "-x y".toList = .operand := by decide +kernel

/-- **extras_are_exactly_unrecognised** — on every tame command line the full parser model does not abort, its
extras list is exactly the unrecognised arguments and its `file` exactly the first run of operands, as the
reference reading `Unrecognised.leftover` lists them, in command-line order. -/
theorem extras_are_exactly_unrecognised : ExtrasAreExactlyUnrecognised := by
  intro argv h
  obtain ⟨r, hr, _⟩ := main_full argv h
  refine ⟨r, hr, ?_⟩
  obtain ⟨toks, ht⟩ := (ArgvSweep.tokenize_ambiguous T argv).2 (not_ambiguous argv h)
  have hsw := extras_are_exactly_unrecognised_partial argv toks (table_eq ▸ ht)
  rw [hr] at hsw
  exact ArgvExtras.sweep_scanU argv .idle .none false ⟨{}, .pending, []⟩ .pending {} toks r .idle h .pending rfl ht hsw.symm

/-- the same, as one equation about the two observable lists -/
theorem extras_and_file_eq (argv : Argv) (h : Tame argv) :
    (fullModel argv).map (fun r => (r.file, r.extras)) =
      .ok ((Unrecognised.leftover argv).file, (Unrecognised.leftover argv).extras) := by
  obtain ⟨r, hr, he, hf⟩ := extras_are_exactly_unrecognised argv h
  rw [hr]; simp [Except.map, he, hf]

/-- non-vacuity, and what both sides are on a realistic line -/
example :
    let argv : Argv := ["a.c".toList, "-".toList, "-O2".toList, "-Wall".toList, "-DA=1".toList, "-U".toList, "A".toList,
      "-MF".toList, "x.d".toList, "-c".toList, "main.c".toList, "-o".toList, "out.o".toList, "b.c".toList, "-1".toList,
      "--weird x".toList, "-g".toList, "-fPIC".toList]
    Tame argv ∧
    (Unrecognised.leftover argv).file = ["a.c".toList, "-".toList] ∧
    (Unrecognised.leftover argv).extras =
      ["-Wall".toList, "-MF".toList, "x.d".toList, "b.c".toList, "-1".toList, "--weird x".toList, "-fPIC".toList] := by
  decide +kernel

/-- the hypothesis is needed: with `--` (class D23) the parser's extras differ from the reference reading -/
example :
    let argv : Argv := ["x.c".toList, "-DA".toList, "--".toList, "-DB".toList]
    ¬ Tame argv ∧ (fullModel argv).map (fun r => r.extras) ≠ .ok (Unrecognised.leftover argv).extras := by
  decide +kernel

/-! ### a tame command line does not end inside a flag/value pair -/

/-- **tame_waits_for_no_value** — after a tame command line no option is waiting for its required argument
(the hypothesis `waitsForValue xs = false` of `positionals_never_disturb` holds for every tame prefix). -/
theorem tame_waits_for_no_value (xs : Argv) (h : Tame xs) : waitsForValue xs = false := by
  have happ := ArgvPositional.run_append T xs [] .idle {}
  rw [List.append_nil, run_tame xs h] at happ
  unfold waitsForValue
  rw [table_eq]
  cases hs : stateAfter T .idle {} xs with
  | error e => rfl
  | ok q =>
    obtain ⟨p, c⟩ := q
    rw [hs] at happ
    cases p <;> simp [run, finish] at happ <;> rfl

example : Tame ["-DA".toList, "-o".toList, "x".toList] ∧ waitsForValue ["-DA".toList, "-o".toList, "x".toList] = false ∧
    ¬ Tame ["-DA".toList, "-o".toList] ∧ waitsForValue ["-DA".toList, "-o".toList] = true := by decide +kernel

/-- hence: into a tame command line positionals may be inserted **at its end or after any tame prefix** without
changing the four value lists -/
theorem positionals_after_tame_prefix (xs ps ys : Argv) (hps : ∀ p ∈ ps, plainPositional p = true) (h : Tame xs) :
    (fullModel (xs ++ ps ++ ys)).map FResult.cfg = (fullModel (xs ++ ys)).map FResult.cfg :=
  positionals_never_disturb xs ps ys hps (tame_waits_for_no_value xs h)

end CbiVerif.C11Extras
