import CbiVerif.Props.C01Main
import CbiVerif.Lemmas.SourceChars
import CbiVerif.Lemmas.ExpandPP
import CbiVerif.Lemmas.MacroFunSpecC
import CbiVerif.Lemmas.MacroDefinedList
import CbiVerif.Lemmas.MacroPlainCheck
/-! # C01 — conditional inclusion matches what a real C preprocessor would do

The theorems about the single-file model (tree builder and visitor against the flat reference
machine of `Spec/CPreproc.lean`), for every meaning of a controlling expression, are in
`Props/C01Main.lean`.  The driver op `c01` executes exactly those definitions (`Drv/C01.lean`),
instantiated with the macro table of `PP/*` and with `PP.condValue` as the meaning of a
controlling expression: the total macro expander `MX.cbiExpand` (the model of the C03 theorems)
followed by the evaluator `Eval.cbiEval` (the model of the C02 theorems).  Nothing executed for
C01 is a `partial def`.  This file holds the non-vacuity examples of the generic theorems and,
in its second part, what that composition gives (`cond_*`, `ifdef_*`). -/
namespace CbiVerif.C01
open CbiVerif.Cond

/-! ## Non-vacuity: a three-level nested chain with `#define/#undef` on one path -/
section Examples

/-- payloads: 0 `defined A`, 1 `defined B`, 2 `A == 1`, 3 `!defined A`, 9 a malformed expression;
10 `#define A 1`, 11 `#undef A`, 12 `#define B 2`, 13 `#define A 2`. -/
def exLang : Lang Nat Unit where
  cond := fun t p =>
    match p with
    | 0 => .ok (lookup t "A").isSome
    | 1 => .ok (lookup t "B").isSome
    | 2 => .ok (lookup t "A" == some 1)
    | 3 => .ok (lookup t "A").isNone
    | _ => .error ()
  act := fun p =>
    match p with
    | 10 => .define "A" 1
    | 11 => .undef "A"
    | 12 => .define "B" 2
    | 13 => .define "A" 2
    | _ => .nop

/--
```
 0 #if defined A            8     code
 1   code                   9   #else
 2   #if defined B         10     code
 3     code                11   #endif
 4   #elif A == 1          12   #elif <malformed>      (never evaluated: chain decided)
 5     #undef A            13     code
 6     #if !defined A      14   #endif
 7       #define B 2       15 #else / 16 code / 17 #endif
                           18 #if defined B / 19 code / 20 #endif
``` -/
def exProg : Block :=
  .cons (.cond 0 0
      (.cons (.code 1) (.cons (.cond 2 1 (.cons (.code 3) .nil)
        (.elif 4 2
          (.cons (.dir 5 11) (.cons (.cond 6 3 (.cons (.dir 7 12) (.cons (.code 8) .nil))
            (.els 9 (.cons (.code 10) .nil) 11)) .nil))
          (.elif 12 9 (.cons (.code 13) .nil) (.endif 14)))) .nil))
      (.els 15 (.cons (.code 16) .nil) 17))
    (.cons (.cond 18 1 (.cons (.code 19) .nil) (.endif 20)) .nil)

def exWorld : MWorld Nat Unit := { tbl := [("A", 1)] }

/-- the reference accepts the unit silently (hypotheses of `main_macro` / `no_spurious_failure_macro`) -/
example : (reference (semC exLang) exWorld exProg.lines).σ.diag = false ∧
    (reference (semC exLang) exWorld exProg.lines).σ.err = none ∧
    (reference (semC exLang) exWorld exProg.lines).wellNested = true := by decide +kernel

/-- non-trivial attribution: lines 3, 10, 13, 16 are skipped, the rest is attributed; `B` is
defined afterwards only because line 7 was reached, `A` is gone because line 5 was. -/
example : (model (semCBI exLang) exWorld exProg.lines).map (fun a => (a.out, a.σ.tbl, a.σ.err, a.crash)) =
    some ([0, 1, 2, 4, 5, 6, 7, 8, 9, 11, 12, 14, 15, 17, 18, 19, 20], [("B", 2)], none, false) := by
  decide +kernel

example : (reference (semC exLang) exWorld exProg.lines).out =
    [0, 1, 2, 4, 5, 6, 7, 8, 9, 11, 12, 14, 15, 17, 18, 19, 20] := by decide +kernel

/-- `Rel` is inhabited by the initial states (hypothesis of `assoc_eq_ref`) -/
example : Rel ({ σ := exWorld } : AState _) ({ σ := exWorld } : RState _) := rel_init _

/-- the diagnostic hypothesis of `define_order` matters: `#define A 2` while `A` is `1` raises it,
and there CBI's table (`A ↦ 1`) differs from C's (`A ↦ 2`). -/
example : (reference (semC exLang) exWorld [⟨0, .other, 13⟩]).σ.diag = true ∧
    (reference (semCBI exLang) exWorld [⟨0, .other, 13⟩]).σ.tbl = [("A", 1)] ∧
    (reference (semC exLang) exWorld [⟨0, .other, 13⟩]).σ.tbl = [("A", 2)] := by decide +kernel

/-- witness for D1 (before the repair an `#elif` of a decided chain was evaluated): the
reference does not evaluate payload 9 on line 1 when the `#if` was taken — it fails if it must. -/
example : (reference (semC exLang) exWorld [⟨0, .ifk, 0⟩, ⟨1, .elifk, 9⟩, ⟨2, .endk, 0⟩]).σ.err = none ∧
    (reference (semC exLang) exWorld [⟨0, .ifk, 1⟩, ⟨1, .elifk, 9⟩, ⟨2, .endk, 0⟩]).σ.err = some () := by decide +kernel

end Examples

end CbiVerif.C01

/-! ## The value of a controlling expression: one expander (C03), one evaluator (C02)

`(langOf nodes).cond tbl i` is what the executed model (`analyseNodes`, `analyseFile`, the Fortran front end, and — through the
same `PP.condValue` — the multi-file models of C04/C08/C10/C18) takes as the value of the `#if`/`#elif` of node `i` under the
macro table `tbl`. -/
namespace CbiVerif.C01
open CbiVerif.PP CbiVerif.MX

/-- the tokens `#ifdef X` is parsed to (`DirectiveParser.parse`: `defined ( X )`) -/
def ifdefToks (x : Tok) : List Tok := [mkTok .ident "defined" true, mkTok .punct "(" false, x, mkTok .punct ")" false]
/-- the tokens `#ifndef X` is parsed to (`! defined ( X )`) -/
def ifndefToks (x : Tok) : List Tok :=
  [mkTok .op "!" true, mkTok .ident "defined" false, mkTok .punct "(" false, x, mkTok .punct ")" false]

/-- **One expander, one evaluator.**  For every node list, table and node: the value of the controlling expression in the
executed model is the evaluation (`Eval.evaluatePP` = `Eval.cbiEval` behind CBI's exception names) of the expansion computed
by the total step machine `MX.cbiExpand`; an exception of the expander is the failure of the directive; running out of the
model's fuel is reported as such (excluded for object-like tables by `C03.terminates_objlike_partial`). -/
theorem cond_is_expand_then_eval (nodes : Array PNode) (tbl : Table) (i : Nat) :
    (langOf nodes).cond tbl i =
      match cbiExpand tbl nodes[i]!.toks with
      | .ok ts => CbiVerif.Eval.evaluatePP ts
      | .error e => .error e
      | .fuel => .error (.other "ModelOutOfFuel") :=
  condValue_eq tbl nodes[i]!.toks

/-- … and its truth value, when the expansion succeeds, is exactly the truth value the C02 evaluator `Eval.cbiEval` gives to the
expanded tokens (flags erased: the evaluator looks at kind and spelling only) -/
theorem cond_truth_is_cbiEval (nodes : Array PNode) (tbl : Table) (i : Nat) (ts : List Tok) (b : Bool)
    (h : cbiExpand tbl nodes[i]!.toks = .ok ts) :
    (langOf nodes).cond tbl i = .ok b ↔ CbiVerif.Eval.cbiEval (ts.map CbiVerif.Eval.eraseFlags) = .ok b := by
  rw [cond_of_expand nodes tbl i rfl h]
  exact evaluatePP_ok_iff ts b

/-- FULL statement of the composition (kept visible, NOT proved; it is false for the code as it is for the same reason as
`C03.Full`: finding D10, `#` keeps a leading blank): for every well-formed table — function-like macros, `#`, `##` included —
the controlling expression is evaluated on tokens whose spellings are those ISO C 6.10.3 (Prosser's algorithm) assigns. -/
def CondConforms : Prop :=
  ∀ (cmd defs : List String) (text : String) (tbl : Table) (out : List CbiVerif.Spec.Prosser.T),
    buildTable cmd defs = .ok tbl →
    CbiVerif.Spec.Prosser.prosser (cmd.map CbiVerif.Spec.Prosser.cmdlineToDefine ++ defs) text = .ok out →
    ∃ r, r.map spellTok = out.map (·.text) ∧ condValue tbl (tokenize text) = CbiVerif.Eval.evaluatePP r

/-- **object-like units (model side)**: when the macro table holds only object-like macros (`TblOK`: no parameters, keyed by
their name, no `defined` in a body — any size below the nesting limit, self- and mutually recursive definitions included) and
the controlling expression does not use `defined`, the executed model evaluates the recursive hide-set expansion `E` of the
expression: no expander exception, no backstop `0`, no fuel exhaustion can be the cause of the value. -/
theorem cond_object_like_partial (nodes : Array PNode) (tbl : Table) (i : Nat) (hT : TblOK tbl) (hnd : NoDef nodes[i]!.toks)
    (hsz : tbl.length + 2 < CbiVerif.Gen.maxLevel) :
    (langOf nodes).cond tbl i = CbiVerif.Eval.evaluatePP (E tbl (tbl.length + 1) [] nodes[i]!.toks) :=
  cond_of_expand nodes tbl i rfl (cbiExpand_obj tbl hT _ hnd hsz)

/-- **object-like units (against the specification)** — the proved part of `CondConforms`: for a table of object-like macros
without `##`/`defined` in their bodies and a controlling expression of such tokens, the executed model's value of `#if E` is
the evaluation of a token list `r` whose spellings are exactly those of the Prosser expansion of `E` (ISO C 6.10.3.4:
rescanning, no re-expansion of a name inside its own expansion), and its truth value is `Eval.cbiEval` of `r`.
(Spellings, not kinds: the specification's tokens carry a coarser kind; what the evaluator does with `r` is C02's subject.) -/
theorem cond_object_like_conforms_partial (nodes : Array PNode) (tbl : Table) (i : Nat) (hT : PlainTbl tbl)
    (hts : ∀ t ∈ nodes[i]!.toks, PlainTok t) (hnd : NoDef nodes[i]!.toks) (hsz : tbl.length + 2 < CbiVerif.Gen.maxLevel)
    (hfuel : nodes[i]!.toks.length * Cb (bodyMax tbl) (tbl.length + 1) < CbiVerif.Spec.Prosser.defaultFuel) :
    ∃ r out, CbiVerif.Spec.Prosser.prosserToks (specTable tbl) (nodes[i]!.toks.map (toSpec [])) = .ok out ∧
      r.map spellTok = out.map (·.text) ∧
      (langOf nodes).cond tbl i = CbiVerif.Eval.evaluatePP r ∧
      ∀ b, (langOf nodes).cond tbl i = .ok b ↔ CbiVerif.Eval.cbiEval (r.map CbiVerif.Eval.eraseFlags) = .ok b := by
  obtain ⟨out, ho, he⟩ := E_eq_prosser tbl hT nodes[i]!.toks hts hfuel
  have hc := cond_object_like_partial nodes tbl i hT.ok hnd hsz
  refine ⟨_, out, ho, he.symm, hc, fun b => ?_⟩
  rw [hc]; exact evaluatePP_ok_iff _ b

/-- **`#ifdef X`** in the executed model: decided from the macro table alone.  `X` is not expanded, whatever it is defined
as (object-like, function-like, recursive, with an empty or malformed body): no expander or evaluator failure is possible. -/
theorem ifdef_decided_by_table (nodes : Array PNode) (tbl : Table) (i : Nat) (x : Tok) (hx : x.kind = .ident)
    (h : nodes[i]!.toks = ifdefToks x) : (langOf nodes).cond tbl i = .ok (tbl.get x.text).isSome := by
  rw [cond_of_expand nodes tbl i h (cbiExpand_defined_paren tbl _ _ x _ rfl rfl rfl hx rfl), evaluatePP_defined]

/-- **`#ifndef X`** in the executed model: the negation, decided from the macro table alone -/
theorem ifndef_decided_by_table (nodes : Array PNode) (tbl : Table) (i : Nat) (x : Tok) (hx : x.kind = .ident)
    (h : nodes[i]!.toks = ifndefToks x) : (langOf nodes).cond tbl i = .ok (!(tbl.get x.text).isSome) := by
  rw [cond_of_expand nodes tbl i h (cbiExpand_not_defined_paren tbl _ _ _ x _ (by decide) rfl rfl rfl hx rfl),
    evaluatePP_not_defined]

/-- **`#if defined X`** (no parentheses) in the executed model -/
theorem if_defined_decided_by_table (nodes : Array PNode) (tbl : Table) (i : Nat) (dt x : Tok) (hd : dt.kind = .ident)
    (hdt : dt.text = "defined") (hx : x.kind = .ident) (hxp : x.text ≠ "(") (h : nodes[i]!.toks = [dt, x]) :
    (langOf nodes).cond tbl i = .ok (tbl.get x.text).isSome := by
  rw [cond_of_expand nodes tbl i h (cbiExpand_defined_plain tbl dt x hd hdt hx hxp), evaluatePP_defined]

/-! ### non-vacuity of the composition theorems (all kernel-checked) -/

/-- the directive parser really produces `ifdefToks` / `ifndefToks` -/
example : (parseDirective "#ifdef FOO" [1]).toOption.map (·.toks) = some (ifdefToks ⟨.ident, "FOO", true, true⟩) ∧
    (parseDirective "# ifndef FOO" [1]).toOption.map (·.toks) = some (ifndefToks ⟨.ident, "FOO", true, true⟩) := by
  rw [parseDirective_ofList, parseDirective_ofList]
  decide +kernel

/-- `cond_object_like_(conforms_)partial`: a self- and mutually recursive object-like table (C11 6.10.3.4's pattern) and the
expression `AA == 4 || CC` satisfy every hypothesis; the model evaluates the expansion `BB … == 4 || …` (identifiers left
over count as 0) -/
example :
    let tbl : Table := [("AA", ⟨"AA", none, false, false, [], [⟨.ident, "BB", false, true⟩]⟩),
                        ("BB", ⟨"BB", none, false, false, [], [⟨.num, "4", false, true⟩]⟩),
                        ("CC", ⟨"CC", none, false, false, [], [⟨.ident, "AA", false, true⟩, ⟨.op, "+", true, true⟩, ⟨.ident, "CC", true, true⟩]⟩)]
    let toks : List Tok := tokenize "AA == 4 || CC"
    plainTblb tbl = true ∧ toks.all plainTokb = true ∧ toks.all (fun t => t.text != "defined") = true ∧
      tbl.length + 2 < CbiVerif.Gen.maxLevel ∧
      toks.length * Cb (bodyMax tbl) (tbl.length + 1) < CbiVerif.Spec.Prosser.defaultFuel ∧
      (match cbiExpand tbl toks with | .ok r => r.map spellTok | _ => []) = ["4", "==", "4", "||", "4", "+", "CC"] ∧
      (condValue tbl toks).toOption = some true := by
  intro tbl toks
  revert toks
  rw [tokenize_ofList]
  intro toks
  decide +kernel

/-- `ifdef_decided_by_table` on a function-like macro with a body that cannot even be expanded on its own -/
example :
    let text := "#define F(x) x ## ## x\n#ifdef F\nint a;\n#endif\n#ifndef F\nint b;\n#endif\n#if defined F\nint c;\n#endif\n"
    (analyseFile text []).toOption.map (fun rows => (rows.filter (fun x => x.1 == .code)).map (fun x => (x.2.1, x.2.2)))
      = some [([3], true), ([6], false), ([9], true)] := by
  intro text
  rw [analyseFile, show text = String.ofList _ from rfl, parseFile_ofList]
  decide +kernel

end CbiVerif.C01

/-! Non-vacuity of `analyse_eq_reference`: its hypotheses hold on a concrete nested unit with `#define/#undef` on one path
(`nvText`), and on a unit whose controlling expression goes through a function-like macro and a self-referential object-like
one (`nvText2`).  Since the macro expander and the evaluator of the executed model are the total definitions `MX.cbiExpand` /
`Eval.cbiEval`, these are kernel-checked statements; the harness observes the same on every well-formed generated unit. -/
namespace CbiVerif.C01
open CbiVerif.PP

def nvText : String :=
  "#if defined(A)\na\n#if B\nb\n#elif A==1\n#undef A\n#ifndef A\n#define B 2\nc\n#else\nd\n#endif\n#elif 1+\ne\n#endif\n#else\nf\n#endif\n#if B==2\ng\n#endif\n"
def nvText2 : String := "#define S(x) ((x)*(x))\n#define R R+1\n#if S(B+1)==9&&R\ng\n#else\nh\n#endif\n"

/-- the hypotheses of `analyse_eq_reference` hold, its conclusion is the `.ok` case, and the code lines are attributed as `want` -/
def nvOK (text : String) (defs : List String) (want : List (List Nat × Bool)) : Bool :=
  match referenceFile text defs, analyseFile text defs with
  | .ok r, .ok rows =>
    !r.bad && !r.unterminated && !r.diag && r.err.isNone && rows == r.rows &&
    (rows.filter (fun x => x.1 == .code)).map (fun x => (x.2.1, x.2.2)) == want
  | _, _ => false

-- `parseFile` stands in the discriminants of a `match`, where a `rw` is checked by evaluating both sides: the parse is
-- named, handed the characters of the text outside the `match` (`parseFile_ofList`), and put back
example : nvOK nvText ["A=1"]
    [([2], true), ([4], false), ([9], true), ([11], false), ([14], false), ([17], false), ([20], true)] = true := by
  rw [nvOK, referenceFile, analyseFile]
  generalize h : parseFile nvText = p
  revert h
  rw [nvText, parseFile_ofList]
  rintro rfl
  decide +kernel

example : nvOK nvText2 ["B=2"] [([4], true), ([6], false)] = true := by
  rw [nvOK, referenceFile, analyseFile]
  generalize h : parseFile nvText2 = p
  revert h
  rw [nvText2, parseFile_ofList]
  rintro rfl
  decide +kernel
end CbiVerif.C01
