import CbiVerif.Lemmas.FileTree
/-! C06: FileTree.insert keeps "every directory's figure = sum over the non-link files beneath it" — the design prototype,
with natural numbers as figures and a tree type of its own.  The executed model (`Model/FileTree.lean`) is generic in the
figure; the prototype's tree is translated into it (`toM`), every notion commutes with the translation, and the invariant
is `FTm.insertRoot_inv` for the measure `natMeas`. -/
namespace CbiVerif.FT

inductive T
  | file (name : String) (link : Bool) (v : Nat)
  | dir (name : String) (v : Nat) (kids : List T)
deriving Repr

def T.name : T → String | .file n _ _ => n | .dir n _ _ => n

mutual
def leafSum : T → Nat
  | .file _ link v => if link then 0 else v
  | .dir _ _ kids => leafSumL kids
def leafSumL : List T → Nat
  | [] => 0
  | t :: ts => leafSum t + leafSumL ts
end

def Distinct (kids : List T) : Prop := kids.Pairwise (fun a b => a.name ≠ b.name)

mutual
def Inv : T → Prop
  | .file _ _ _ => True
  | .dir _ v kids => v = leafSumL kids ∧ Distinct kids ∧ InvL kids
def InvL : List T → Prop
  | [] => True
  | t :: ts => Inv t ∧ InvL ts
end

def bump (x : Nat) (link : Bool) (g : List T → List T) : T → T
  | .file n l v => .file n l v
  | .dir n v ks => .dir n (if link then v else v + x) (g ks)

/-- FileTree.insert below a list of children, by recursion on the remaining path components -/
def insertKids (x : Nat) (link : Bool) : List String → List T → List T
  | [], kids => kids
  | [f], kids => if kids.any (·.name == f) then kids else kids ++ [.file f link x]
  | d :: rest, kids =>
    if kids.any (·.name == d) then kids.map (fun k => if k.name == d then bump x link (insertKids x link rest) k else k)
    else kids ++ [bump x link (insertKids x link rest) (.dir d 0 [])]

/-- the whole tree: the root accumulates too -/
def insertRoot (x : Nat) (link : Bool) (path : List String) : T → T := bump x link (insertKids x link path)

/-- every name along `path` that exists is a directory and the last name does not exist: the hypothesis under which
    Python's "if this name exists, find the node" is harmless: a path is inserted once -/
def Fresh : List String → List T → Prop
  | [], _ => True
  | [f], kids => ¬ kids.any (·.name == f)
  | d :: rest, kids => ∀ k ∈ kids, k.name = d → match k with | .dir _ _ ks => Fresh rest ks | .file _ _ _ => False

/-- what one insertion adds to the leaf sum -/
def gain (x : Nat) (link : Bool) : Nat := if link then 0 else x

def natMeas : FTm.Meas Nat Nat :=
  ⟨(· + ·), 0, id, (· + ·), 0, Nat.add_assoc, Nat.add_comm, Nat.add_zero, fun _ _ => rfl, rfl⟩

mutual
def toM : T → FTm.T Nat
  | .file n l v => .file n l v
  | .dir n v ks => .dir n v (toML ks)
def toML : List T → List (FTm.T Nat)
  | [] => []
  | t :: ts => toM t :: toML ts
end

theorem toML_eq (ks : List T) : toML ks = ks.map toM := by
  induction ks with
  | nil => rfl
  | cons t ts ih => exact congrArg (toM t :: ·) ih

theorem name_toM (t : T) : (toM t).name = t.name := by cases t <;> rfl

theorem leafSum_toM : ∀ t : T, FTm.leafSum natMeas (toM t) = leafSum t := by
  refine T.rec (motive_2 := fun ts => FTm.leafSumL natMeas (toML ts) = leafSumL ts) ?_ ?_ ?_ ?_
  · exact fun _ l _ => by cases l <;> rfl
  · exact fun _ _ _ ih => ih
  · rfl
  · exact fun _ _ ih1 ih2 => by rw [toML, FTm.leafSumL_cons, ih1, ih2]; rfl

theorem any_toML (ks : List T) (d : String) : (toML ks).any (·.name == d) = ks.any (·.name == d) := by
  rw [toML_eq, List.any_map]
  exact congrArg (List.any ks) (funext fun k => congrArg (· == d) (name_toM k))

theorem distinct_toML (ks : List T) : FTm.Distinct (toML ks) ↔ Distinct ks := by
  rw [toML_eq]
  exact List.pairwise_map.trans (by simp only [name_toM]; exact Iff.rfl)

theorem inv_toM : ∀ t : T, FTm.Inv natMeas (toM t) ↔ Inv t := by
  refine T.rec (motive_2 := fun ts => FTm.InvL natMeas (toML ts) ↔ InvL ts) ?_ ?_ ?_ ?_
  · exact fun _ _ _ => Iff.rfl
  · intro n v ks ih
    have hs : FTm.leafSumL natMeas (toML ks) = leafSumL ks := leafSum_toM (.dir n v ks)
    show (v = _ ∧ _ ∧ _) ↔ (v = _ ∧ _ ∧ _)
    rw [hs, distinct_toML, ih]
  · exact Iff.rfl
  · exact fun _ _ ih1 ih2 => and_congr ih1 ih2

theorem fresh_toML : ∀ (p : List String) (ks : List T), FTm.Fresh p (toML ks) ↔ Fresh p ks := by
  intro p
  induction p with
  | nil => exact fun _ => Iff.rfl
  | cons d rest ih =>
    intro ks
    cases rest with
    | nil => show ¬ _ ↔ ¬ _; rw [any_toML]
    | cons e p =>
      show (∀ k ∈ toML ks, _) ↔ (∀ k ∈ ks, _)
      rw [toML_eq, List.forall_mem_map]
      refine forall₂_congr fun k _ => ?_
      rw [name_toM]
      cases k with
      | file => exact Iff.rfl
      | dir n v ks' => exact imp_congr_right fun _ => ih ks'

theorem insertKids_single (x : Nat) (link : Bool) (f : String) (kids : List T) :
    insertKids x link [f] kids = if kids.any (·.name == f) then kids else kids ++ [.file f link x] := rfl

theorem insertKids_cons_cons (x : Nat) (link : Bool) (d e : String) (p : List String) (kids : List T) :
    insertKids x link (d :: e :: p) kids =
      if kids.any (·.name == d) then
        kids.map fun k => if k.name == d then bump x link (insertKids x link (e :: p)) k else k
      else kids ++ [bump x link (insertKids x link (e :: p)) (.dir d 0 [])] := rfl

theorem insertKids_toML (x : Nat) (link : Bool) : ∀ (p : List String) (ks : List T),
    toML (insertKids x link p ks) = FTm.insertKids (· + ·) 0 x link p (toML ks) := by
  intro p
  induction p with
  | nil => exact fun _ => rfl
  | cons d rest ih =>
    intro ks
    cases rest with
    | nil =>
      rw [insertKids_single, FTm.insertKids_single, any_toML]
      split
      · rfl
      · rw [toML_eq, toML_eq, List.map_append]; rfl
    | cons e p =>
      have hb : ∀ k, toM (bump x link (insertKids x link (e :: p)) k) =
          FTm.bump (· + ·) x link (FTm.insertKids (· + ·) 0 x link (e :: p)) (toM k) := by
        intro k
        cases k with
        | file => rfl
        | dir n v ks' => exact congrArg (FTm.T.dir n _) (ih ks')
      rw [insertKids_cons_cons, FTm.insertKids_cons_cons, any_toML]
      split
      · rw [toML_eq, toML_eq, List.map_map, List.map_map]
        refine List.map_congr_left fun k _ => ?_
        show toM (if k.name == d then _ else k) = if (toM k).name == d then _ else toM k
        rw [name_toM, apply_ite toM, hb]
      · rw [toML_eq, List.map_append, List.map_singleton, hb, toML_eq]; rfl

/-- **C06.tree_sums**: inserting a fresh path keeps "every directory figure = sum over the non-link files beneath it",
    at every level, and the root gains exactly the file's figure (0 for a symlink). -/
theorem insertRoot_inv (x : Nat) (link : Bool) (path : List String) (n : String) (v : Nat) (kids : List T)
    (hp : path ≠ []) (h : Inv (.dir n v kids)) (hf : Fresh path kids) :
    Inv (insertRoot x link path (.dir n v kids)) ∧
      leafSum (insertRoot x link path (.dir n v kids)) = leafSum (.dir n v kids) + gain x link := by
  have hM : toM (insertRoot x link path (.dir n v kids)) =
      FTm.insertRoot natMeas.vadd natMeas.zero x link path (.dir n v (toML kids)) :=
    congrArg (FTm.T.dir n _) (insertKids_toML x link path kids)
  have := FTm.insertRoot_inv natMeas x link path n v (toML kids) hp ((inv_toM (.dir n v kids)).mpr h)
    ((fresh_toML path kids).mpr hf)
  rw [← hM, inv_toM, leafSum_toM] at this
  refine ⟨this.1, this.2.trans ?_⟩
  rw [show FTm.T.dir n v (toML kids) = toM (.dir n v kids) from rfl, leafSum_toM]
  cases link <;> rfl

end CbiVerif.FT
#print axioms CbiVerif.FT.insertRoot_inv
