/-! C14: order-independence of the (repaired) metrics for arbitrary, law-free float operations. -/
namespace CbiVerif.Det

abbrev Setmap := List (List String × Nat)      -- entries in dict insertion order

variable {F : Type} (fdiv : Nat → Nat → F) (fadd : F → F → F) (fzero : F) (nan : F)

def unionCount (sm : Setmap) (p q : String) : Nat :=
  (sm.map fun e => if e.1.contains p || e.1.contains q then e.2 else 0).sum
def xorCount (sm : Setmap) (p q : String) : Nat :=
  (sm.map fun e => if xor (e.1.contains p) (e.1.contains q) then e.2 else 0).sum

/-- repaired `report.distance`: integer accumulation, one division -/
def distance (sm : Setmap) (p q : String) : F :=
  if unionCount sm p q = 0 then nan else fdiv (xorCount sm p q) (unionCount sm p q)

/-- all unordered pairs in list order (itertools.combinations(platforms, 2)) -/
def pairs : List String → List (String × String)
  | [] => []
  | p :: ps => ps.map (fun q => (p, q)) ++ pairs ps

/-- repaired `report.divergence`: platforms are *sorted* (passed in as `plats`), float sum in that order -/
def divergence (sm : Setmap) (plats : List String) (fdivF : F → Nat → F) : F :=
  match pairs plats with
  | [] => nan
  | ps => fdivF (ps.foldl (fun acc pq => fadd acc (distance fdiv nan sm pq.1 pq.2)) fzero) ps.length

theorem unionCount_perm {sm sm' : Setmap} (h : sm.Perm sm') (p q : String) : unionCount sm p q = unionCount sm' p q := by
  unfold unionCount; exact (h.map _).sum_nat
theorem xorCount_perm {sm sm' : Setmap} (h : sm.Perm sm') (p q : String) : xorCount sm p q = xorCount sm' p q := by
  unfold xorCount; exact (h.map _).sum_nat

/-- for every division operation whatsoever, the distance does not depend on the insertion order of the table -/
theorem distance_perm {sm sm' : Setmap} (h : sm.Perm sm') (p q : String) :
    distance fdiv nan sm p q = distance fdiv nan sm' p q := by
  unfold distance; rw [unionCount_perm h, xorCount_perm h]

/-- for every `fadd`, `fdiv` (no associativity, no commutativity assumed) the divergence computed over the
    sorted platform list does not depend on the insertion order of the table -/
theorem divergence_perm {sm sm' : Setmap} (h : sm.Perm sm') (plats : List String) (fdivF : F → Nat → F) :
    divergence fdiv fadd fzero nan sm plats fdivF = divergence fdiv fadd fzero nan sm' plats fdivF := by
  unfold divergence
  simp only [distance_perm fdiv nan h]

/-- the pinned code accumulates per entry: order matters for a non-associative `fadd` -/
def distancePinned (fdivQ : Nat → Nat → F) (sm : Setmap) (p q : String) : F :=
  sm.foldl (fun acc e => if xor (e.1.contains p) (e.1.contains q) then fadd acc (fdivQ e.2 (unionCount sm p q)) else acc) fzero

/-- witness: with "addition" := keep the left operand unless it is the start value, two insertion orders differ -/
example :
    let fadd : Nat → Nat → Nat := fun a b => if a = 0 then b else a
    let fdivQ : Nat → Nat → Nat := fun c _ => c
    distancePinned fadd 0 fdivQ [(["A"], 1), (["B"], 2)] "A" "B" ≠ distancePinned fadd 0 fdivQ [(["B"], 2), (["A"], 1)] "A" "B" := by
  decide

end CbiVerif.Det
