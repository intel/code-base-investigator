/-! C12: alias-chain resolution terminates and returns the non-alias end of the chain, or reports loop / unknown. -/
namespace CbiVerif.Alias

structure Comp where
  aliasOf : Option String
  payload : Nat
deriving Repr, DecidableEq

abbrev Env := List (String × Comp)
def Env.get (e : Env) (n : String) : Option Comp := (e.find? (·.1 == n)).map (·.2)

inductive Out | found (c : Comp) | notRecognized | loop | unknownTarget (a : String)
deriving Repr, DecidableEq

/-- ArgumentParser.__init__ alias walk -/
def walk (e : Env) : Nat → List String → Comp → Out
  | 0, _, _ => .loop
  | fuel + 1, chain, cur =>
    match cur.aliasOf with
    | none => .found cur
    | some a =>
      if chain.contains a then .loop
      else match e.get a with
        | none => .unknownTarget a
        | some c => walk e fuel (chain ++ [a]) c

def resolve (e : Env) (name : String) : Out :=
  match e.get name with
  | none => .notRecognized
  | some c => walk e (e.length + 1) [name] c

/-- specification: follow `alias_of` links as a relation -/
inductive Reaches (e : Env) : String → Comp → Prop
  | here (n c) : e.get n = some c → c.aliasOf = none → Reaches e n c
  | step (n c a d) : e.get n = some c → c.aliasOf = some a → Reaches e a d → Reaches e n d

theorem walk_found (e : Env) (fuel : Nat) (chain : List String) (c d : Comp) (h : walk e fuel chain c = .found d) :
    d.aliasOf = none ∧ ∀ n, e.get n = some c → Reaches e n d := by
  fun_induction walk e fuel chain c with
  | case1 => cases h
  | case2 fuel chain c ha => cases h; exact ⟨ha, fun n hn => .here n _ hn ha⟩
  | case3 => cases h
  | case4 => cases h
  | case5 fuel chain c a ha hc c2 hg ih => exact ⟨(ih h).1, fun n hn => .step n c a d hn ha ((ih h).2 a hg)⟩

theorem walk_sound (e : Env) : ∀ fuel chain n c d, e.get n = some c → walk e fuel chain c = .found d → Reaches e n d :=
  fun fuel chain n c d hn h => (walk_found e fuel chain c d h).2 n hn

theorem resolve_sound (e : Env) (name : String) (d : Comp) (h : resolve e name = .found d) : Reaches e name d := by
  unfold resolve at h
  split at h
  · cases h
  · next c hn => exact walk_sound e _ _ name c d hn h

theorem found_not_alias (e : Env) : ∀ fuel chain c d, walk e fuel chain c = .found d → d.aliasOf = none :=
  fun fuel chain c d h => (walk_found e fuel chain c d h).1

/-! fuel adequacy: `.loop` from running out of fuel never happens, it is reported only for a genuine revisit
    (`AliasFuel.lean`) -/

/-- the walk, with a flag telling *why* `.loop` was returned -/
def walkWhy (e : Env) : Nat → List String → Comp → Out × Bool      -- Bool = ran out of fuel
  | 0, _, _ => (.loop, true)
  | fuel + 1, chain, cur =>
    match cur.aliasOf with
    | none => (.found cur, false)
    | some a =>
      if chain.contains a then (.loop, false)
      else match e.get a with
        | none => (.unknownTarget a, false)
        | some c => walkWhy e fuel (chain ++ [a]) c

theorem walkWhy_fst (e : Env) : ∀ fuel chain c, (walkWhy e fuel chain c).1 = walk e fuel chain c := by
  intro fuel chain c
  -- the two definitions branch alike
  fun_induction walk e fuel chain c <;> simp_all [walkWhy]

end CbiVerif.Alias
