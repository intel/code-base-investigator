import CbiVerif.Alias
import Batteries.Data.List.Perm
/-! the fuel `|table| + 1` of the alias walk is never what stops it: the chain is duplicate free and consists of
    known names, so it is no longer than the table -/
namespace CbiVerif.Alias

/-- invariant of the alias walk (`walkWhy` here, `Compilers.walk` in the model): the chain so far is duplicate free and made
    of names of the table -/
def ChainOk (keys chain : List String) : Prop := chain.Nodup ∧ ∀ x ∈ chain, x ∈ keys

/-- pigeonhole: such a chain is no longer than the table -/
theorem ChainOk.length_le {keys chain : List String} (h : ChainOk keys chain) : chain.length ≤ keys.length :=
  (List.subperm_of_subset h.1 h.2).length_le

theorem ChainOk.single {keys : List String} {a : String} (hk : a ∈ keys) : ChainOk keys [a] :=
  ⟨by simp, fun _ hx => List.mem_singleton.mp hx ▸ hk⟩

theorem ChainOk.snoc {keys chain : List String} {a : String} (h : ChainOk keys chain) (ha : a ∉ chain) (hk : a ∈ keys) :
    ChainOk keys (chain ++ [a]) := by
  refine ⟨List.nodup_append.mpr ⟨h.1, by simp, fun x hx y hy e => ha (by rw [← List.mem_singleton.mp hy, ← e]; exact hx)⟩, ?_⟩
  intro x hx
  rcases List.mem_append.mp hx with hx | hx
  · exact h.2 x hx
  · exact List.mem_singleton.mp hx ▸ hk

theorem get_mem_keys (e : Env) (a : String) (c : Comp) (h : e.get a = some c) : a ∈ e.map (·.1) := by
  obtain ⟨p, hf, _⟩ := Option.map_eq_some_iff.mp h
  exact List.mem_map.mpr ⟨p, List.mem_of_find?_eq_some hf, by simpa using List.find?_some hf⟩

theorem no_spurious_loop (e : Env) : ∀ fuel chain c,
    chain.Nodup → (∀ x ∈ chain, x ∈ e.map (·.1)) → e.length < fuel + chain.length →
    (walkWhy e fuel chain c).2 = false := by
  intro fuel chain c hnd hsub hlen
  fun_induction walkWhy e fuel chain c with
  | case1 =>
    have := ChainOk.length_le ⟨hnd, hsub⟩
    simp only [List.length_map] at this
    omega
  | case2 => rfl
  | case3 => rfl
  | case4 => rfl
  | case5 fuel chain c a ha hc c2 hg ih =>
    have hok := ChainOk.snoc ⟨hnd, hsub⟩ (by simpa using hc) (get_mem_keys e _ c2 hg)
    exact ih hok.1 hok.2 (by simp only [List.length_append, List.length_singleton]; omega)

theorem resolve_no_spurious_loop (e : Env) (name : String) (c : Comp) (h : e.get name = some c) :
    (walkWhy e (e.length + 1) [name] c).2 = false :=
  have hok := ChainOk.single (get_mem_keys e _ c h)
  no_spurious_loop e _ _ c hok.1 hok.2 (by simp only [List.length_singleton]; omega)

end CbiVerif.Alias
