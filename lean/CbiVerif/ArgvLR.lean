import CbiVerif.PP.Argv
/-! C11 with each argument abstracted to the model's *view* of it and to the property's *reading* of it (two
functions on `String`): the left-to-right consume loop, the property-level extractor, and `Tame → model = extract`
for every command line on which view and reading agree position by position.  The table-driven model over
`List Char` is `Model/Argparse.lean`; its theorem is `C11.main`. -/
namespace CbiVerif.Argv

structure Cfg where
  defines : List String := []
  includePaths : List String := []
  systemPaths : List String := []
  includeFiles : List String := []
deriving DecidableEq, Repr

/-- the four value flags of the property and the list each feeds -/
inductive VFlag | D | I | isystem | include deriving DecidableEq, Repr

def VFlag.str : VFlag → String | .D => "-D" | .I => "-I" | .isystem => "-isystem" | .include => "-include"
def Cfg.add (c : Cfg) : VFlag → String → Cfg
  | .D, v => { c with defines := c.defines ++ [v] }
  | .I, v => { c with includePaths := c.includePaths ++ [v] }
  | .isystem, v => { c with systemPaths := c.systemPaths ++ [v] }
  | .include, v => { c with includeFiles := c.includeFiles ++ [v] }

/-- what one argument means to the *model* after classification (abstract view of `classify` on the base table) -/
inductive View
  | positional                      -- pattern 'A'
  | unknown                         -- unknown optional → extras
  | ambiguous
  | valueSep (f : VFlag)            -- exact value flag, value is the next argument
  | valueAtt (f : VFlag) (v : String)   -- value attached (short form, or via '=')
  | ignoreReq                       -- bare -o : needs one argument
  | ignoreOpt                       -- bare -O / -g / -c : takes a following positional if there is one
  | ignoreAtt                       -- -O2, -ofile, -g3, -ccbin : explicit argument, ignored
  | ddash                           -- "--"
deriving DecidableEq, Repr

/-- left-to-right consumption (after the up-front ambiguity check) -/
def consumeLR (view : String → View) : List String → Bool → Cfg → Except PErr Cfg
  | [], _, c => .ok c
  | _ :: rest, true, c => consumeLR view rest true c
  | [a], false, c =>
    match view a with
    | .ddash | .positional | .unknown | .ignoreAtt | .ignoreOpt => .ok c
    | .ambiguous => .error .systemExit
    | .valueAtt f v => .ok (c.add f v)
    | .valueSep _ | .ignoreReq => .error (.argumentError "expected one argument")
  | a :: v :: rest', false, c =>
    match view a with
    | .ddash => consumeLR view (v :: rest') true c
    | .positional | .unknown | .ignoreAtt => consumeLR view (v :: rest') false c
    | .ambiguous => .error .systemExit
    | .valueAtt f w => consumeLR view (v :: rest') false (c.add f w)
    | .valueSep f =>
      if view v == .positional then consumeLR view rest' false (c.add f v) else .error (.argumentError "expected one argument")
    | .ignoreReq =>
      if view v == .positional then consumeLR view rest' false c else .error (.argumentError "expected one argument")
    | .ignoreOpt =>
      if view v == .positional then consumeLR view rest' false c else consumeLR view (v :: rest') false c

def parseLR (view : String → View) (args : List String) : Except PErr Cfg :=
  -- argparse classifies everything before "--" up front: an ambiguous argument exits at once
  let upfront := args.takeWhile (fun a => view a != .ddash)
  if upfront.any (fun a => view a == .ambiguous) then .error .systemExit
  else consumeLR view args false {}

/-- the property's reading of one argument: which value flag it is, and its attached value if any -/
inductive Spec1 | other | sep (f : VFlag) | att (f : VFlag) (v : String) deriving DecidableEq, Repr

/-- the property-level extractor: scan left to right; a value flag takes its attached remainder, else the next argument -/
def extract (spec : String → Spec1) : List String → Cfg → Cfg
  | [], c => c
  | [a], c => match spec a with | .att f v => c.add f v | _ => c
  | a :: v :: rest', c =>
    match spec a with
    | .other => extract spec (v :: rest') c
    | .att f w => extract spec (v :: rest') (c.add f w)
    | .sep f => extract spec rest' (c.add f v)

/-- a command line is tame when, position by position, the model's view and the property's reading coincide
    and none of the recorded finding classes occurs -/
def Tame (view : String → View) (spec : String → Spec1) : List String → Prop
  | [] => True
  | [a] =>
    match view a, spec a with
    | .valueAtt f v, .att g w => f = g ∧ v = w
    | .positional, .other | .unknown, .other | .ignoreAtt, .other | .ignoreOpt, .other => True
    | _, _ => False
  | a :: v :: rest' =>
    match view a, spec a with
    | .valueSep f, .sep g => f = g ∧ view v = .positional ∧ Tame view spec rest'
    | .valueAtt f x, .att g w => f = g ∧ x = w ∧ Tame view spec (v :: rest')
    | .positional, .other | .unknown, .other | .ignoreAtt, .other => Tame view spec (v :: rest')
    | .ignoreReq, .other => view v = .positional ∧ spec v = .other ∧ Tame view spec rest'
    | .ignoreOpt, .other =>
      (view v = .positional → spec v = .other ∧ Tame view spec rest') ∧ (view v ≠ .positional → Tame view spec (v :: rest'))
    | _, _ => False       -- "--", ambiguous prefixes, or any disagreement between view and reading

theorem extract_skip (spec : String → Spec1) (v : String) (rest : List String) (c : Cfg) (h : spec v = .other) :
    extract spec (v :: rest) c = extract spec rest c := by
  cases rest with
  | nil => simp [extract, h]
  | cons w r => simp [extract, h]

theorem consume_eq_extract (view : String → View) (spec : String → Spec1) (args : List String)
    (ht : Tame view spec args) (c : Cfg) : consumeLR view args false c = .ok (extract spec args c) := by
  -- by the recursion of `Tame`: no argument (1); one (2-7) or at least two (8-15), by what `view` and `spec`
  -- say of the first
  fun_induction Tame view spec args generalizing c with
  | case1 => rfl
  | case2 a f v g w hs hv => obtain ⟨rfl, rfl⟩ := ht; simp only [consumeLR, extract, hv, hs]
  | case3 a hs hv | case4 a hs hv | case5 a hs hv | case6 a hs hv => simp only [consumeLR, extract, hv, hs]
  | case7 => exact ht.elim
  | case8 a v rest' f g hs hv ih =>
    obtain ⟨rfl, hp, ht⟩ := ht
    simp only [consumeLR, extract, hv, hs, hp, beq_self_eq_true, if_true]; exact ih ht _
  | case9 a v rest' f x g w hs hv ih =>
    obtain ⟨rfl, rfl, ht⟩ := ht
    simp only [consumeLR, extract, hv, hs]; exact ih ht _
  | case10 a v rest' hs hv ih | case11 a v rest' hs hv ih | case12 a v rest' hs hv ih =>
    simp only [consumeLR, extract, hv, hs]; exact ih ht _
  | case13 a v rest' hs hv ih =>
    obtain ⟨hp, hso, ht⟩ := ht
    simp only [consumeLR, extract, hv, hs, hp, beq_self_eq_true, if_true]
    rw [ih ht, extract_skip spec v rest' c hso]
  | case14 a v rest' hs hv ih1 ih2 =>
    simp only [consumeLR, extract, hv, hs]
    by_cases hp : view v = .positional
    · obtain ⟨hso, ht'⟩ := ht.1 hp
      simp only [hp, beq_self_eq_true, if_true]
      rw [ih1 ht', extract_skip spec v rest' c hso]
    · have : (view v == View.positional) = false := by simpa using hp
      simp only [this, Bool.false_eq_true, if_false]
      exact ih2 (ht.2 hp) _
  | case15 => exact ht.elim

/-- **C11.main** in the abstract form: on a tame command line the argparse model returns exactly what the
property-level extractor returns (same values, same order, nothing else), and does not fail. -/
theorem parseLR_eq_extract (view : String → View) (spec : String → Spec1) (args : List String)
    (hamb : ∀ a ∈ args, view a ≠ .ambiguous) (ht : Tame view spec args) :
    parseLR view args = .ok (extract spec args {}) := by
  unfold parseLR
  have : (args.takeWhile (fun a => view a != .ddash)).any (fun a => view a == .ambiguous) = false := by
    rw [List.any_eq_false]
    intro a ha
    have := hamb a (List.takeWhile_subset _ ha)
    simpa using this
  simp only [this, Bool.false_eq_true, if_false]
  exact consume_eq_extract view spec args ht {}

end CbiVerif.Argv
#print axioms CbiVerif.Argv.parseLR_eq_extract
