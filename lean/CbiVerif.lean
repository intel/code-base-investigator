import CbiVerif.Alias
import CbiVerif.AliasFuel
import CbiVerif.ArgvLR
import CbiVerif.CLex2
import CbiVerif.Climb2
import CbiVerif.Climb2Proof
import CbiVerif.Determinism
import CbiVerif.Drv.Argv
import CbiVerif.Drv.ArgvFull
import CbiVerif.Drv.C01
import CbiVerif.Drv.C03
import CbiVerif.Drv.C03Frag
import CbiVerif.Drv.C03StrConf
import CbiVerif.Drv.C06
import CbiVerif.Drv.C06Compose
import CbiVerif.Drv.C08
import CbiVerif.Drv.C14Compose
import CbiVerif.Drv.C14Metrics
import CbiVerif.Drv.CLex
import CbiVerif.Drv.CodeBase
import CbiVerif.Drv.Compilers
import CbiVerif.Drv.CondFrag
import CbiVerif.Drv.DbPath
import CbiVerif.Drv.Dups
import CbiVerif.Drv.Engines
import CbiVerif.Drv.EnginesF
import CbiVerif.Drv.Eval
import CbiVerif.Drv.EvalLayout
import CbiVerif.Drv.Exclude
import CbiVerif.Drv.Fortran
import CbiVerif.Drv.GitIgnore
import CbiVerif.Drv.Include
import CbiVerif.Drv.Metrics
import CbiVerif.Drv.Order
import CbiVerif.Drv.PP
import CbiVerif.Drv.Reach
import CbiVerif.Drv.Regex
import CbiVerif.Drv.RegexSpec
import CbiVerif.Drv.WarnMsg
import CbiVerif.FLex
import CbiVerif.FileTree
import CbiVerif.Generated.ArgTable
import CbiVerif.Generated.CCleanTable
import CbiVerif.Generated.Compilers
import CbiVerif.Generated.DbSchema
import CbiVerif.Generated.FCleanTable
import CbiVerif.Generated.FLoopTable
import CbiVerif.Generated.Logging
import CbiVerif.Generated.Tables
import CbiVerif.Generated.WarnMsg
import CbiVerif.Lemmas.AnalyseClosed
import CbiVerif.Lemmas.Argv
import CbiVerif.Lemmas.ArgvExtras
import CbiVerif.Lemmas.ArgvPositional
import CbiVerif.Lemmas.ArgvSweep
import CbiVerif.Lemmas.AssocSet
import CbiVerif.Lemmas.C06
import CbiVerif.Lemmas.C06Compose
import CbiVerif.Lemmas.C06ComposeText
import CbiVerif.Lemmas.C06Fortran
import CbiVerif.Lemmas.C14Compose
import CbiVerif.Lemmas.C14Metrics
import CbiVerif.Lemmas.C14MetricsRat
import CbiVerif.Lemmas.CCleanRegen
import CbiVerif.Lemmas.CLexBuf
import CbiVerif.Lemmas.CLexOut
import CbiVerif.Lemmas.CLexPart
import CbiVerif.Lemmas.CLexSim
import CbiVerif.Lemmas.CLexSpec
import CbiVerif.Lemmas.CLexText
import CbiVerif.Lemmas.ClassPartition
import CbiVerif.Lemmas.ClimbProof
import CbiVerif.Lemmas.CodeBase
import CbiVerif.Lemmas.Compilers
import CbiVerif.Lemmas.CompilersRe
import CbiVerif.Lemmas.CondDefined
import CbiVerif.Lemmas.DbPath
import CbiVerif.Lemmas.Dups
import CbiVerif.Lemmas.Engine
import CbiVerif.Lemmas.EnginesAgreeBase
import CbiVerif.Lemmas.EnginesAgreeForced
import CbiVerif.Lemmas.EnginesAgreeSim
import CbiVerif.Lemmas.EvalArith
import CbiVerif.Lemmas.EvalChar
import CbiVerif.Lemmas.EvalFlags
import CbiVerif.Lemmas.EvalLit
import CbiVerif.Lemmas.EvalMain
import CbiVerif.Lemmas.Exclude
import CbiVerif.Lemmas.ExpandPP
import CbiVerif.Lemmas.Extract
import CbiVerif.Lemmas.FCPass
import CbiVerif.Lemmas.FCleanLift
import CbiVerif.Lemmas.FCleanRegen
import CbiVerif.Lemmas.FCleanSim
import CbiVerif.Lemmas.FCleanTable
import CbiVerif.Lemmas.FCondChars
import CbiVerif.Lemmas.FGroups
import CbiVerif.Lemmas.FLineKinds
import CbiVerif.Lemmas.FLoopRegen
import CbiVerif.Lemmas.FLoopRun
import CbiVerif.Lemmas.FRun
import CbiVerif.Lemmas.FS
import CbiVerif.Lemmas.FSourceLemmas
import CbiVerif.Lemmas.FileTree
import CbiVerif.Lemmas.FindCache
import CbiVerif.Lemmas.FindCacheMono
import CbiVerif.Lemmas.FindChars
import CbiVerif.Lemmas.FindEngines
import CbiVerif.Lemmas.FindFold
import CbiVerif.Lemmas.FindInc
import CbiVerif.Lemmas.FindIncDir
import CbiVerif.Lemmas.FindIncErase
import CbiVerif.Lemmas.FindInst
import CbiVerif.Lemmas.FindReach
import CbiVerif.Lemmas.Forall2Facts
import CbiVerif.Lemmas.GitIgnore
import CbiVerif.Lemmas.IncludeMemo
import CbiVerif.Lemmas.LexChars
import CbiVerif.Lemmas.LexLayout
import CbiVerif.Lemmas.LexLiteral
import CbiVerif.Lemmas.LexRoundtrip
import CbiVerif.Lemmas.LexSource
import CbiVerif.Lemmas.ListFacts
import CbiVerif.Lemmas.MacroBackstop
import CbiVerif.Lemmas.MacroDefine
import CbiVerif.Lemmas.MacroDefined
import CbiVerif.Lemmas.MacroDefinedList
import CbiVerif.Lemmas.MacroFunHead
import CbiVerif.Lemmas.MacroFunRef
import CbiVerif.Lemmas.MacroFunSim
import CbiVerif.Lemmas.MacroFunSimple
import CbiVerif.Lemmas.MacroFunSpecA
import CbiVerif.Lemmas.MacroFunSpecB
import CbiVerif.Lemmas.MacroFunSpecC
import CbiVerif.Lemmas.MacroFunStep
import CbiVerif.Lemmas.MacroMachine
import CbiVerif.Lemmas.MacroObj
import CbiVerif.Lemmas.MacroObjSpec
import CbiVerif.Lemmas.MacroObjTop
import CbiVerif.Lemmas.MacroPlainCheck
import CbiVerif.Lemmas.MacroSpecTok
import CbiVerif.Lemmas.MacroStrCongr
import CbiVerif.Lemmas.MacroStrRef
import CbiVerif.Lemmas.MacroStrSim
import CbiVerif.Lemmas.MacroStrSpec
import CbiVerif.Lemmas.Metrics
import CbiVerif.Lemmas.MultiFile
import CbiVerif.Lemmas.Order
import CbiVerif.Lemmas.OrderDups
import CbiVerif.Lemmas.OrderSort
import CbiVerif.Lemmas.Regex
import CbiVerif.Lemmas.RegexParse
import CbiVerif.Lemmas.RegexScan
import CbiVerif.Lemmas.RegexShapes
import CbiVerif.Lemmas.Setmap
import CbiVerif.Lemmas.Shlex
import CbiVerif.Lemmas.SourceChars
import CbiVerif.Lemmas.SpecLexChars
import CbiVerif.Lemmas.TreeBuild
import CbiVerif.Lemmas.TreeDefine
import CbiVerif.Lemmas.TreeExec
import CbiVerif.Lemmas.TreeParse
import CbiVerif.Lemmas.TreeSim
import CbiVerif.Lemmas.WalkRoots
import CbiVerif.Lemmas.Warn
import CbiVerif.Lemmas.WarnMsg
import CbiVerif.Lemmas.WarnMsgAgree
import CbiVerif.Lemmas.WarnMsgInj
import CbiVerif.Lemmas.Wsum
import CbiVerif.Memo
import CbiVerif.Model.Argparse
import CbiVerif.Model.ArgparseFull
import CbiVerif.Model.Assoc
import CbiVerif.Model.C06Compose
import CbiVerif.Model.C06Fortran
import CbiVerif.Model.C14Compose
import CbiVerif.Model.C14Metrics
import CbiVerif.Model.CClean
import CbiVerif.Model.CCleanCells
import CbiVerif.Model.CText
import CbiVerif.Model.Climb
import CbiVerif.Model.CodeBase
import CbiVerif.Model.Compilers
import CbiVerif.Model.CompilersRe
import CbiVerif.Model.CondFragment
import CbiVerif.Model.Coverage
import CbiVerif.Model.DbPath
import CbiVerif.Model.Dups
import CbiVerif.Model.EnginesAgree
import CbiVerif.Model.EnginesAgreeF
import CbiVerif.Model.Eval
import CbiVerif.Model.EvalBridge
import CbiVerif.Model.EvalPP
import CbiVerif.Model.EvalText
import CbiVerif.Model.Exclude
import CbiVerif.Model.ExpandPP
import CbiVerif.Model.FChar
import CbiVerif.Model.FClean
import CbiVerif.Model.FCleanCells
import CbiVerif.Model.FCond
import CbiVerif.Model.FLoopCells
import CbiVerif.Model.FS
import CbiVerif.Model.FSource
import CbiVerif.Model.FileTree
import CbiVerif.Model.FindCache
import CbiVerif.Model.FindFold
import CbiVerif.Model.FindInc
import CbiVerif.Model.FindInst
import CbiVerif.Model.GitIgnoreCB
import CbiVerif.Model.IncludeMemo
import CbiVerif.Model.LexLayout
import CbiVerif.Model.MacroExpand
import CbiVerif.Model.Metrics
import CbiVerif.Model.MultiFile
import CbiVerif.Model.Order
import CbiVerif.Model.Path
import CbiVerif.Model.ReachInc
import CbiVerif.Model.Regex
import CbiVerif.Model.Setmap
import CbiVerif.Model.Shlex
import CbiVerif.Model.Summary
import CbiVerif.Model.Tree
import CbiVerif.Model.Warn
import CbiVerif.Model.WarnMsg
import CbiVerif.Model.WarnMsgDir
import CbiVerif.Model.WarnTmpl
import CbiVerif.Model.WellNested
import CbiVerif.ObjExpand
import CbiVerif.ObjProof
import CbiVerif.PP.Analyse
import CbiVerif.PP.Argv
import CbiVerif.PP.CSource
import CbiVerif.PP.CharConst
import CbiVerif.PP.Config
import CbiVerif.PP.Define
import CbiVerif.PP.Eval
import CbiVerif.PP.Expand
import CbiVerif.PP.ExpandOld
import CbiVerif.PP.FSource
import CbiVerif.PP.Find
import CbiVerif.PP.Lexer
import CbiVerif.PP.Macro
import CbiVerif.Props.C01
import CbiVerif.Props.C01Main
import CbiVerif.Props.C02
import CbiVerif.Props.C02Defined
import CbiVerif.Props.C02Text
import CbiVerif.Props.C02TextCond
import CbiVerif.Props.C03
import CbiVerif.Props.C03FunConf
import CbiVerif.Props.C03FunLike
import CbiVerif.Props.C03StrConf
import CbiVerif.Props.C03Strcat
import CbiVerif.Props.C03Stringify
import CbiVerif.Props.C04
import CbiVerif.Props.C04Engines
import CbiVerif.Props.C04EnginesForced
import CbiVerif.Props.C05
import CbiVerif.Props.C05Table
import CbiVerif.Props.C06
import CbiVerif.Props.C06Base
import CbiVerif.Props.C06Compose
import CbiVerif.Props.C06Fortran
import CbiVerif.Props.C06FortranGroups
import CbiVerif.Props.C07
import CbiVerif.Props.C08
import CbiVerif.Props.C08Engines
import CbiVerif.Props.C09
import CbiVerif.Props.C09GitIgnore
import CbiVerif.Props.C09Roots
import CbiVerif.Props.C10
import CbiVerif.Props.C11
import CbiVerif.Props.C11Extras
import CbiVerif.Props.C11Full
import CbiVerif.Props.C11Undef
import CbiVerif.Props.C12
import CbiVerif.Props.C12Builtin
import CbiVerif.Props.C12Regex
import CbiVerif.Props.C12RegexComplete
import CbiVerif.Props.C13
import CbiVerif.Props.C13Closure
import CbiVerif.Props.C14
import CbiVerif.Props.C14Compose
import CbiVerif.Props.C14Metrics
import CbiVerif.Props.C14MetricsRat
import CbiVerif.Props.C15
import CbiVerif.Props.C16
import CbiVerif.Props.C17
import CbiVerif.Props.C17Loop
import CbiVerif.Props.C17Nodes
import CbiVerif.Props.C17Table
import CbiVerif.Props.C18
import CbiVerif.Props.C18Msg
import CbiVerif.Spec.C06
import CbiVerif.Spec.CExpr
import CbiVerif.Spec.CLexRef
import CbiVerif.Spec.CPreproc
import CbiVerif.Spec.Compilers
import CbiVerif.Spec.DbResolve
import CbiVerif.Spec.Dups
import CbiVerif.Spec.Extract
import CbiVerif.Spec.FortranNodes
import CbiVerif.Spec.FortranRef
import CbiVerif.Spec.GitIgnore
import CbiVerif.Spec.IncludeSearch
import CbiVerif.Spec.IncludeSem
import CbiVerif.Spec.Prosser
import CbiVerif.Spec.Regex
import CbiVerif.Spec.RegexPrio
import CbiVerif.Spec.RegexShapes
import CbiVerif.Spec.ShellQuote
import CbiVerif.Spec.Unrecognised
